/-
  C19 — the non-separable filter banks equal the separable ones in PERIODIZATION mode, every image size (odd sizes and
  images smaller than the filters included) and every filter lengths ≥ 2.  One channel.

  Analysis.  `afb2d_nonsep` extends odd axes by their last row / column, rolls both axes, zero-pads both axes at once, runs
  one strided 2-D correlation per sub-band and then folds the wrap-around rows and columns and crops; `AFB2D.forward`
  (= `afb2d`) does extension, roll, padding, correlation, fold and crop along the rows and then again along the columns.
  Every stage is a gather-linear operator along one axis (`Lemmas/GLAlg`), operators along different axes commute
  (`C03P.alongH_alongW_comm`), the image prepared on both axes at once is the 1-D preparation per axis (`xpPer_sep`), and
  the 2-D correlation with the outer-product kernel on it is the row correlation followed by the column correlation
  (`GLA.corr2_outer_prep`) — so both are `alongH (Pp wc) (alongW (Pp wr) x)`.  No condition relates the image size to the
  filter lengths: the roll is Python's `roll` helper with whatever shift, on both sides.
-/
import WaveletsVerif.Properties.C19N
namespace WV.C19P
open Finset WV WV.C04 WV.C04Q WV.C03P WV.GLA WV.C19N
variable {R : Type} [CommRing R]

/-- the extended, rolled, zero-padded image `afb2d_nonsep` correlates with in periodization mode, as the model builds it -/
def xpPer (Ly Lx : Nat) (x : Img R) : Img R :=
  let x1 : Img R := if x.length % 2 = 1 then x ++ sliceFrom x (-1) else x
  let x2 : Img R := if x1.width % 2 = 1 then x1.map (fun r => r ++ sliceFrom r (-1)) else x1
  let Nx := x2.width
  let x3 := rollPy x2 (-((Ly/2 : Nat) : Int))
  let x4 := x3.map fun r => rollPy r (-((Lx/2 : Nat) : Int))
  (izero (Ly-1) (Nx + 2*(Lx-1))) ++ (x4.map fun r => zeroPad r (Lx-1) (Lx-1)) ++ (izero (Ly-1) (Nx + 2*(Lx-1)))

theorem getD_mem_or {α : Type} (l : List α) (i : Nat) (d : α) (hi : i < l.length) : l.getD i d ∈ l := by
  exact getD_mem l i d hi

/-- both axes extended to even length (the model's `x2`) -/
def x2Per (x : Img R) : Img R :=
  let x1 : Img R := if x.length % 2 = 1 then x ++ sliceFrom x (-1) else x
  if x1.width % 2 = 1 then x1.map (fun r => r ++ sliceFrom r (-1)) else x1

theorem x2Per_eq (x : Img R) (H W : Nat) (hx : Rect x H W) (hH : 1 ≤ H) (hW : 1 ≤ W) :
    x2Per x = alongW ext1 (alongH ext1 x) := by
  have r1 : Rect (alongH ext1 x) (H + H % 2) W := GL_alongH_rect (GL_ext1 H hH) x W hx hH hW
  have h1 : (if x.length % 2 = 1 then x ++ sliceFrom x (-1) else x) = alongH ext1 x := extRows_eq x H W hx hH hW
  unfold x2Per
  simp only [h1]
  rw [rect_width _ _ _ r1 (by omega)]
  unfold alongW
  split
  · next h => exact List.map_congr_left (fun r hr => by unfold ext1; rw [r1.2 r hr, if_pos h])
  · next h =>
    refine (List.map_id _).symm.trans (List.map_congr_left fun r hr => ?_)
    unfold ext1
    rw [r1.2 r hr, if_neg h]
    rfl

/-- the padded image of the non-separable bank = the 1-D preparation along the rows, then along the columns: each step
of the model (extension, roll, zero padding, first of the rows and then inside the rows) is one 1-D stage along one
axis, and stages along different axes commute -/
theorem xpPer_sep (Ly Lx : Nat) (x : Img R) (H W : Nat) (hx : Rect x H W) (hH : 1 ≤ H) (hW : 1 ≤ W) :
    xpPer Ly Lx x = alongH (pre (-((Ly/2 : Nat) : Int)) (Ly-1) (Ly-1)) (alongW (pre (-((Lx/2 : Nat) : Int)) (Lx-1) (Lx-1)) x) := by
  have pH : 1 ≤ H + H % 2 := Nat.le_add_right_of_le hH
  have pW : 1 ≤ W + W % 2 := Nat.le_add_right_of_le hW
  have pZ : 1 ≤ Lx - 1 + (W + W % 2) + (Lx - 1) := Nat.le_add_right_of_le (Nat.le_add_left_of_le pW)
  have geH := GL_ext1 (R := R) H hH
  have geW := GL_ext1 (R := R) W hW
  have grH := GL_rollPy (R := R) (-((Ly/2 : Nat) : Int)) (H + H % 2) pH
  have grW := GL_rollPy (R := R) (-((Lx/2 : Nat) : Int)) (W + W % 2) pW
  have gzH := GL_zeroPad (R := R) (Ly-1) (Ly-1) (H + H % 2) pH
  have gzW := GL_zeroPad (R := R) (Lx-1) (Lx-1) (W + W % 2) pW
  have gW := GL.comp (GL.comp gzW grW) geW
  have r1 := GL_alongH_rect geH x W hx hH hW
  have r2 := GL_alongW_rect geW _ _ r1
  have r3 := GL_alongH_rect grH _ _ r2 pH pW
  have r5 := GL_alongW_rect gzW _ _ (GL_alongW_rect grW _ _ r3)
  have hxp : xpPer Ly Lx x = (let x2 := x2Per x
      (izero (Ly-1) (x2.width + 2*(Lx-1))) ++ ((rollPy x2 (-((Ly/2 : Nat) : Int))).map fun r => rollPy r (-((Lx/2 : Nat) : Int))).map (fun r => zeroPad r (Lx-1) (Lx-1))
        ++ (izero (Ly-1) (x2.width + 2*(Lx-1)))) := rfl
  have eW : W + W % 2 + 2 * (Lx - 1) = (Lx - 1) + (W + W % 2) + (Lx - 1) := by
    rw [Nat.two_mul, Nat.add_comm (Lx - 1) (W + W % 2), Nat.add_assoc (W + W % 2)]
  rw [hxp]
  simp only [x2Per_eq x H W hx hH hW]
  rw [rect_width _ _ _ r2 pH, eW, rollRows_eq _ _ _ r2 pH pW]
  show izero _ _ ++ alongW (fun r => zeroPad r (Lx-1) (Lx-1)) (alongW (fun r => rollPy r (-((Lx/2 : Nat) : Int))) _) ++ izero _ _ = _
  rw [vpad_eq (Ly-1) (Ly-1) _ _ _ r5 pH pZ, alongW_comp,
    alongH_alongW_comm _ _ (H + H % 2) _ W _ grH geW _ r1 pH hW pH pW, alongW_comp,
    alongH_comp _ _ x H _ _ W hx hH hW pH (fun c hc => GL.length geH c hc) (fun c hc => GL.length grH c hc),
    ← alongH_alongW_comm _ _ H _ W _ (GL.comp grH geH) gW x hx hH hW pH pZ,
    alongH_comp _ _ _ H _ _ _ (GL_alongW_rect gW x H hx) hH pZ pH (fun c hc => GL.length (GL.comp grH geH) c hc)
      (fun c hc => GL.length gzH c hc)]
  rfl

/-- the row fold `y[:a] = y[:a] + y[b:b+a]` on a list of rows is the 1-D fold along the columns -/
theorem foldRows_eq (y : Img R) (Mh Mw : Nat) (hy : Rect y Mh Mw) (hMh : 1 ≤ Mh) (hMw : 1 ≤ Mw) (a b : Nat) :
    (tab y.length fun k => if k < a then vadd (y.getD k []) (y.getD (b + k) []) else y.getD k [])
      = alongH (fun c => foldAdd c a b) y := by
  rw [alongH_tab2 _ y Mh Mh Mw hy hMh hMw (fun c hc => by simp [foldAdd, hc])]
  rw [hy.1]
  unfold tab2
  apply tab_ext rfl; intro k hk
  have hrow : (y.getD k []).length = Mw := row_length y Mh Mw hy k hk
  have hcolv : ∀ (i j : Nat), getN (col y j) i = get2 y i j := by
    intro i j
    unfold col
    rw [getN_tab, hy.1]
    split
    · rfl
    · exact (get2_row_oob y i j (by rw [hy.1]; omega)).symm
  have hcl : ∀ j : Nat, (col y j).length = Mh := fun j => (col_length y j).trans hy.1
  by_cases h : k < a
  · rw [if_pos h]
    unfold vadd
    rw [hrow]
    apply tab_ext rfl; intro j hj
    show _ = getN (foldAdd (col y j) a b) k
    unfold foldAdd
    rw [getN_tab, hcl, if_pos hk, if_pos h, hcolv, hcolv]
    rfl
  · rw [if_neg h]
    refine (list_eq_tab_getD _ Mw 0 hrow).trans ?_
    apply tab_ext rfl; intro j hj
    show _ = getN (foldAdd (col y j) a b) k
    unfold foldAdd
    rw [getN_tab, hcl, if_pos hk, if_neg h, hcolv]
    rfl

/-- crop ∘ wrap-around fold ∘ strided correlation along one axis -/
def TF (w : List R) (N2 : Nat) (c : List R) : List R := (foldAdd (corr w c 2 1) (w.length/2) N2).take N2

/-- the model's 1-D periodization analysis with buffer `w` (total on non-empty signals) -/
def Pp (w c : List R) : List R :=
  TF w ((c.length + c.length % 2) / 2) (pre (-((w.length/2 : Nat) : Int)) (w.length-1) (w.length-1) c)

theorem afb1dOne_per (w x : List R) (hL : 2 ≤ w.length) (hN : 1 ≤ x.length) :
    afb1dOne .periodization w x = some (Pp w x) := by
  have hg : ¬ (w.length < 2 ∨ x.length < 1) := by omega
  have hx1 : (if x.length % 2 = 1 then x ++ sliceFrom x (-1) else x) = ext1 x := rfl
  simp only [afb1dOne, hg, if_false, hx1, ext1_length x hN]
  rfl

theorem corrLen_ge (N L : Nat) (hN : 1 ≤ N) :
    (N + N % 2) / 2 ≤ corrLen ((L-1) + (N + N % 2) + (L-1)) L 2 1 ∧ 1 ≤ (N + N % 2) / 2 := by
  unfold corrLen
  split <;> omega

/-- what `afb2d_nonsep` does to the strided 2-D correlation `y`: fold the wrap-around rows, then columns, crop -/
def postP (Ly Lx Ny Nx : Nat) (y : Img R) : Img R :=
  (((tab y.length fun k => if k < Ly/2 then vadd (y.getD k []) (y.getD (Ny/2 + k) []) else y.getD k []).map
      fun r => foldAdd r (Lx/2) (Nx/2)).take (Ny/2)).map fun r => r.take (Nx/2)

/-- wrap-around fold of the rows, then of the columns, and crop to `n1 × n2`: the tail of both non-separable periodization
banks (`postP`, and `postQ` before its rolls) -/
def foldCropImg (a1 n1 a2 n2 : Nat) (y : Img R) : Img R :=
  (((tab y.length fun k => if k < a1 then vadd (y.getD k []) (y.getD (n1 + k) []) else y.getD k []).map
      fun r => foldAdd r a2 n2).take n1).map fun r => r.take n2

/-- the row operations of `foldCropImg` are the 1-D fold and crop along the columns, and commute past the column fold -/
theorem foldCropImg_eq (a1 n1 a2 n2 : Nat) (y : Img R) (Mh Mw : Nat) (ry : Rect y Mh Mw) (hMh : 1 ≤ Mh) (hMw : 1 ≤ Mw)
    (h1 : n1 ≤ Mh) (hn1 : 1 ≤ n1) :
    foldCropImg a1 n1 a2 n2 y = alongW (fun c => (foldAdd c a2 n2).take n2) (alongH (fun c => (foldAdd c a1 n1).take n1) y) := by
  have gfH := GL_foldAdd (R := R) a1 n1 Mh
  have gfW := GL_foldAdd (R := R) a2 n2 Mw
  have gtH := GL_take (R := R) n1 Mh h1 hMh
  have r1 := GL_alongH_rect gfH _ _ ry hMh hMw
  have r2 := GL_alongW_rect gfW _ _ r1
  have e1 : foldCropImg a1 n1 a2 n2 y
      = alongW (fun c => c.take n2) (alongH (fun c => c.take n1)
          (alongW (fun c => foldAdd c a2 n2) (alongH (fun c => foldAdd c a1 n1) y))) := by
    unfold foldCropImg
    rw [foldRows_eq _ _ _ ry hMh hMw]
    show ((alongW _ _).take _).map _ = _
    rw [takeRows_eq _ _ _ r2 hMh hMw _ h1]
    rfl
  rw [e1, alongH_alongW_comm _ _ _ _ _ _ gtH gfW _ r1 hMh hMw hn1 hMw, alongW_comp,
    alongH_comp _ _ _ _ _ _ _ ry hMh hMw hMh (fun c hc => GL.length gfH c hc) (fun c hc => GL.length gtH c hc)]

theorem afb2dNonsep_per_val (hc0 hc1 hr0 hr1 : List R) (hLy : 2 ≤ hc0.length) (hLx : 2 ≤ hr0.length)
    (hc : hc1.length = hc0.length) (hr : hr1.length = hr0.length) (x : Img R) (H W : Nat) (hx : Rect x H W) (hH : 1 ≤ H) (hW : 1 ≤ W) :
    afb2dNonsepCh .periodization hc0 hc1 hr0 hr1 x
      = some ([outerRev hc0 hr0, outerRev hc1 hr0, outerRev hc0 hr1, outerRev hc1 hr1].map fun f =>
          postP hc0.length hr0.length (H + H % 2) (W + W % 2) (corr2 f (xpPer hc0.length hr0.length x) 2 2)) := by
  have hw : x.width = W := rect_width x H W hx hH
  have hguard : ¬ (hc0.length < 2 ∨ hr0.length < 2 ∨ hc1.length ≠ hc0.length ∨ hr1.length ≠ hr0.length ∨ x.length < 1 ∨ x.width < 1) := by
    rw [hx.1, hw]; omega
  have r2 := GL_alongW_rect (GL_ext1 (R := R) W hW) _ _ (GL_alongH_rect (GL_ext1 H hH) x W hx hH hW)
  have hl2 : (x2Per x).length = H + H % 2 := by rw [x2Per_eq x H W hx hH hW]; exact r2.1
  have hw2 : Img.width (x2Per x) = W + W % 2 := by rw [x2Per_eq x H W hx hH hW]; exact rect_width _ _ _ r2 (by omega)
  have key : afb2dNonsepCh .periodization hc0 hc1 hr0 hr1 x
      = ([outerRev hc0 hr0, outerRev hc1 hr0, outerRev hc0 hr1, outerRev hc1 hr1].mapM fun f =>
          (some (postP hc0.length hr0.length (x2Per x).length (Img.width (x2Per x)) (corr2 f (xpPer hc0.length hr0.length x) 2 2)) : Option (Img R))) := by
    simp only [afb2dNonsepCh, hguard, if_false]
    rfl
  rw [key, hl2, hw2]
  simp [List.mapM_cons, List.mapM_nil]

/-- one sub-band: fold and crop of the strided 2-D correlation with `outerRev hc hr` on the prepared image is the
separable periodization analysis, rows with `hr.reverse` and then columns with `hc.reverse` -/
theorem band_eq_per (hc hr : List R) (Ly Lx : Nat) (hcl : hc.length = Ly) (hrl : hr.length = Lx) (hLy : 2 ≤ Ly) (hLx : 2 ≤ Lx)
    (x : Img R) (H W : Nat) (hx : Rect x H W) (hH : 1 ≤ H) (hW : 1 ≤ W) :
    postP Ly Lx (H + H % 2) (W + W % 2) (corr2 (outerRev hc hr) (xpPer Ly Lx x) 2 2)
      = alongH (Pp hc.reverse) (alongW (Pp hr.reverse) x) := by
  have hcr : hc.reverse.length = Ly := by rw [List.length_reverse, hcl]
  have hrr : hr.reverse.length = Lx := by rw [List.length_reverse, hrl]
  obtain ⟨hy1, hy2⟩ := corrLen_ge H Ly hH
  obtain ⟨hx1, hx2⟩ := corrLen_ge W Lx hW
  have hMH : 1 ≤ corrLen ((Ly-1) + (H + H % 2) + (Ly-1)) Ly 2 1 := le_trans hy2 hy1
  have hMW : 1 ≤ corrLen ((Lx-1) + (W + W % 2) + (Lx-1)) Lx 2 1 := le_trans hx2 hx1
  -- along each axis: preparation, correlation, then fold and crop
  have gpH := GL_pre (R := R) (-((Ly/2 : Nat) : Int)) (Ly-1) (Ly-1) H hH
  have gpW := GL_pre (R := R) (-((Lx/2 : Nat) : Int)) (Lx-1) (Lx-1) W hW
  have gcH := GL_corr2 hc.reverse ((Ly-1) + (H + H % 2) + (Ly-1))
  have gcW := GL_corr2 hr.reverse ((Lx-1) + (W + W % 2) + (Lx-1))
  rw [hcr] at gcH
  rw [hrr] at gcW
  have gCH := GL.comp gcH gpH
  have gCW := GL.comp gcW gpW
  have gTH := GL.comp (GL_take (R := R) ((H + H % 2) / 2) _ hy1 hMH) (GL_foldAdd (Ly/2) ((H + H % 2) / 2) _)
  have gTW := GL.comp (GL_take (R := R) ((W + W % 2) / 2) _ hx1 hMW) (GL_foldAdd (Lx/2) ((W + W % 2) / 2) _)
  have gA := GL.comp gTH gCH
  have gB := GL.comp gTW gCW
  have rB := GL_alongW_rect gCW x H hx
  rw [xpPer_sep Ly Lx x H W hx hH hW, C19.outerRev_eq,
    corr2_outer_prep hc.reverse hr.reverse _ _ H W _ _ gpH gpW x hx hH
      (Nat.le_add_right_of_le (Nat.le_add_left_of_le (Nat.le_add_right_of_le hH)))
      (Nat.le_add_right_of_le (Nat.le_add_left_of_le (Nat.le_add_right_of_le hW)))
      (by rw [hcr]; exact Nat.le_of_succ_le hLy) (by rw [hrr]; exact hMW),
    show postP Ly Lx (H + H % 2) (W + W % 2) _ = _ from
      foldCropImg_eq (Ly/2) ((H + H % 2) / 2) (Lx/2) ((W + W % 2) / 2) _ _ _ (GL_alongH_rect gCH _ _ rB hH hMW) hMH hMW hy1 hy2,
    alongH_comp _ _ _ H _ _ _ rB hH hMW hMH (fun c hc' => GL.length gCH c hc') (fun c hc' => GL.length gTH c hc'),
    alongH_alongW_comm _ _ H _ W _ gA gCW x hx hH hW hy2 hMW, alongW_comp,
    ← alongH_alongW_comm _ _ H _ W _ gA gB x hx hH hW hy2 hx2,
    alongH_congr _ (Pp hc.reverse) _ (fun c hc' => by unfold Pp TF; rw [hc', (GL_alongW_rect gB x H hx).1, hcr])]
  exact congrArg _ (alongW_congr _ (Pp hr.reverse) x H W hx (fun c hc' => by unfold Pp TF; rw [hc', hrr]))

/-- `afb2d_nonsep` = `afb2d` in periodization mode: the four sub-bands (ll, lh, hl, hh) of the non-separable model are
the separable periodization analysis along the rows and then along the columns, for EVERY image size (odd sizes, images
smaller than the filters) and every filter lengths ≥ 2 (odd lengths included) -/
theorem afb2d_nonsep_per_eq_sep (hc0 hc1 hr0 hr1 : List R) (hLy : 2 ≤ hc0.length) (hLx : 2 ≤ hr0.length)
    (hc : hc1.length = hc0.length) (hr : hr1.length = hr0.length) (x : Img R) (H W : Nat) (hx : Rect x H W) (hH : 1 ≤ H) (hW : 1 ≤ W) :
    afb2dNonsepCh .periodization hc0 hc1 hr0 hr1 x
      = some [alongH (Pp hc0.reverse) (alongW (Pp hr0.reverse) x), alongH (Pp hc1.reverse) (alongW (Pp hr0.reverse) x),
              alongH (Pp hc0.reverse) (alongW (Pp hr1.reverse) x), alongH (Pp hc1.reverse) (alongW (Pp hr1.reverse) x)] := by
  rw [afb2dNonsep_per_val hc0 hc1 hr0 hr1 hLy hLx hc hr x H W hx hH hW]
  simp only [List.map_cons, List.map_nil]
  rw [band_eq_per hc0 hr0 _ _ rfl rfl hLy hLx x H W hx hH hW, band_eq_per hc1 hr0 _ _ hc rfl hLy hLx x H W hx hH hW,
    band_eq_per hc0 hr1 _ _ rfl hr hLy hLx x H W hx hH hW, band_eq_per hc1 hr1 _ _ hc hr hLy hLx x H W hx hH hW]

/-- C19, analysis, periodization: the non-separable bank and the separable autograd Function `AFB2D.forward` agree band
by band on every image and for every filter lengths ≥ 2 -/
theorem afb2d_nonsep_per_eq_AFB2D (hc0 hc1 hr0 hr1 : List R) (hLy : 2 ≤ hc0.length) (hLx : 2 ≤ hr0.length)
    (hc : hc1.length = hc0.length) (hr : hr1.length = hr0.length) (x : Img R) (H W : Nat) (hx : Rect x H W) (hH : 1 ≤ H) (hW : 1 ≤ W) :
    ∃ ll lh hl hh, afb2dNonsepCh .periodization hc0 hc1 hr0 hr1 x = some [ll, lh, hl, hh] ∧
      AFB2D_forward .periodization hr0.reverse hr1.reverse hc0.reverse hc1.reverse [x] = some ([ll], [[lh, hl, hh]]) :=
  ⟨_, _, _, _, afb2d_nonsep_per_eq_sep hc0 hc1 hr0 hr1 hLy hLx hc hr x H W hx hH hW,
    C05D.AFB2D_forward_total .periodization Pp hr0.reverse hr1.reverse hc0.reverse hc1.reverse (by simp [hr]) (by simp [hc]) x H W hx
      (fun w c hw hcl => afb1dOne_per w c (by rw [hw]; simpa using hLx) (by omega))
      (fun w c hw hcl => afb1dOne_per w c (by rw [hw]; simpa using hLy) (by omega))⟩

/-- non-vacuity of `afb2d_nonsep_per_eq_AFB2D`: a 3 × 3 image with 4-tap column filters and 2-tap row filters (image smaller than
the column filter, odd sides) is an instance of its hypotheses, and on it both models evaluate to the same numbers -/
example : afb2dNonsepCh .periodization [1, 2, -1, 3] [2, -1, 0, 1] [1, 1] [1, -1] ([[1, 2, 3], [4, 5, 6], [7, 8, 10]] : Img Int)
    = (AFB2D_forward .periodization [1, 1] [-1, 1] [3, -1, 2, 1] [1, 0, -1, 2] [[[1, 2, 3], [4, 5, 6], [7, 8, 10]]]).map
        fun p => [p.1.getD 0 [], (p.2.getD 0 []).getD 0 [], (p.2.getD 0 []).getD 1 [], (p.2.getD 0 []).getD 2 []] := by decide +kernel

end WV.C19P
