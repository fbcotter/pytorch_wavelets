/-
  C05 — the one-dimensional autograd Functions and the J-level `DWT1DForward` on EVERY number of channels.

  `AFB1D.forward` / `AFB1D.backward` act channel by channel on `(C, L)` stacks (grouped convolution with the filter pair repeated
  `C` times, `lohi[:, ::2]` / `lohi[:, 1::2]` split), and so do `SFB1D.forward` / `SFB1D.backward`.  Hence each backward is the
  adjoint of its forward on every channel of a stack of any size whenever one level is adjoint on one channel (`C05U.LevelAdj`,
  `C05V.LevelAdjS`), all channels of one length: analysis side in mode zero for every length `N ≥ 1` and all filter lengths
  `L ≥ 2`, in periodization for every length `N ≥ 1` (odd included) and even `L ≤ N + N % 2`; synthesis side in mode zero for
  `K ≥ 1` coefficients per band and `2 ≤ L ≤ 2K + 1`, in periodization for even `2 ≤ L ≤ 2K`.
  The induction over the levels of `C05U.loop_adjoint` is carried out on stacks (`loop_adjoint_channels`) and gives the J-level
  forward module in both modes.  (The 2-D counterparts are `C07M.AFB2D_zero_adjoint_channels`, `C07M.AFB2D_per_adjoint_channels`.)
-/
import WaveletsVerif.Properties.C05U
import WaveletsVerif.Properties.C07M
import WaveletsVerif.Properties.C05V
namespace WV.C05W
open Finset WV WV.C05D WV.C05P WV.C05U WV.C07M WV.C05V
variable {R : Type} [CommRing R]

/-- `AFB1D.forward` acts channel by channel: if both one-filter analyses return on every channel (`lo`, `hi` their values),
the stack result is exactly the per-channel results -/
theorem AFB1D_forward_channels (m : Mode) (w0 w1 : List R) (xs : List (List R)) (lo hi : List R → List R)
    (h : ∀ c < xs.length, afb1dOne m w0 (xs.getD c []) = some (lo (xs.getD c [])) ∧
                           afb1dOne m w1 (xs.getD c []) = some (hi (xs.getD c []))) :
    AFB1D_forward m w0 w1 xs = some (tab xs.length fun c => lo (xs.getD c []), tab xs.length fun c => hi (xs.getD c [])) := by
  unfold AFB1D_forward
  rw [C07.afb1dT_total .W m w0 w1 (xs.map fun ch => [ch])
    (fun im => [lo (im.getD 0 [])]) (fun im => [hi (im.getD 0 [])])
    (by
      intro c hc
      have hc' : c < xs.length := by simpa using hc
      rw [getD_map_lt _ xs c hc' []]
      obtain ⟨e0, e1⟩ := h c hc'
      constructor
      · simp only [alongO, alongWO, List.mapM_cons, List.mapM_nil, e0]; rfl
      · simp only [alongO, alongWO, List.mapM_cons, List.mapM_nil, e1]; rfl)]
  simp only [Option.bind_eq_bind, Option.bind_some, List.length_map]
  rw [map_tab, length_tab, Nat.mul_div_cancel_left _ (by decide : 0 < 2)]
  congr 2
  · apply tab_ext rfl
    intro c hc
    obtain ⟨⟨h1, h2, h3⟩, -⟩ := interleave_index c xs.length hc
    rw [getD_tab]
    simp only [h1, if_true, h2, h3, getD_map_lt _ xs c hc []]
    rfl
  · apply tab_ext rfl
    intro c hc
    obtain ⟨-, h1, h2, h3⟩ := interleave_index c xs.length hc
    rw [getD_tab]
    simp only [h1, if_true, h2, h3, getD_map_lt _ xs c hc [], Nat.one_ne_zero, if_false]
    rfl

/-- the synthesis along `W` of two stacks of one-row images is the synthesis of the rows, channel by channel -/
theorem sfb1dT_rows (m : Mode) (g0 g1 : List R) (los his : List (List R)) (S : List R → List R → List R)
    (hlen : his.length = los.length)
    (h : ∀ c < los.length, sfb1dCh m g0 g1 (los.getD c []) (his.getD c []) = some (S (los.getD c []) (his.getD c []))) :
    sfb1dT .W m g0 g1 (los.map fun ch => [ch]) (his.map fun ch => [ch])
      = some (tab los.length fun c => [S (los.getD c []) (his.getD c [])]) := by
  have hc' : ∀ c < los.length, c < his.length := fun c hc => by rw [hlen]; exact hc
  rw [sfb1dT_total .W m g0 g1 _ _ (fun a b => [S (a.getD 0 []) (b.getD 0 [])]) (by rw [List.length_map, List.length_map, hlen])
    (fun c hc => by
      rw [List.length_map] at hc
      rw [getD_map_lt _ los c hc [], getD_map_lt _ his c (hc' c hc) [], sfb1dImg_row, h c hc]
      rfl)]
  rw [List.length_map]
  apply congrArg some
  apply tab_ext rfl
  intro c hc
  rw [getD_map_lt _ los c hc [], getD_map_lt _ his c (hc' c hc) []]
  rfl

/-- `AFB1D.backward` acts channel by channel: per-channel synthesis with the analysis buffers, then the fold / crop -/
theorem AFB1D_backward_channels (m : Mode) (w0 w1 : List R) (N : Nat) (g0s g1s : List (List R)) (S : List R → List R → List R)
    (hlen : g1s.length = g0s.length)
    (h : ∀ c < g0s.length, sfb1dCh m w0 w1 (g0s.getD c []) (g1s.getD c []) = some (S (g0s.getD c []) (g1s.getD c []))) :
    AFB1D_backward m w0 w1 N g0s g1s = some (tab g0s.length fun c => foldCrop m N (S (g0s.getD c []) (g1s.getD c []))) := by
  unfold AFB1D_backward
  rw [sfb1dT_rows m w0 w1 g0s g1s S hlen h]
  simp only [Option.bind_eq_bind, Option.bind_some, map_tab, List.getD_cons_zero]

theorem SFB1D_forward_channels (m : Mode) (g0 g1 : List R) (los his : List (List R)) (S : List R → List R → List R)
    (hlen : his.length = los.length)
    (h : ∀ c < los.length, sfb1dCh m g0 g1 (los.getD c []) (his.getD c []) = some (S (los.getD c []) (his.getD c []))) :
    SFB1D_forward m g0 g1 los his = some (tab los.length fun c => S (los.getD c []) (his.getD c [])) := by
  unfold SFB1D_forward
  rw [sfb1dT_rows m g0 g1 los his S hlen h]
  simp only [Option.bind_eq_bind, Option.bind_some, map_tab, List.getD_cons_zero]

section analysis
variable {m : Mode} {w0 w1 : List R} {Lvl : Nat → Prop} {K : Nat → Nat} (hA : LevelAdj m w0 w1 Lvl K) {N : Nat} (hN : Lvl N)
include hA hN

theorem AFB1D_forward_val (xs : List (List R)) (hx : ∀ c < xs.length, (xs.getD c []).length = N) :
    AFB1D_forward m w0 w1 xs
      = some (tab xs.length fun c => afbV m w0 (xs.getD c []), tab xs.length fun c => afbV m w1 (xs.getD c [])) :=
  AFB1D_forward_channels m w0 w1 xs (afbV m w0) (afbV m w1) fun c hc => ⟨(hA.fwd (hx c hc) hN).1, (hA.fwd (hx c hc) hN).2.1⟩

theorem AFB1D_backward_val (xs g0s g1s : List (List R)) (hl0 : g0s.length = xs.length) (hl1 : g1s.length = xs.length)
    (hx : ∀ c < xs.length, (xs.getD c []).length = N)
    (hg : ∀ c < xs.length, (g0s.getD c []).length = K N ∧ (g1s.getD c []).length = K N) :
    AFB1D_backward m w0 w1 N g0s g1s
      = some (tab g0s.length fun c => foldCrop m N (sfbV m w0 w1 (g0s.getD c []) (g1s.getD c []))) :=
  AFB1D_backward_channels m w0 w1 N g0s g1s (sfbV m w0 w1) (hl1.trans hl0.symm) fun c hc =>
    have hc' : c < xs.length := by rw [← hl0]; exact hc
    (hA.bwd (hx c hc') hN (hg c hc').1 (hg c hc').2).1

end analysis

/-- `AFB1D_adjoint_channels` together with the shapes of everything it returns -/
theorem AFB1D_adjoint_channels_shapes (m : Mode) (w0 w1 : List R) (Lvl : Nat → Prop) (K : Nat → Nat) (hA : LevelAdj m w0 w1 Lvl K)
    (N : Nat) (hN : Lvl N) (xs g0s g1s : List (List R)) (hl0 : g0s.length = xs.length) (hl1 : g1s.length = xs.length)
    (hx : ∀ c < xs.length, (xs.getD c []).length = N)
    (hg : ∀ c < xs.length, (g0s.getD c []).length = K N ∧ (g1s.getD c []).length = K N) :
    ∃ los his dxs, AFB1D_forward m w0 w1 xs = some (los, his) ∧ AFB1D_backward m w0 w1 N g0s g1s = some dxs ∧
      los.length = xs.length ∧ his.length = xs.length ∧ dxs.length = xs.length ∧
      (∀ c < xs.length, (los.getD c []).length = K N ∧ (his.getD c []).length = K N ∧ (dxs.getD c []).length = N) ∧
      ∀ c < xs.length, dotN (K N) (los.getD c []) (g0s.getD c []) + dotN (K N) (his.getD c []) (g1s.getD c [])
        = dotN N (xs.getD c []) (dxs.getD c []) := by
  have hf := fun c (hc : c < xs.length) => hA.fwd (hx c hc) hN
  have hb := fun c (hc : c < xs.length) => hA.bwd (hx c hc) hN (hg c hc).1 (hg c hc).2
  refine ⟨_, _, _, AFB1D_forward_val hA hN xs hx, AFB1D_backward_val hA hN xs g0s g1s hl0 hl1 hx hg, length_tab _ _, length_tab _ _,
    (length_tab _ _).trans hl0, ?_, ?_⟩
  · intro c hc
    rw [getD_tab, getD_tab, getD_tab, if_pos hc, if_pos hc, if_pos (by rw [hl0]; exact hc)]
    exact ⟨(hf c hc).2.2.1, (hf c hc).2.2.2, (hb c hc).2.1⟩
  · intro c hc
    rw [getD_tab, getD_tab, getD_tab, if_pos hc, if_pos hc, if_pos (by rw [hl0]; exact hc)]
    exact (hb c hc).2.2

/-- `AFB1D.backward` is the adjoint of `AFB1D.forward` on every number of channels whenever one level is adjoint on one
channel (`C05U.LevelAdj`): channel `c` of the gradient pairs with channel `c` of the signal exactly as the bands of channel `c` pair
with their cotangents -/
theorem AFB1D_adjoint_channels (m : Mode) (w0 w1 : List R) (Lvl : Nat → Prop) (K : Nat → Nat) (hA : LevelAdj m w0 w1 Lvl K)
    (N : Nat) (hN : Lvl N) (xs g0s g1s : List (List R)) (hl0 : g0s.length = xs.length) (hl1 : g1s.length = xs.length)
    (hx : ∀ c < xs.length, (xs.getD c []).length = N)
    (hg : ∀ c < xs.length, (g0s.getD c []).length = K N ∧ (g1s.getD c []).length = K N) :
    ∃ los his dxs, AFB1D_forward m w0 w1 xs = some (los, his) ∧ AFB1D_backward m w0 w1 N g0s g1s = some dxs ∧
      ∀ c < xs.length, dotN (K N) (los.getD c []) (g0s.getD c []) + dotN (K N) (his.getD c []) (g1s.getD c [])
        = dotN N (xs.getD c []) (dxs.getD c []) := by
  obtain ⟨los, his, dxs, hf, hb, -, -, -, -, hid⟩ := AFB1D_adjoint_channels_shapes m w0 w1 Lvl K hA N hN xs g0s g1s hl0 hl1 hx hg
  exact ⟨los, his, dxs, hf, hb, hid⟩

/-- mode zero, every channel count, every length `N ≥ 1` and filter lengths `L ≥ 2` -/
theorem AFB1D_zero_adjoint_channels (w0 w1 : List R) (hL : 2 ≤ w0.length) (hw : w1.length = w0.length) (N : Nat) (hN : 1 ≤ N)
    (xs g0s g1s : List (List R)) (hl0 : g0s.length = xs.length) (hl1 : g1s.length = xs.length)
    (hx : ∀ c < xs.length, (xs.getD c []).length = N)
    (hg : ∀ c < xs.length, (g0s.getD c []).length = dwtCoeffLen N w0.length ∧ (g1s.getD c []).length = dwtCoeffLen N w0.length) :
    ∃ los his dxs, AFB1D_forward .zero w0 w1 xs = some (los, his) ∧ AFB1D_backward .zero w0 w1 N g0s g1s = some dxs ∧
      ∀ c < xs.length, dotN (dwtCoeffLen N w0.length) (los.getD c []) (g0s.getD c [])
          + dotN (dwtCoeffLen N w0.length) (his.getD c []) (g1s.getD c [])
        = dotN N (xs.getD c []) (dxs.getD c []) :=
  AFB1D_adjoint_channels .zero w0 w1 _ _ (levelAdj_zero w0 w1 hL hw) N hN xs g0s g1s hl0 hl1 hx hg

/-- periodization, every channel count, every length (odd included), even filters that fit the even-extended signal -/
theorem AFB1D_per_adjoint_channels (h0 h1 : List R) (hL : 2 ≤ h0.length) (hLe : h0.length % 2 = 0) (hh1 : h1.length = h0.length)
    (N : Nat) (hN : 1 ≤ N) (hfit : h0.length ≤ N + N % 2)
    (xs g0s g1s : List (List R)) (hl0 : g0s.length = xs.length) (hl1 : g1s.length = xs.length)
    (hx : ∀ c < xs.length, (xs.getD c []).length = N)
    (hg : ∀ c < xs.length, (g0s.getD c []).length = (N + N % 2) / 2 ∧ (g1s.getD c []).length = (N + N % 2) / 2) :
    ∃ los his dxs, AFB1D_forward .periodization h0.reverse h1.reverse xs = some (los, his) ∧
      AFB1D_backward .periodization h0.reverse h1.reverse N g0s g1s = some dxs ∧
      ∀ c < xs.length, dotN ((N + N % 2) / 2) (los.getD c []) (g0s.getD c []) + dotN ((N + N % 2) / 2) (his.getD c []) (g1s.getD c [])
        = dotN N (xs.getD c []) (dxs.getD c []) :=
  AFB1D_adjoint_channels .periodization h0.reverse h1.reverse _ _ (levelAdj_per h0 h1 hL hLe hh1) N ⟨hN, hfit⟩ xs g0s g1s hl0 hl1 hx hg

/-- `SFB1D.backward` on a stack of cotangents of one level's output length is the pair of one-filter analyses of every channel -/
theorem SFB1D_backward_val {m : Mode} {g0 g1 : List R} {Fit : Nat → Prop} {Out : Nat → Nat} (hA : LevelAdjS m g0 g1 Fit Out)
    {K : Nat} (hK : Fit K) (dys : List (List R)) (hd : ∀ c < dys.length, (dys.getD c []).length = Out K) :
    SFB1D_backward m g0 g1 dys
      = some (tab dys.length fun c => afbV m g0 (dys.getD c []), tab dys.length fun c => afbV m g1 (dys.getD c [])) :=
  AFB1D_forward_channels m g0 g1 dys (afbV m g0) (afbV m g1) fun c hc => ⟨(hA.bwd hK (hd c hc)).1, (hA.bwd hK (hd c hc)).2.1⟩

/-- `SFB1D.backward` is the adjoint of `SFB1D.forward` on every number of channels whenever one level is adjoint on one
channel (`C05V.LevelAdjS`) -/
theorem SFB1D_adjoint_channels (m : Mode) (g0 g1 : List R) (Fit : Nat → Prop) (Out : Nat → Nat) (hA : LevelAdjS m g0 g1 Fit Out)
    (K : Nat) (hK : Fit K) (los his dys : List (List R)) (hl0 : his.length = los.length) (hl1 : dys.length = los.length)
    (hb : ∀ c < los.length, (los.getD c []).length = K ∧ (his.getD c []).length = K)
    (hd : ∀ c < los.length, (dys.getD c []).length = Out K) :
    ∃ ys dlos dhis, SFB1D_forward m g0 g1 los his = some ys ∧ SFB1D_backward m g0 g1 dys = some (dlos, dhis) ∧
      ∀ c < los.length, dotN (Out K) (dys.getD c []) (ys.getD c [])
        = dotN K (dlos.getD c []) (los.getD c []) + dotN K (dhis.getD c []) (his.getD c []) := by
  have hf := fun c (hc : c < los.length) => hA.fwd (hb c hc).1 (hb c hc).2 hK (hd c hc)
  refine ⟨_, _, _, SFB1D_forward_channels m g0 g1 los his (sfbV m g0 g1) hl0 fun c hc => (hf c hc).1,
    SFB1D_backward_val hA hK dys fun c hc => hd c (by rw [← hl1]; exact hc), ?_⟩
  intro c hc
  rw [getD_tab, getD_tab, getD_tab, if_pos hc, if_pos (by rw [hl1]; exact hc), if_pos (by rw [hl1]; exact hc)]
  exact (hf c hc).2.2

/-- mode zero, every channel count -/
theorem SFB1D_zero_adjoint_channels (g0 g1 : List R) (hL : 2 ≤ g0.length) (hg : g1.length = g0.length) (K : Nat) (hK : 1 ≤ K)
    (hfit : g0.length ≤ 2 * K + 1) (los his dys : List (List R)) (hl0 : his.length = los.length) (hl1 : dys.length = los.length)
    (hb : ∀ c < los.length, (los.getD c []).length = K ∧ (his.getD c []).length = K)
    (hd : ∀ c < los.length, (dys.getD c []).length = 2 * K + 2 - g0.length) :
    ∃ ys dlos dhis, SFB1D_forward .zero g0 g1 los his = some ys ∧ SFB1D_backward .zero g0 g1 dys = some (dlos, dhis) ∧
      ∀ c < los.length, dotN (2 * K + 2 - g0.length) (dys.getD c []) (ys.getD c [])
        = dotN K (dlos.getD c []) (los.getD c []) + dotN K (dhis.getD c []) (his.getD c []) :=
  SFB1D_adjoint_channels .zero g0 g1 _ _ (levelAdjS_zero g0 g1 hL hg) K ⟨hK, hfit⟩ los his dys hl0 hl1 hb hd

/-- periodization, every channel count, any even-length synthesis filters with `L ≤ 2K` -/
theorem SFB1D_per_adjoint_channels (g0 g1 : List R) (hL : 2 ≤ g0.length) (hLe : g0.length % 2 = 0) (hg : g1.length = g0.length)
    (K : Nat) (hfit : g0.length ≤ 2 * K) (los his dys : List (List R)) (hl0 : his.length = los.length) (hl1 : dys.length = los.length)
    (hb : ∀ c < los.length, (los.getD c []).length = K ∧ (his.getD c []).length = K)
    (hd : ∀ c < los.length, (dys.getD c []).length = 2 * K) :
    ∃ ys dlos dhis, SFB1D_forward .periodization g0 g1 los his = some ys ∧ SFB1D_backward .periodization g0 g1 dys = some (dlos, dhis) ∧
      ∀ c < los.length, dotN (2 * K) (dys.getD c []) (ys.getD c [])
        = dotN K (dlos.getD c []) (los.getD c []) + dotN K (dhis.getD c []) (his.getD c []) :=
  SFB1D_adjoint_channels .periodization g0 g1 _ _ (levelAdjS_per g0 g1 hL hLe hg) K hfit los his dys hl0 hl1 hb hd

/-- the chain of `AFB1D.backward` passes on a stack of channels -/
def DWT1DForwardBackwardC (m : Mode) (w0 w1 : List R) : List Nat → List (List R) → List (List (List R)) → Option (List (List R))
  | [], gls, _ => some gls
  | N :: ns, gls, ghs => do
    let g0s ← DWT1DForwardBackwardC m w0 w1 ns gls ghs.tail
    AFB1D_backward m w0 w1 N g0s (ghs.headD [])

/-- a cotangent pyramid on `C` channels of the shapes a `J`-level transform of length-`N` signals produces -/
def PyrOKC (K : Nat → Nat) (C : Nat) : Nat → Nat → List (List R) → List (List (List R)) → Prop
  | 0, N, gls, [] => gls.length = C ∧ ∀ c < C, (gls.getD c []).length = N
  | J+1, N, gls, g1s :: rest => g1s.length = C ∧ (∀ c < C, (g1s.getD c []).length = K N) ∧ PyrOKC K C J (K N) gls rest
  | _, _, _, _ => False

/-- channel `c` of the output pyramid paired with channel `c` of the cotangent pyramid -/
def pdotC (c : Nat) (yls : List (List R)) (yhs : List (List (List R))) (gls : List (List R)) (ghs : List (List (List R))) : R :=
  dotN (yls.getD c []).length (yls.getD c []) (gls.getD c [])
    + (List.zipWith (fun d g => dotN (d.getD c []).length (d.getD c []) (g.getD c [])) yhs ghs).sum

/-- back-propagation through the J-level `DWT1DForward` on every number of channels is the adjoint, channel by channel,
whenever one level is adjoint on one channel -/
theorem loop_adjoint_channels (m : Mode) (w0 w1 : List R) (Lvl : Nat → Prop) (K : Nat → Nat) (hA : LevelAdj m w0 w1 Lvl K) (C : Nat) :
    ∀ (J N : Nat) (xs gls : List (List R)) (ghs : List (List (List R))), xs.length = C → (∀ c < C, (xs.getD c []).length = N) →
    LvlsOK Lvl K J N → PyrOKC K C J N gls ghs →
    ∃ yls yhs dxs, DWT1DForward m w0 w1 J xs = some (yls, yhs) ∧
      DWT1DForwardBackwardC m w0 w1 (shapes K J N) gls ghs = some dxs ∧ dxs.length = C ∧ (∀ c < C, (dxs.getD c []).length = N) ∧
      ∀ c < C, pdotC c yls yhs gls ghs = dotN N (xs.getD c []) (dxs.getD c []) := by
  intro J
  induction J with
  | zero =>
    intro N xs gls ghs hC hx _ hp
    cases ghs with
    | cons b rest => exact absurd hp (by simp [PyrOKC])
    | nil =>
      refine ⟨xs, [], gls, rfl, rfl, hp.1, hp.2, ?_⟩
      intro c hc
      simp only [pdotC, List.zipWith_nil_left, List.sum_nil, add_zero]
      rw [hx c hc]
  | succ J ih =>
    intro N xs gls ghs hC hx hok hp
    cases ghs with
    | nil => exact absurd hp (by simp [PyrOKC])
    | cons g1s rest =>
      obtain ⟨hg1l, hg1, hrest⟩ := hp
      obtain ⟨hl, hokr⟩ := hok
      subst hC
      have hf := fun c (hc : c < xs.length) => hA.fwd (hx c hc) hl
      obtain ⟨yls, yhs, g0s, hfr, hbr, lg0s, hg0, hdr⟩ := ih (K N) (tab xs.length fun c => afbV m w0 (xs.getD c [])) gls rest
        (length_tab _ _) (fun c hc => by rw [getD_tab, if_pos hc]; exact (hf c hc).2.2.1) hokr hrest
      have hb := fun c (hc : c < xs.length) => hA.bwd (hx c hc) hl (hg0 c hc) (hg1 c hc)
      refine ⟨yls, (tab xs.length fun c => afbV m w1 (xs.getD c [])) :: yhs,
        tab g0s.length fun c => foldCrop m N (sfbV m w0 w1 (g0s.getD c []) (g1s.getD c [])), ?_, ?_, (length_tab _ _).trans lg0s, ?_, ?_⟩
      · simp only [DWT1DForward, AFB1D_forward_val hA hl xs hx, Option.bind_eq_bind, Option.bind_some, hfr]
      · simp only [shapes, DWT1DForwardBackwardC, List.tail_cons, List.headD_cons, hbr, Option.bind_eq_bind, Option.bind_some]
        exact AFB1D_backward_val hA hl xs g0s g1s lg0s hg1l hx fun c hc => ⟨hg0 c hc, hg1 c hc⟩
      · intro c hc
        rw [getD_tab, if_pos (by rw [lg0s]; exact hc)]
        exact (hb c hc).2.1
      · intro c hc
        have := hdr c hc
        simp only [pdotC, List.zipWith_cons_cons, List.sum_cons] at this ⊢
        rw [getD_tab, if_pos hc] at this
        rw [getD_tab, getD_tab, if_pos hc, if_pos (by rw [lg0s]; exact hc), (hf c hc).2.2.2, ← (hb c hc).2.2, ← this]
        ring

/-- mode zero: every J, every channel count, every length `N ≥ 1` and filter lengths `L ≥ 2` -/
theorem DWT1D_zero_adjoint_channels (w0 w1 : List R) (hL : 2 ≤ w0.length) (hw : w1.length = w0.length) (C J N : Nat) (hN : 1 ≤ N)
    (xs gls : List (List R)) (ghs : List (List (List R))) (hC : xs.length = C) (hx : ∀ c < C, (xs.getD c []).length = N)
    (hp : PyrOKC (fun N => dwtCoeffLen N w0.length) C J N gls ghs) :
    ∃ yls yhs dxs, DWT1DForward .zero w0 w1 J xs = some (yls, yhs) ∧
      DWT1DForwardBackwardC .zero w0 w1 (shapes (fun N => dwtCoeffLen N w0.length) J N) gls ghs = some dxs ∧ dxs.length = C ∧
      (∀ c < C, (dxs.getD c []).length = N) ∧ ∀ c < C, pdotC c yls yhs gls ghs = dotN N (xs.getD c []) (dxs.getD c []) :=
  loop_adjoint_channels .zero w0 w1 _ _ (levelAdj_zero w0 w1 hL hw) C J N xs gls ghs hC hx (lvlsOK_zero w0.length hL J N hN) hp

/-- periodization: every J, every channel count, every length (odd included), even filters that fit every even-extended level -/
theorem DWT1D_per_adjoint_channels (h0 h1 : List R) (hL : 2 ≤ h0.length) (hLe : h0.length % 2 = 0) (hh1 : h1.length = h0.length)
    (C J N : Nat) (xs gls : List (List R)) (ghs : List (List (List R))) (hC : xs.length = C) (hx : ∀ c < C, (xs.getD c []).length = N)
    (hok : LvlsOK (fun N => 1 ≤ N ∧ h0.length ≤ N + N % 2) (fun N => (N + N % 2) / 2) J N)
    (hp : PyrOKC (fun N => (N + N % 2) / 2) C J N gls ghs) :
    ∃ yls yhs dxs, DWT1DForward .periodization h0.reverse h1.reverse J xs = some (yls, yhs) ∧
      DWT1DForwardBackwardC .periodization h0.reverse h1.reverse (shapes (fun N => (N + N % 2) / 2) J N) gls ghs = some dxs ∧
      dxs.length = C ∧ (∀ c < C, (dxs.getD c []).length = N) ∧
      ∀ c < C, pdotC c yls yhs gls ghs = dotN N (xs.getD c []) (dxs.getD c []) :=
  loop_adjoint_channels .periodization h0.reverse h1.reverse _ _ (levelAdj_per h0 h1 hL hLe hh1) C J N xs gls ghs hC hx hok hp

/-- non-vacuity of hypothesis `hp` of `DWT1D_zero_adjoint_channels`: two channels, two levels, length 5, 4-tap filters in mode
zero: bands of length 4 and 3 -/
example : PyrOKC (fun N => dwtCoeffLen N 4) 2 2 5 ([[1, 2, 3], [4, 5, 6]] : List (List Int))
    [[[1, 2, 3, 4], [5, 6, 7, 8]], [[1, 2, 3], [4, 5, 6]]] := by
  refine ⟨rfl, ?_, rfl, ?_, rfl, ?_⟩ <;> decide

/-- the per-channel length hypothesis `hx` of `AFB1D_adjoint_channels` is satisfiable: a three-channel stack of length-5 signals -/
example : ∀ c < ([[1, 2, 3, 4, 5], [0, 0, 1, 0, 0], [5, 4, 3, 2, 1]] : List (List Int)).length,
    (([[1, 2, 3, 4, 5], [0, 0, 1, 0, 0], [5, 4, 3, 2, 1]] : List (List Int)).getD c []).length = 5 := by
  decide

end WV.C05W
