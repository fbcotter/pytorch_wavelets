/-
  C06 — back-propagation through the whole inverse DTCWT is the adjoint on EVERY forward-compatible pyramid (the crops of the
  running low-pass included): the low-pass and every band-pass level receive exactly their gradients.

  Before each level `DTCWTInverse` cuts the first and last row / column off the low-pass reconstructed so far when it is two samples
  larger than twice that level's band-pass images (`cropToHighs`: what the extension of the forward pass to a multiple of 4 leaves
  behind).  The crop is an index gather (`cropToHighs_get2`); the backward pass PyTorch runs for it pads the gradient with zeros —
  the scatter-add of `C06L.gatherBack` — and gather and scatter-add are adjoint (`crop_adjoint`).  An induction over the levels of the same
  shape as that of C06K, with the crop in front of every level and `C06K.inv2_level` / `C06K.inv1_level` for the level itself
  (`invLoop_adjoint_ext`, `DTCWTInverse_backward_adjoint_ext`), gives: for every J, every level-1 band size
  `a × b` (the coarser levels have `⌈·/2⌉` of the finer ones, as the forward transform produces them), every pyramid and every
  cotangent `dy`, `⟨DTCWTInverse P, dy⟩ = ⟨P, backward(dy)⟩`.  One channel, symmetric mode, filters as in C06K.
-/
import WaveletsVerif.Properties.C06K
import WaveletsVerif.Properties.C06L
import WaveletsVerif.Properties.C11P
namespace WV.C06M
open Finset WV WV.C04 WV.C06 WV.C06Q WV.C04P WV.C06J WV.C06K WV.C06L WV.C11P
variable {R : Type} [CommRing R]

/-- source index of sample `m` of the crop of an axis of length `big` to length `small` (`[1:-1]` when they differ) -/
def srcC (big small m : Nat) : Nat := if big ≠ small then m + 1 else m

omit [CommRing R] in
theorem getD_crop {α : Type} (x : List α) (d : α) (m : Nat) (h : 2 ≤ x.length) (hm : m < x.length - 2) :
    (slice x 1 (-1)).getD m d = x.getD (m + 1) d := by
  rw [slice_one_neg_one x h]
  simp only [List.getD_eq_getElem?_getD, List.getElem?_drop, List.getElem?_take]
  rw [if_pos (by omega), Nat.add_comm]

theorem srcC_lt (big small m : Nat) (hb : big = small ∨ big = small + 2) (hm : m < small) : srcC big small m < big := by
  unfold srcC
  split <;> omega

omit [CommRing R] in
theorem getD_cropC {α : Type} (x : List α) (d : α) (big small m : Nat) (hx : x.length = big) (hb : big = small ∨ big = small + 2)
    (hm : m < small) : (if big ≠ small then slice x 1 (-1) else x).getD m d = x.getD (srcC big small m) d := by
  unfold srcC
  split
  · exact getD_crop x d m (by rw [hx]; omega) (by rw [hx]; omega)
  · rfl

theorem cropToHighs_get2 (Z : Img R) (Hb Wb a b : Nat) (ha : 1 ≤ a) (hZ : Rect Z Hb Wb)
    (hH : Hb = 2*a ∨ Hb = 2*a + 2) (hW : Wb = 2*b ∨ Wb = 2*b + 2) (m k : Nat) (hm : m < 2*a) (hk : k < 2*b) :
    get2 (cropToHighs Z a b) m k = get2 Z (srcC Hb (2*a) m) (srcC Wb (2*b) k) := by
  rw [cropToHighs_eq Z Hb Wb a b ha hZ hH]
  exact get2_rows_cols Z _ _ Hb Wb _ _ (srcC Hb (2*a)) (srcC Wb (2*b)) hZ (crop_rows_rect Z Hb Wb a ha hZ hH).1
    (fun m hm => srcC_lt Hb (2*a) m hH hm) (fun m hm => getD_cropC Z [] Hb (2*a) m hZ.1 hH hm)
    (fun r hr k hk => getD_cropC r 0 Wb (2*b) k hr hW hk) m k hm hk

/-- the backward pass of that crop: the gradient padded with zero rows / columns -/
def cropBack (Hb Wb a b : Nat) (g : Img R) : Img R := gatherBack (srcC Hb (2*a)) (srcC Wb (2*b)) Hb Wb (2*a) (2*b) g

theorem cropBack_rect (Hb Wb a b : Nat) (g : Img R) : Rect (cropBack Hb Wb a b g) Hb Wb := gatherBack_rect _ _ _ _ _ _ _

theorem crop_adjoint (Z g : Img R) (Hb Wb a b : Nat) (ha : 1 ≤ a) (hZ : Rect Z Hb Wb)
    (hH : Hb = 2*a ∨ Hb = 2*a + 2) (hW : Wb = 2*b ∨ Wb = 2*b + 2) :
    dot2 (2*a) (2*b) g (cropToHighs Z a b) = dot2 Hb Wb (cropBack Hb Wb a b g) Z := by
  rw [dot2_comm (2*a), dot2_comm Hb]
  exact gather2_adjoint Hb Wb (2*a) (2*b) (srcC Hb (2*a)) (srcC Wb (2*b))
    (fun m hm => srcC_lt Hb (2*a) m hH hm) (fun k hk => srcC_lt Wb (2*b) k hW hk) Z (cropToHighs Z a b) g
    (fun m hm k hk => cropToHighs_get2 Z Hb Wb a b ha hZ hH hW m k hm hk)

/-- size of what `n` levels reconstruct below a level whose band-pass images are `a` long: the low-pass itself, or the uncropped
output of the finest of those levels -/
def outSz (n a : Nat) : Nat := if n = 0 then 2 * a else 4 * ((a + 1) / 2)

theorem outSz_ok (n a : Nat) : outSz n a = 2*a ∨ outSz n a = 2*a + 2 := by
  unfold outSz; split <;> omega

/-- the chain rule over levels `2 … J` of `DTCWTInverse` with the crops, finest of them first -/
def invLoopBackwardE (s : R) (g : InvFilters R) : Nat → Nat → Nat → Img R → Option (Img R × List (List (Cplx R)))
  | 0, _, _, dy => some (dy, [])
  | n+1, a, b, dy => do
    let r ← INV_J2PLUS_backward s g.g0a g.g1a g.g0b g.g1b true true dy
    match r with
    | (some dl, some dh) => do
      let (dlF, dhs) ← invLoopBackwardE s g n ((a + 1) / 2) ((b + 1) / 2)
        (cropBack (outSz n ((a + 1) / 2)) (outSz n ((b + 1) / 2)) ((a + 1) / 2) ((b + 1) / 2) dl)
      some (dlF, dh :: dhs)
    | _ => none

/-- … preceded by `INV_J1.backward` and the backward of the crop before level 1 -/
def DTCWTInverseBackwardE (s : R) (g : InvFilters R) (n a b : Nat) (dy : Img R) : Option (Img R × List (List (Cplx R))) :=
  match INV_J1_backward s true g.g0o g.g1o true true dy with
  | (some dl, some dh) => do
    let (dlF, dhs) ← invLoopBackwardE s g n a b (cropBack (outSz n a) (outSz n b) a b dl)
    some (dlF, dh :: dhs)
  | _ => none

def cotsI (A B : Nat → Nat → Nat → Nat → R) : Nat → Nat → Nat → Nat → List (List (Cplx R))
  | 0, _, _, _ => []
  | n+1, lvl, a, b => cot (A lvl) (B lvl) ((a + 1) / 2) ((b + 1) / 2) :: cotsI A B n (lvl + 1) ((a + 1) / 2) ((b + 1) / 2)

def sizesI : Nat → Nat → Nat → List (Nat × Nat)
  | 0, _, _ => []
  | n+1, a, b => ((a + 1) / 2, (b + 1) / 2) :: sizesI n ((a + 1) / 2) ((b + 1) / 2)

def gradDotI (A B : Nat → Nat → Nat → Nat → R) : Nat → Nat → Nat → Nat → List (List (Cplx R)) → R
  | n+1, lvl, a, b, dh :: dhs =>
    bdot ((a + 1) / 2) ((b + 1) / 2) dh (cot (A lvl) (B lvl) ((a + 1) / 2) ((b + 1) / 2)) + gradDotI A B n (lvl + 1) ((a + 1) / 2) ((b + 1) / 2) dhs
  | _, _, _, _, _ => 0

section
variable (s : R) (g0o g1o g0 g1 : List R) (hg0o : g0o.length % 2 = 1) (hg1o : g1o.length % 2 = 1) (hs0 : Symm g0o) (hs1 : Symm g1o)
    (hm0 : g0.length % 2 = 0) (hm0' : 2 ≤ g0.length) (hm1 : g1.length % 2 = 0) (hm1' : 2 ≤ g1.length)
    (A B : Nat → Nat → Nat → Nat → R)

include hm0 hm0' hm1 hm1' in
/-- levels `2 … J` on every forward-compatible pyramid: the chain of `INV_J2PLUS.backward` and crop backward passes is the adjoint of
the inverse's level loop -/
theorem invLoop_adjoint_ext : ∀ (n lvl : Nat) (low dy : Img R) (a b : Nat), 1 ≤ a → 1 ≤ b →
    Rect low (2 * upN n a) (2 * upN n b) → Rect dy (outSz n a) (outSz n b) →
    ∃ Z dlF dhs,
      (((cotsI A B n lvl a b).map some).zip (sizesI n a b)).reverse.foldlM (dtcwtInvStep s (mkG g0o g1o g0 g1)) (some low) = some (some Z) ∧
      Rect Z (outSz n a) (outSz n b) ∧
      invLoopBackwardE s (mkG g0o g1o g0 g1) n a b dy = some (dlF, dhs) ∧
      dot2 (outSz n a) (outSz n b) dy Z = dot2 (2 * upN n a) (2 * upN n b) dlF low + gradDotI A B n lvl a b dhs := by
  intro n
  induction n with
  | zero =>
    intro lvl low dy a b _ _ hl hdy
    exact ⟨low, dy, [], rfl, hl, rfl, (add_zero _).symm⟩
  | succ n ih =>
    intro lvl low dy a b ha hb hl hdy
    have ha1 := half_up_pos ha
    have hb1 := half_up_pos hb
    have eo : ∀ c : Nat, outSz (n + 1) c = 4 * ((c + 1) / 2) := by intro c; unfold outSz; simp
    simp only [upN] at hl ⊢
    rw [eo a, eo b] at hdy ⊢
    obtain ⟨dl, dh, hB, rdl, hfw⟩ := inv2_level s g0o g1o g0 g1 hm0 hm0' hm1 hm1' dy ((a + 1) / 2) ((b + 1) / 2) ha1 hb1 hdy (A lvl) (B lvl)
    -- the coarser levels: forward from `low`, backward from the zero-padded `dl`
    obtain ⟨Z', dlF, dhs, hfold, rZ', hbw, hid'⟩ := ih (lvl + 1) low
      (cropBack (outSz n ((a + 1) / 2)) (outSz n ((b + 1) / 2)) ((a + 1) / 2) ((b + 1) / 2) dl) ((a + 1) / 2) ((b + 1) / 2) ha1 hb1 hl
      (cropBack_rect _ _ _ _ _)
    -- this level applied to the crop of what they reconstructed
    obtain ⟨y, hI, ry, hid⟩ := hfw (cropToHighs Z' ((a + 1) / 2) ((b + 1) / 2))
      (crop_rect Z' _ _ ((a + 1) / 2) ((b + 1) / 2) ha1 hb1 rZ' (outSz_ok n _) (outSz_ok n _))
    refine ⟨y, dlF, dh :: dhs, ?_, ry, ?_, ?_⟩
    · simp only [cotsI, sizesI, List.map_cons, List.zip_cons_cons, List.reverse_cons, List.foldlM_append, hfold, Option.bind_eq_bind,
        Option.bind_some, List.foldlM_cons, List.foldlM_nil]
      unfold dtcwtInvStep
      simp only
      rw [hI]
      rfl
    · simp only [invLoopBackwardE, hB, Option.bind_eq_bind, Option.bind_some, hbw]
    · rw [hid, crop_adjoint Z' dl _ _ _ _ ha1 rZ' (outSz_ok n _) (outSz_ok n _), hid']
      simp only [gradDotI]
      ring

include hg0o hg1o hs0 hs1 hm0 hm0' hm1 hm1' in
/-- back-propagation through the whole inverse DTCWT is the adjoint of the transform on every forward-compatible pyramid (one
channel, symmetric mode, every input requiring grad, `J = n + 1`, level-1 bands `a × b`, coarser levels `⌈·/2⌉`): for every
low-pass, every band-pass levels and every cotangent `dy` of the `2a × 2b` reconstruction,
`⟨DTCWTInverse(low, bands), dy⟩ = ⟨low, d low⟩ + Σ_levels Σ_k ⟨band, d band⟩` -/
theorem DTCWTInverse_backward_adjoint_ext (n : Nat) (low dy : Img R) (a b : Nat) (ha : 1 ≤ a) (hb : 1 ≤ b)
    (hl : Rect low (2 * upN n a) (2 * upN n b)) (hdy : Rect dy (2*a) (2*b)) :
    ∃ y dlF dh1 dhs,
      DTCWTInverse s true (mkG g0o g1o g0 g1) ((a, b) :: sizesI n a b) (a, b) (some low)
        (some (cot (A 0) (B 0) a b) :: (cotsI A B n 1 a b).map some) = some y ∧
      DTCWTInverseBackwardE s (mkG g0o g1o g0 g1) n a b dy = some (dlF, dh1 :: dhs) ∧
      dot2 (2*a) (2*b) dy y
        = dot2 (2 * upN n a) (2 * upN n b) dlF low + bdot a b dh1 (cot (A 0) (B 0) a b) + gradDotI A B n 1 a b dhs := by
  obtain ⟨dl, dh1, hB1, _, hfw⟩ := inv1_level s g0o g1o g0 g1 hg0o hg1o hs0 hs1 dy a b ha hb hdy (A 0) (B 0)
  -- the coarser levels, from the zero-padded gradient; then level 1 forward on the crop of what they reconstructed
  obtain ⟨Z, dlF, dhs, hfold, rZ, hbw, hidL⟩ := invLoop_adjoint_ext s g0o g1o g0 g1 hm0 hm0' hm1 hm1' A B n 1 low
    (cropBack (outSz n a) (outSz n b) a b dl) a b ha hb hl (cropBack_rect _ _ _ _ _)
  obtain ⟨y, hI, hid⟩ := hfw (cropToHighs Z a b) (crop_rect Z _ _ a b ha hb rZ (outSz_ok n a) (outSz_ok n b))
  refine ⟨y, dlF, dh1, dhs, ?_, ?_, ?_⟩
  · rw [DTCWTInverse_cons, hfold]
    simp only [Option.bind_eq_bind, Option.bind_some]
    exact hI
  · unfold DTCWTInverseBackwardE
    rw [hB1]
    simp only [hbw, Option.bind_eq_bind, Option.bind_some]
  · rw [hid, crop_adjoint Z dl _ _ a b ha rZ (outSz_ok n a) (outSz_ok n b), hidL]
    ring

end

/-- sizes on which every level crops: level-1 bands 3 × 5 (a 6 × 10 reconstruction), level 2 bands 2 × 3 reconstruct 8 × 12 (cropped
to 6 × 10), level 3 bands 1 × 2 reconstruct 4 × 8 (cropped to 4 × 6); the low-pass is 2 × 4 -/
example : sizesI 2 3 5 = [(2, 3), (1, 2)] ∧ outSz 2 3 = 8 ∧ outSz 2 5 = 12 ∧ outSz 1 2 = 4 ∧ outSz 1 3 = 8 ∧ upN 2 3 = 1 ∧ upN 2 5 = 2 := by
  decide

end WV.C06M
