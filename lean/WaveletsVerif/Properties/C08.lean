/-
  C08 — scattering layers compute the defined DTCWT scattering coefficients.

  * every magnitude channel is non-negative: `0 ≤ √(re² + im² + b²) − b` for `b ≥ 0` (over ℝ);
  * channel bookkeeping of the first-order layer: the model of `ScatLayerj1_f.forward` + the
    module's `view(b, 7c, h, w)` returns `7·C` channels without colour combination (`scatJ1_channels`; that the
    first `C` are the pooled low-passes, band-major packing, is part of the values in C08P), and it raises for odd
    sizes (`scatJ1_raises_odd`) — which the module removes by edge extension;
  * the second-order layer raises unless both sizes are multiples of 8 (the module pads).
  The values are the subject of C08P / C08Q / C08R / C08B (each layer = the reference DTCWT composed with
  the scattering formulas, for any square-root operation); the square root in floating point is left
  to the Float-tier correspondence and to the numpy-dtcwt oracle.
-/
import WaveletsVerif.Model.Scat
import Mathlib.Analysis.SpecialFunctions.Sqrt
namespace WV.C08
open WV

theorem sqrt_add_sq_sub_nonneg (t b : ℝ) (ht : 0 ≤ t) : 0 ≤ Real.sqrt (t + b*b) - b := by
  have h : b ≤ Real.sqrt (t + b*b) := Real.le_sqrt_of_sq_le (by rw [sq]; linarith)
  linarith

theorem mag_nonneg (re im b : ℝ) (_hb : 0 ≤ b) : 0 ≤ Real.sqrt (re*re + im*im + b*b) - b :=
  sqrt_add_sq_sub_nonneg (re*re + im*im) b (add_nonneg (mul_self_nonneg re) (mul_self_nonneg im))

theorem mag3_nonneg (a1 a2 a3 a4 a5 a6 b : ℝ) (_hb : 0 ≤ b) :
    0 ≤ Real.sqrt (a1*a1 + a2*a2 + a3*a3 + a4*a4 + a5*a5 + a6*a6 + b*b) - b :=
  sqrt_add_sq_sub_nonneg (a1*a1 + a2*a2 + a3*a3 + a4*a4 + a5*a5 + a6*a6) b
    (by linarith [mul_self_nonneg a1, mul_self_nonneg a2, mul_self_nonneg a3, mul_self_nonneg a4, mul_self_nonneg a5, mul_self_nonneg a6])

variable {R : Type} [Add R] [Sub R] [Mul R] [OfNat R 0]

theorem scatJ1_channels (m : MagOps R) (sym : Bool) (h0 h1 : List R) (h2 : Option (List R))
    (x y : List (Img R)) (h : scatJ1 m sym h0 h1 h2 false x = some y) : y.length = 7 * x.length := by
  unfold scatJ1 at h
  split at h
  · simp at h
  · simp only [Bool.false_eq_true, if_false, Option.some.injEq] at h
    subst h
    simp [List.map_map, Function.comp_def, List.range_succ]
    omega

theorem scatJ1_raises_odd (m : MagOps R) (sym : Bool) (h0 h1 : List R) (h2 : Option (List R)) (colour : Bool)
    (x : List (Img R)) (hx : x.any (fun im => im.length % 2 ≠ 0 ∨ im.width % 2 ≠ 0) = true) :
    scatJ1 m sym h0 h1 h2 colour x = none := by
  unfold scatJ1; rw [if_pos hx]

theorem scatJ2_raises_unless_mult8 (m : MagOps R) (sym : Bool) (f : Scat2Filters R) (colour : Bool)
    (x : List (Img R)) (hx : x.any (fun im => im.length % 8 ≠ 0 ∨ im.width % 8 ≠ 0) = true) :
    scatJ2 m sym f colour x = none := by
  unfold scatJ2; rw [if_pos hx]

end WV.C08
