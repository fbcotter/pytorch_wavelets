/-
  C10 — the 2-D inverse in periodization mode on one channel equals PyWavelets' `waverec2` on every pyramid of
  forward-compatible shape, for every number of levels, `None` levels and the un-pad rule on both axes included — wherever at every
  level the filters satisfy `L − 2 ≤ 2n` per axis (the regime in which the one-level code path equals PyWavelets,
  `C10.sfb1dCh_per_eq_idwt_partial`; its complement is the known finding C10-periodization-short).
  Everything here is the mode-independent level step of C10 (`step_eq2_of`) with `synthOK_per` put in.
-/
import WaveletsVerif.Properties.C10
namespace WV.C10P
open Finset WV WV.C10
variable {R : Type} [CommRing R]

/-- one level of the 2-D synthesis in periodization on one channel is `pywt.idwt2`, for four bands of one non-empty
shape `h × w` with `Lc − 2 ≤ 2h`, `Lr − 2 ≤ 2w` -/
theorem SFB2D_forward_per_eq_idwt2 (gc0 gc1 gr0 gr1 : List R)
    (hLc : 2 ≤ gc0.length) (hgc : gc1.length = gc0.length) (hLr : 2 ≤ gr0.length) (hgr : gr1.length = gr0.length)
    (cA cH cV cD : Img R) (h w : Nat) (hh : 1 ≤ h) (hw : 1 ≤ w)
    (sA : cA.length = h ∧ cA.width = w) (sH : cH.length = h ∧ cH.width = w)
    (sV : cV.length = h ∧ cV.width = w) (sD : cD.length = h ∧ cD.width = w)
    (hfitc : gc0.length - 2 ≤ 2 * h) (hfitr : gr0.length - 2 ≤ 2 * w) :
    SFB2D_forward .periodization gr0 gr1 gc0 gc1 [cA] [[cH, cV, cD]] = some [Spec.idwt2 .periodization gc0 gc1 gr0 gr1 cA cH cV cD] := by
  exact SFB2D_forward_eq_idwt2_of synthOK_per gc0 gc1 gr0 gr1 hLc hgc hLr hgr cA cH cV cD h w hh hw sA sH sV sD hfitc hfitr

/-- shapes a forward transform in periodization produces, with the fit condition of the periodized synthesis -/
def StepOK2P (gc0 gr0 : List R) (a : Img R) (d : Option (List (Img R))) : Prop :=
  ∃ h w : Nat, 1 ≤ h ∧ 1 ≤ w ∧ (a.length = h ∨ a.length = h + 1) ∧ (a.width = w ∨ a.width = w + 1) ∧
    gc0.length - 2 ≤ 2 * h ∧ gr0.length - 2 ≤ 2 * w ∧
    match d with
    | some v => ∃ cH cV cD, v = [cH, cV, cD] ∧ Shape cH h w ∧ Shape cV h w ∧ Shape cD h w
    | none => a.length = h ∧ a.width = w

theorem step_eq2P (gc0 gc1 gr0 gr1 : List R)
    (hLc : 2 ≤ gc0.length) (hgc : gc1.length = gc0.length) (hLr : 2 ≤ gr0.length) (hgr : gr1.length = gr0.length)
    (a : Img R) (d : Option (List (Img R))) (hok : StepOK2P gc0 gr0 a d) :
    DWTInverse_step .periodization gc0 gc1 gr0 gr1 [a] (d.map fun v => [v]) = some [stepS2 .periodization gc0 gc1 gr0 gr1 a d] := by
  obtain ⟨h, w, hh, hw, hl, hwd, hfc, hfr, hd⟩ := hok
  exact step_eq2_of synthOK_per gc0 gc1 gr0 gr1 hLc hgc hLr hgr a d h w hh hw hl hwd hfc hfr hd

def Compat2P (gc0 gc1 gr0 gr1 : List R) : Img R → List (Option (List (Img R))) → Prop
  | _, [] => True
  | a, d :: rest => StepOK2P gc0 gr0 a d ∧ Compat2P gc0 gc1 gr0 gr1 (stepS2 .periodization gc0 gc1 gr0 gr1 a d) rest

/-- the J-level 2-D synthesis of one channel in periodization mode is PyWavelets' `waverec2` on every pyramid of
forward-compatible shape with `L − 2 ≤ 2n` per axis at every level, `None` levels and the un-pad rule included -/
theorem DWTInverse_per_eq_waverec2 (gc0 gc1 gr0 gr1 : List R)
    (hLc : 2 ≤ gc0.length) (hgc : gc1.length = gc0.length) (hLr : 2 ≤ gr0.length) (hgr : gr1.length = gr0.length)
    (a : Img R) (ds : List (Option (List (Img R)))) (hc : Compat2P gc0 gc1 gr0 gr1 a ds.reverse) :
    DWTInverse .periodization gc0 gc1 gr0 gr1 [a] (ds.map fun d => d.map fun v => [v])
      = some [Spec.waverec2 .periodization gc0 gc1 gr0 gr1 a ds] := by
  rw [waverec2_eq_foldl]
  unfold DWTInverse
  rw [← List.map_reverse]
  exact foldlM_sim _ (stepS2 .periodization gc0 gc1 gr0 gr1) (fun a => [a]) (fun d => d.map fun v => [v])
    (Compat2P gc0 gc1 gr0 gr1)
    (fun a d _ hc => ⟨step_eq2P gc0 gc1 gr0 gr1 hLc hgc hLr hgr a d hc.1, hc.2⟩) ds.reverse a hc

/-- non-vacuity of `Compat2P` (hypothesis `hc` of `DWTInverse_per_eq_waverec2`): a one-level integer pyramid with 2×2
bands and a 3×2 approximation (un-pad on the vertical axis), Haar-like integer filters -/
example : Compat2P (R := Int) [1, 1] [1, -1] [1, 1] [1, -1] [[1, 2], [3, 4], [5, 6]]
    [some [[[1, 0], [0, 1]], [[2, 0], [0, 2]], [[0, 1], [1, 0]]]] := by
  refine ⟨⟨2, 2, by decide, by decide, Or.inr rfl, Or.inl rfl, by decide, by decide, ?_⟩, trivial⟩
  exact ⟨_, _, _, rfl, ⟨rfl, rfl⟩, ⟨rfl, rfl⟩, ⟨rfl, rfl⟩⟩

end WV.C10P
