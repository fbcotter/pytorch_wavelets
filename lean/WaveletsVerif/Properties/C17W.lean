/-
  C17 — "it preserves inner products", two dimensions: for orthonormal column and row banks in periodization mode, whenever every
  level has even sides not shorter than the filters (`C17K.LevelsOK2`), the J-level 2-D transform (one channel) preserves the inner product of
  ANY two non-empty images of one shape `H × W`, `⟨DWTForward x, DWTForward z⟩ = ⟨x, z⟩` (`DWT2D_preserves_inner`; energy, `C17K.DWT2D_isometry`, is `z = x`).

  Proof: `⟨T x, T z⟩ = ⟨x, Tᵀ T z⟩` by `C17T.DWT2D_inverse_is_transpose` (any filters) with the cotangent pyramid `P := T z`, whose
  forward shapes are `forward_shapes2`; `Tᵀ T z` carries `z` in its top-left `H × W` corner by the periodization round trip
  `C02P.DWT2D_roundtrip_per` with the reversed filters as synthesis banks.
-/
import WaveletsVerif.Properties.C17T
import WaveletsVerif.Properties.C02P
namespace WV.C17W
open Finset WV WV.C04 WV.C06 WV.C05D WV.C05P WV.C17K WV.C17T WV.C02K
variable {R : Type} [CommRing R]

section
variable (hr0 hr1 hc0 hc1 : List R) (hLr : 2 ≤ hr0.length) (hLre : hr0.length % 2 = 0) (hwr : hr1.length = hr0.length)
    (hLc : 2 ≤ hc0.length) (hLce : hc0.length % 2 = 0) (hwc : hc1.length = hc0.length)

include hLr hLre hwr hLc hLce hwc in
/-- the output pyramid of the J-level forward transform has forward shapes -/
theorem forward_shapes2 : ∀ (J : Nat) (z : Img R) (H W : Nat), Rect z H W → 1 ≤ H → 1 ≤ W → LevelsOK2 hc0.length hr0.length J H W →
    ∃ zl zb, DWTForward .periodization hc0.reverse hc1.reverse hr0.reverse hr1.reverse J [z] = some ([zl], zb.map fun b => [b]) ∧
      PyrRect J H W zl zb
  | 0, z, H, W, hz, _, _, _ => ⟨z, [], rfl, hz⟩
  | J+1, z, H, W, hz, hH, hW, hok => by
    obtain ⟨hHe, hWe, hfH, hfW, hokr⟩ := hok
    obtain ⟨hKh, -, -, hfH'⟩ := halfUp_even H hc0.length hLc hHe hfH
    obtain ⟨hKw, -, -, hfW'⟩ := halfUp_even W hr0.length hLr hWe hfW
    have hfv := C05P.AFB2D_forward_val hr0 hr1 hc0 hc1 hLr hLre hwr hLc hLce hwc H W hH hW hfH' hfW' z hz
    have rB := fun wc wr : List R => rect_Ap_band_even wc wr z H W hz hH hW hHe hWe
    obtain ⟨zl, zb, hf, hp⟩ := forward_shapes2 J _ (H / 2) (W / 2) (rB hc0 hr0) hKh hKw hokr
    exact ⟨zl, [alongH (Ap hc1) (alongW (Ap hr0) z), alongH (Ap hc0) (alongW (Ap hr1) z), alongH (Ap hc1) (alongW (Ap hr1) z)] :: zb,
      DWTForward_succ _ _ _ _ _ J _ _ _ _ _ hfv hf, ⟨_, _, _, rfl, rB _ _, rB _ _, rB _ _⟩, hp⟩

theorem fitP_of_levelsOK2 (Lc Lr : Nat) : ∀ (J H W : Nat), LevelsOK2 Lc Lr J H W → C01P.LevelsFitP Lc Lr J H W
  | 0, _, _, _ => trivial
  | J+1, H, W, ⟨hHe, hWe, hfH, hfW, hr⟩ => by
    obtain ⟨eH, hH⟩ : (H + H % 2) / 2 = H / 2 ∧ Lc ≤ H + H % 2 := by omega
    obtain ⟨eW, hW⟩ : (W + W % 2) / 2 = W / 2 ∧ Lr ≤ W + W % 2 := by omega
    exact ⟨hH, hW, by rw [eH, eW]; exact fitP_of_levelsOK2 Lc Lr J _ _ hr⟩

include hLr hLre hwr hLc hLce hwc in
/-- the J-level 2-D transform with orthonormal banks preserves inner products (one channel, periodization, two non-empty images of
one shape, `LevelsOK2`) -/
theorem DWT2D_preserves_inner (horr : PRBank hr0 hr1 hr0.reverse hr1.reverse) (horc : PRBank hc0 hc1 hc0.reverse hc1.reverse)
    (J : Nat) (x z : Img R) (H W : Nat) (hx : Rect x H W) (hz : Rect z H W) (hH : 1 ≤ H) (hW : 1 ≤ W)
    (hok : LevelsOK2 hc0.length hr0.length J H W) :
    ∃ yl yh zl zb, DWTForward .periodization hc0.reverse hc1.reverse hr0.reverse hr1.reverse J [x] = some ([yl], yh) ∧
      DWTForward .periodization hc0.reverse hc1.reverse hr0.reverse hr1.reverse J [z] = some ([zl], zb.map fun b => [b]) ∧
      pdot yl yh zl zb = dot2 H W x z := by
  obtain ⟨zl, zb, hfz, hpz⟩ := forward_shapes2 hr0 hr1 hc0 hc1 hLr hLre hwr hLc hLce hwc J z H W hz hH hW hok
  obtain ⟨yl, yh, y, hfx, hi, ry, hd⟩ := DWT2D_inverse_is_transpose hr0 hr1 hc0 hc1 hLr hLre hwr hLc hLce hwc J x H W zl zb hx hH hW hok hpz
  obtain ⟨zl', zh', y', hf', hi', Hf, Wf, _, _, _, htl⟩ := C02P.DWT2D_roundtrip_per hc0 hc1 hc0.reverse hc1.reverse hLc hLce hwc (by simp) (by simp [hwc]) horc
    hr0 hr1 hr0.reverse hr1.reverse hLr hLre hwr (by simp) (by simp [hwr]) horr J z H W hz hH hW (fitP_of_levelsOK2 _ _ J H W hok)
  rw [hfz] at hf'
  simp only [Option.some.injEq, Prod.mk.injEq] at hf'
  obtain ⟨e1, e2⟩ := hf'
  subst e1 e2
  rw [List.map_map] at hi'
  have hy : some [y] = some [y'] := by
    rw [← hi, ← hi']
    congr 1
  have hyy : y = y' := by simpa using hy
  subst hyy
  refine ⟨yl, yh, zl, zb, hfx, hfz, ?_⟩
  rw [hd, idot_rect x y H W hx hH]
  unfold dot2
  apply Finset.sum_congr rfl; intro i hi2
  apply Finset.sum_congr rfl; intro j hj2
  rw [htl i (by simpa using hi2) j (by simpa using hj2)]

end

/-- the hypothesis `LevelsOK2` of `DWT2D_preserves_inner` is satisfiable: 4-tap filters, two levels on an 8 × 8 image -/
example : LevelsOK2 4 4 2 8 8 := by simp [LevelsOK2]

end WV.C17W
