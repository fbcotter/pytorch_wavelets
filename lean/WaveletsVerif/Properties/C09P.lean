/-
  C09 — the back-propagation of the first-order scattering layer is the exact ADJOINT OF ITS LINEARISATION, over any
  commutative ring and for any "division" and "square root" operations.

  Scope: one channel, no colour combination, `mode='symmetric'`, symmetric level-1 filters of odd length, image sides
  `2H × 2W` with `1 ≤ H`, `1 ≤ W`, seven cotangent images of shape `H × W`.
  Forward (one channel, no colour combination): `S0 = pool(low(x))`, `S1_o = sq(re_o² + im_o² + b²) − b` with
  `(re_o, im_o)` the six complex bands of the level-1 DTCWT of `x`.  The layer saves, per band, the factors
  `fre_o = re_o / r_o`, `fim_o = im_o / r_o` (`r_o = sq(re_o² + im_o² + b²)`) and its backward pass returns
  `inv_j1( ¼·upsample(dS0), (dS1_o · fre_o, dS1_o · fim_o)_o )`.

  `scat1_backward_adjoint`: for every direction `v`, with `δS0 = pool(low(v))` and
  `δS1_o = fre_o · re_o(v) + fim_o · im_o(v)` (the linear map whose coefficients are the saved factors),
  `⟨δS0, dS0⟩ + Σ_o ⟨δS1_o, dS1_o⟩ = ⟨v, backward(dS0, dS1)⟩`.
  Together with C09's calculus lemma (`∂ sqrt(t² + c)/∂t = t / sqrt(t² + c)`: the saved factors ARE the partial derivatives
  of the magnitude) this is the chain rule for the layer, with the differentiability of the composition as the only
  remaining analytic ingredient.
-/
import WaveletsVerif.Properties.C06
import WaveletsVerif.Properties.C04P
import WaveletsVerif.Model.Scat
namespace WV.C09P
open Finset WV WV.C04 WV.C06
variable {R : Type} [CommRing R]

theorem nearestUp2_rect (z : Img R) (H W : Nat) (hz : Rect z H W) (hH : 1 ≤ H) : Rect (nearestUp2 z) (2*H) (2*W) := by
  unfold nearestUp2
  rw [hz.1, rect_width z H W hz hH]
  exact tab2_rect _ _ _

theorem iscale_tab2 (c : R) (H W : Nat) (f : Nat → Nat → R) : iscale c (tab2 H W f) = tab2 H W fun i j => c * f i j := by
  unfold iscale vscale tab2 tab
  simp [List.map_map, Function.comp_def]

/-- 2×2 average pooling and (¼ ·) nearest-neighbour up-sampling are mutual adjoints -/
theorem pool_up_adjoint (q : R) (L z : Img R) (H W : Nat) (hL : Rect L (2*H) (2*W)) (hz : Rect z H W) (hH : 1 ≤ H) (hW : 1 ≤ W) :
    dot2 (2*H) (2*W) L (iscale q (nearestUp2 z)) = dot2 H W (avgPool2 q L) z := by
  unfold nearestUp2 avgPool2
  rw [hz.1, rect_width z H W hz hH, iscale_tab2, hL.1, rect_width L _ _ hL (by omega), Nat.mul_div_cancel_left H (by decide),
    Nat.mul_div_cancel_left W (by decide)]
  unfold dot2
  -- the four pixels of every 2 × 2 block see the same pixel of `z`
  rw [sum_range_two_mul]
  apply Finset.sum_congr rfl; intro i hi
  have hi' : i < H := Finset.mem_range.mp hi
  rw [sum_range_two_mul, sum_range_two_mul, ← Finset.sum_add_distrib]
  apply Finset.sum_congr rfl; intro j hj
  have hj' : j < W := Finset.mem_range.mp hj
  rw [get2_tab2 (2*H) (2*W) _ _ _ (two_mul_lt hi') (two_mul_lt hj'),
    get2_tab2 (2*H) (2*W) _ _ _ (two_mul_lt hi') (two_mul_succ_lt hj'),
    get2_tab2 (2*H) (2*W) _ _ _ (two_mul_succ_lt hi') (two_mul_lt hj'),
    get2_tab2 (2*H) (2*W) _ _ _ (two_mul_succ_lt hi') (two_mul_succ_lt hj'),
    get2_tab2 H W _ _ _ hi' hj', Nat.mul_div_cancel_left i (by decide), Nat.mul_div_cancel_left j (by decide),
    two_mul_succ_half, two_mul_succ_half]
  ring

/-- the factors the layer saves for one band: `re / r`, `im / r` with `r = sq(re² + im² + b²)` -/
def savedRe (m : MagOps R) (cz : Cplx R) : Img R := imap2 m.dv cz.1 (magR m cz)
def savedIm (m : MagOps R) (cz : Cplx R) : Img R := imap2 m.dv cz.2 (magR m cz)

theorem iscale_rect (c : R) (x : Img R) (H W : Nat) (hx : Rect x H W) : Rect (iscale c x) H W := by
  rw [rect_eq_tab2 x H W hx, iscale_tab2]; exact tab2_rect _ _ _

theorem bandSize_tab (H W : Nat) (hH : 1 ≤ H) (a b : Nat → Nat → Nat → R) :
    bandSize ((List.range 6).map fun k => ((tab2 H W (a k), tab2 H W (b k)) : Cplx R)) = (H, W) := by
  unfold bandSize
  simp only [List.range, List.range.loop, List.map_cons, List.headD_cons]
  rw [(tab2_rect H W (a 0)).1, rect_width _ H W (tab2_rect H W (a 0)) hH]

theorem bandCot_tab (m : MagOps R) (bx : List (Cplx R)) (d : Nat → Img R) (H W : Nat) (hH : 1 ≤ H) (hd : ∀ o < 6, Rect (d o) H W) :
    bandCot m bx d = (List.range 6).map fun k =>
      ((tab2 H W fun i j => get2 (d k) i j * get2 (savedRe m (bx.getD k ([], []))) i j,
        tab2 H W fun i j => get2 (d k) i j * get2 (savedIm m (bx.getD k ([], []))) i j) : Cplx R) := by
  unfold bandCot
  apply List.map_congr_left
  intro o ho
  have rd := hd o (List.mem_range.mp ho)
  unfold imap2
  rw [rd.1, rect_width _ H W rd hH]
  rfl

/-- moving the saved factors across the inner product: the linearised magnitude of band `k` (`re/r · δre + im/r · δim` with the
factors saved at `bx`) against `d k` is the band `bv[k]` against the cotangent of `bandCot_tab` -/
theorem lin_dot (m : MagOps R) (H W : Nat) (bx bv : List (Cplx R)) (d : Nat → Img R) (k : Nat) (hk : k < 6) :
    dot2 H W (tab2 H W fun i j => get2 (savedRe m (bx.getD k ([], []))) i j * get2 (bv.getD k ([], [])).1 i j
                               + get2 (savedIm m (bx.getD k ([], []))) i j * get2 (bv.getD k ([], [])).2 i j) (d k)
      = dot2 H W (bv.getD k ([], [])).1 (((List.range 6).map fun k =>
            ((tab2 H W fun i j => get2 (d k) i j * get2 (savedRe m (bx.getD k ([], []))) i j,
              tab2 H W fun i j => get2 (d k) i j * get2 (savedIm m (bx.getD k ([], []))) i j) : Cplx R)).getD k ([], [])).1
        + dot2 H W (bv.getD k ([], [])).2 (((List.range 6).map fun k =>
            ((tab2 H W fun i j => get2 (d k) i j * get2 (savedRe m (bx.getD k ([], []))) i j,
              tab2 H W fun i j => get2 (d k) i j * get2 (savedIm m (bx.getD k ([], []))) i j) : Cplx R)).getD k ([], [])).2 := by
  rw [getD_range_map 6 _ _ k hk]
  unfold dot2
  rw [← Finset.sum_add_distrib]
  apply Finset.sum_congr rfl; intro i hi
  rw [← Finset.sum_add_distrib]
  apply Finset.sum_congr rfl; intro j hj
  have hi' : i < H := Finset.mem_range.mp hi
  have hj' : j < W := Finset.mem_range.mp hj
  rw [get2_tab2 H W _ i j hi' hj', get2_tab2 H W _ i j hi' hj', get2_tab2 H W _ i j hi' hj']
  ring

/-- a level-1 scattering block: the inverse level applied to a low-pass cotangent `gl` and to the band cotangents `d`
multiplied by the factors saved at `x` is the adjoint of the block's linearisation at `x` -/
theorem block1 (m : MagOps R) (h0 h1 : List R) (hh0 : h0.length % 2 = 1) (hh1 : h1.length % 2 = 1)
    (hs0 : Symm h0) (hs1 : Symm h1) (x v gl : Img R) (d : Nat → Img R) (H W : Nat) (hH : 1 ≤ H) (hW : 1 ≤ W)
    (hx : Rect x (2*H) (2*W)) (hv : Rect v (2*H) (2*W)) (hgl : Rect gl (2*H) (2*W)) (hd : ∀ o < 6, Rect (d o) H W) :
    ∃ bx bv y, (fwdJ1 m.s true (prepFilt h0) (prepFilt h1) false x).2 = some bx ∧
      (fwdJ1 m.s true (prepFilt h0) (prepFilt h1) false v).2 = some bv ∧
      inv1 m true (prepFilt h0) (prepFilt h1) none gl (bandCot m bx d) = some y ∧ Rect y (2*H) (2*W) ∧
      dot2 (2*H) (2*W) (fwdJ1 m.s true (prepFilt h0) (prepFilt h1) false v).1 gl
        + ∑ k ∈ range 6, dot2 H W
            (tab2 H W fun i j => get2 (savedRe m (bx.getD k ([], []))) i j * get2 (bv.getD k ([], [])).1 i j
                               + get2 (savedIm m (bx.getD k ([], []))) i j * get2 (bv.getD k ([], [])).2 i j) (d k)
        = dot2 (2*H) (2*W) v y := by
  obtain ⟨bx, hbx, _⟩ := (C04P.fwdJ1_shape m.s h0 h1 hh0 hh1 x H W hH hW hx).2
  obtain ⟨bv, y, hbv, hy, ry, hid⟩ := fwdJ1_backward_adjoint_rect m.s h0 h1 hh0 hh1 hs0 hs1 v gl H W hH hW hv hgl
    (fun k i j => get2 (d k) i j * get2 (savedRe m (bx.getD k ([], []))) i j)
    (fun k i j => get2 (d k) i j * get2 (savedIm m (bx.getD k ([], []))) i j)
  refine ⟨bx, bv, y, hbx, hbv, ?_, ry, ?_⟩
  · rw [bandCot_tab m bx d H W hH hd]
    unfold inv1
    simp only []
    rw [bandSize_tab H W hH]
    exact hy
  · rw [Finset.sum_congr rfl (fun k hk => lin_dot m H W bx bv d k (Finset.mem_range.mp hk)), hid]

/-- the layer's backward pass on one channel is one call of the inverse level -/
theorem scatJ1Backward_one (m : MagOps R) (h0 h1 : List R) (x : Img R) (dZ : List (Img R)) :
    scatJ1Backward m true h0 h1 none [x] dZ
      = (inv1 m true h0 h1 none (iscale m.q (nearestUp2 (dZ.getD 0 [])))
          (bandCot m (fwd1 m true h0 h1 none x).2 fun o => dZ.getD (o + 1) [])).bind fun y => some [y] := by
  have hrange : List.range 1 = [0] := rfl
  unfold scatJ1Backward inv1 bandCot
  simp only [List.length_cons, List.length_nil, zero_add, hrange, List.map_cons, List.map_nil, List.mapM_cons, List.mapM_nil,
    List.getD_cons_zero, Nat.one_mul, Nat.add_zero]
  rfl

/-- the backward pass of the first-order scattering layer is the adjoint of its linearisation (one channel, no colour
combination, symmetric odd-length level-1 filters, even image sides; any ring, any `sq` and `dv`) -/
theorem scat1_backward_adjoint (m : MagOps R) (h0 h1 : List R) (hh0 : h0.length % 2 = 1) (hh1 : h1.length % 2 = 1)
    (hs0 : Symm h0) (hs1 : Symm h1) (x v : Img R) (dZ : List (Img R)) (H W : Nat) (hH : 1 ≤ H) (hW : 1 ≤ W)
    (hx : Rect x (2*H) (2*W)) (hv : Rect v (2*H) (2*W)) (hd : ∀ k < 7, Rect (dZ.getD k []) H W) :
    ∃ bx bv dx, (fwdJ1 m.s true (prepFilt h0) (prepFilt h1) false x).2 = some bx ∧
      (fwdJ1 m.s true (prepFilt h0) (prepFilt h1) false v).2 = some bv ∧
      scatJ1Backward m true (prepFilt h0) (prepFilt h1) none [x] dZ = some [dx] ∧
      dot2 H W (avgPool2 m.q (fwdJ1 m.s true (prepFilt h0) (prepFilt h1) false v).1) (dZ.getD 0 [])
        + ∑ k ∈ range 6, dot2 H W
            (tab2 H W fun i j => get2 (savedRe m (bx.getD k ([], []))) i j * get2 (bv.getD k ([], [])).1 i j
                               + get2 (savedIm m (bx.getD k ([], []))) i j * get2 (bv.getD k ([], [])).2 i j)
            (dZ.getD (k + 1) [])
        = dot2 (2*H) (2*W) v dx := by
  obtain ⟨bx, bv, y, hbx, hbv, hy, _, hid⟩ := block1 m h0 h1 hh0 hh1 hs0 hs1 x v (iscale m.q (nearestUp2 (dZ.getD 0 [])))
    (fun o => dZ.getD (o + 1) []) H W hH hW hx hv (iscale_rect _ _ _ _ (nearestUp2_rect _ H W (hd 0 (by omega)) hH))
    (fun o ho => hd (o + 1) (by omega))
  refine ⟨bx, bv, y, hbx, hbv, ?_, ?_⟩
  · have e : (fwd1 m true (prepFilt h0) (prepFilt h1) none x).2 = bx := by simp only [fwd1, hbx, Option.getD_some]
    rw [scatJ1Backward_one, e, hy]
    rfl
  · rw [← pool_up_adjoint m.q (fwdJ1 m.s true (prepFilt h0) (prepFilt h1) false v).1 (dZ.getD 0 []) H W
      (C04P.fwdJ1_shape m.s h0 h1 hh0 hh1 v H W hH hW hv).1 (hd 0 (by omega)) hH hW]
    exact hid

end WV.C09P

namespace WV.C09P
open WV WV.C04
/-- the hypotheses `hs0`/`hs1` (`Symm`), `hh0`/`hh1` (odd length) and `hx` (`H = W = 2`) of `scat1_backward_adjoint` are
satisfiable over ℤ: the symmetric odd-length filter `[1, 2, 1]`, a 4 × 4 image -/
example : Symm ([1, 2, 1] : List Int) ∧ ([1, 2, 1] : List Int).length % 2 = 1 ∧
    Rect ([[1, 2, 3, 4], [5, 6, 7, 8], [1, 0, 1, 0], [2, 2, 2, 2]] : Img Int) (2 * 2) (2 * 2) := by
  refine ⟨?_, by decide, by simp [Rect]⟩
  intro j hj
  have : j = 0 ∨ j = 1 ∨ j = 2 := by simp at hj; omega
  rcases this with rfl | rfl | rfl <;> decide
end WV.C09P
