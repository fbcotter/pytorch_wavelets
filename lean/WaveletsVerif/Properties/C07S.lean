/-
  C07 — the stationary transform: linearity, raise-by-shape and slice independence of the whole J-level `SWTForward`
  (dwt/transform2d.py), in every padding mode it accepts, for every channel count `C ≥ 1` and even filter lengths.

  `afb1d_atrous` is "a guard on the length, then a linear map" (`C07D.afb1dAtrousOne_guardedLin`).  The grouped
  convolution on a stack (`genT`: the shape shared by `afb1d` and `afb1d_atrous`) either raises for every stack of a
  shape or applies the same two linear operators to every channel; two passes give four fixed linear image operators per
  channel (`gen2d_rep`, from `C07L.twoPass_rep`), and the level loop of `SWTForward` (dilation `2^j`, next level fed with
  band 0) gives one fixed linear image operator per (level, band) (`SWTForward_rep`).  The even filter lengths (every
  wavelet has them) are what makes every output non-empty (`afb1dAtrousOne_some_pos`), so that the next pass has
  something to act on.
-/
import WaveletsVerif.Properties.C07L
import WaveletsVerif.Properties.C07D
namespace WV.C07S
open Finset WV WV.C04 WV.C06 WV.C05D WV.C07 WV.C07D WV.C07M WV.C07L
variable {R : Type} [CommRing R]

/-- the grouped convolution of `afb1d` / `afb1d_atrous` on a stack, for any one-channel operator family `T w` -/
def genT (ax : Axis) (T : List R → List R → Option (List R)) (w0 w1 : List R) (x : List (Img R)) : Option (List (Img R)) :=
  (grouped x.length ((List.replicate x.length [w0, w1]).flatten) x fun w ch => alongO ax (T w) ch).mapM id

theorem afb1dAtrousT_eq (ax : Axis) (mode : Mode) (d : Nat) (w0 w1 : List R) (x : List (Img R)) :
    afb1dAtrousT ax mode d w0 w1 x = genT ax (afb1dAtrousOne mode d) w0 w1 x := rfl

theorem afb1dT_eq (ax : Axis) (mode : Mode) (w0 w1 : List R) (x : List (Img R)) :
    afb1dT ax mode w0 w1 x = genT ax (afb1dOne mode) w0 w1 x := rfl

theorem genT_total (ax : Axis) (T : List R → List R → Option (List R)) (w0 w1 : List R) (x : List (Img R)) (g0 g1 : Img R → Img R)
    (h : ∀ c < x.length, alongO ax (T w0) (x.getD c []) = some (g0 (x.getD c [])) ∧
                         alongO ax (T w1) (x.getD c []) = some (g1 (x.getD c []))) :
    genT ax T w0 w1 x
      = some (tab (2 * x.length) fun o => if o % 2 = 0 then g0 (x.getD (o/2) []) else g1 (x.getD (o/2) [])) := by
  exact grouped_pair_total (fun w ch => alongO ax (T w) ch) w0 w1 x g0 g1 h

/-- the grouped convolution raises as soon as one of the two one-channel operators raises on some channel -/
theorem genT_none (ax : Axis) (T : List R → List R → Option (List R)) (w0 w1 : List R) (xs : List (Img R)) (c : Nat) (hc : c < xs.length)
    (h : alongO ax (T w0) (xs.getD c []) = none ∨ alongO ax (T w1) (xs.getD c []) = none) :
    genT ax T w0 w1 xs = none := by
  exact grouped_pair_none (fun w ch => alongO ax (T w) ch) w0 w1 xs c hc h

/-- outputs of the operator `T w` are never empty -/
def Pos (T : List R → List R → Option (List R)) (w : List R) : Prop := ∀ x y, T w x = some y → 1 ≤ y.length

/-- two grouped passes (rows, then columns) on a stack of `C ≥ 1` images of one shape: a refusal decided by the
shape, or four fixed linear image operators; output channel `4c + k` is operator `k` applied to channel `c` -/
theorem gen2d_rep (T : List R → List R → Option (List R)) (hG : ∀ w, GuardedLin (T w)) (wr0 wr1 wc0 wc1 : List R)
    (pr0 : Pos T wr0) (pr1 : Pos T wr1) (pc0 : Pos T wc0) (H W : Nat) (hH : 1 ≤ H) (hW : 1 ≤ W) :
    ∃ (ok : Bool) (K : Nat → Img R → Img R),
      (ok = true → (∃ H' W', 1 ≤ H' ∧ 1 ≤ W' ∧ ImgLin (K 0) H W H' W') ∧ ∀ k < 4, ∃ h w, ImgLin (K k) H W h w) ∧
      ∀ xs : List (Img R), Shape xs H W → 1 ≤ xs.length →
        (genT .W T wr0 wr1 xs).bind (genT .H T wc0 wc1)
          = if ok then some (tab (2 * (2 * xs.length)) fun o => K (o % 4) (xs.getD (o / 4) [])) else none := by
  obtain ⟨gr0, Fr0, lr0, er0⟩ := hG wr0
  obtain ⟨gr1, Fr1, lr1, er1⟩ := hG wr1
  obtain ⟨gc0, Fc0, lc0, ec0⟩ := hG wc0
  obtain ⟨gc1, Fc1, lc1, ec1⟩ := hG wc1
  have p0 := outLen_pos_of_guard er0 pr0 W
  have p1 := outLen_pos_of_guard er1 pr1 W
  refine ⟨gr0 W && gr1 W && gc0 H && gc1 H, bandOp Fr0 Fr1 Fc0 Fc1, ?_, ?_⟩
  · intro hok
    simp only [Bool.and_eq_true] at hok
    obtain ⟨⟨⟨g1, g2⟩, g3⟩, _⟩ := hok
    have L := bandOp_imgLin lr0 lr1 lc0 lc1 H W hH (p0 g1) (p1 g2)
    exact ⟨⟨_, _, outLen_pos_of_guard ec0 pc0 H g3, p0 g1, L 0⟩, fun k _ => ⟨_, _, L k⟩⟩
  · intro xs hxs hC
    exact twoPass_rep T wr0 wr1 wc0 wc1 lr0 lr1 er0 er1 ec0 ec1 H W hH p0 p1 xs hxs hC

/-- an even filter length makes the padded signal long enough for the dilated filter: the output is never empty -/
theorem afb1dAtrousOne_some_pos (m : Mode) (d : Nat) (w : List R) (hLe : w.length % 2 = 0) : Pos (afb1dAtrousOne m d) w := by
  intro x y h
  by_cases hg : w.length < 2 ∨ x.length < 1 ∨ d < 1 ∨ (w.length * d) / 2 < d
  · simp only [afb1dAtrousOne, hg, if_true] at h
    cases h
  · have hlen := corrLen_atrous_pos w.length x.length d hLe (by omega) (by omega)
    simp only [afb1dAtrousOne, hg, if_false] at h
    cases m with
    | periodic =>
      obtain rfl := Option.some.inj h
      rw [corr_length, length_padIdx]
      exact hlen
    | symmetric =>
      obtain rfl := Option.some.inj h
      rw [corr_length, length_padIdx]
      exact hlen
    | zero =>
      obtain rfl := Option.some.inj h
      rw [corr_length, length_zeroPad]
      exact hlen
    | reflect =>
      dsimp only at h
      split at h
      · obtain rfl := Option.some.inj h
        rw [corr_length, length_padIdx]
        exact hlen
      · cases h
    | periodization => cases h
    | constant => cases h
    | replicate => cases h

theorem afb2dAtrous_eq (m : Mode) (d : Nat) (wc0 wc1 wr0 wr1 : List R) (xs : List (Img R)) :
    afb2dAtrous m d wc0 wc1 wr0 wr1 xs
      = (genT .W (afb1dAtrousOne m d) wr0 wr1 xs).bind (genT .H (afb1dAtrousOne m d) wc0 wc1) := rfl

/-- the J-level `SWTForward` on a stack of `C ≥ 1` images of one shape: whether it raises is decided by the shape,
and when it returns, channel `c` of band `k` of level `l` is one fixed linear image operator applied to channel `c` -/
theorem SWTForward_rep (mode : Mode) (wc0 wc1 wr0 wr1 : List R) (he : wr0.length % 2 = 0 ∧ wr1.length % 2 = 0 ∧ wc0.length % 2 = 0) :
    ∀ (J j H W : Nat), 1 ≤ H → 1 ≤ W →
    ∃ (ok : Bool) (D : Nat → Nat → Img R → Img R),
      (ok = true → ∀ l < J, ∀ k < 4, ∃ h w, ImgLin (D l k) H W h w) ∧
      ∀ xs : List (Img R), Shape xs H W → 1 ≤ xs.length →
        SWTForward mode wc0 wc1 wr0 wr1 J j xs
          = if ok then some (tab J fun l => tab xs.length fun c =>
                [D l 0 (xs.getD c []), D l 1 (xs.getD c []), D l 2 (xs.getD c []), D l 3 (xs.getD c [])])
            else none := by
  intro J
  induction J with
  | zero =>
    intro j H W _ _
    refine ⟨true, fun _ _ x => x, fun _ l hl => by omega, ?_⟩
    intro xs _ _
    simp only [SWTForward, if_true]
    rfl
  | succ J ih =>
    intro j H W hH hW
    obtain ⟨ok1, K, h1, e1⟩ := gen2d_rep (afb1dAtrousOne (if mode = Mode.periodization then Mode.periodic else mode) (2^j))
      (fun w => afb1dAtrousOne_guardedLin _ _ w) wr0 wr1 wc0 wc1
      (afb1dAtrousOne_some_pos _ _ wr0 he.1) (afb1dAtrousOne_some_pos _ _ wr1 he.2.1) (afb1dAtrousOne_some_pos _ _ wc0 he.2.2) H W hH hW
    cases ok1 with
    | false =>
      refine ⟨false, fun _ _ x => x, ⟨fun h => Bool.noConfusion h, ?_⟩⟩
      intro xs hxs hC
      simp only [SWTForward, afb2dAtrous_eq, e1 xs hxs hC, Bool.false_eq_true, if_false]
      rfl
    | true =>
      obtain ⟨⟨H', W', pH, pW, lK0⟩, lK⟩ := h1 rfl
      obtain ⟨ok2, D2, h2, e2⟩ := ih (j+1) H' W' pH pW
      -- level 0 is `K 0 … K 3` at dilation `2^j`; the remaining levels act on band 0, `K 0 x`, at dilation `2^(j+1)`
      refine ⟨ok2, fun l k => match l with
          | 0 => K k
          | l+1 => fun x => D2 l k (K 0 x), ?_, ?_⟩
      · intro hok l hl k hk
        cases l with
        | zero => exact lK k hk
        | succ l =>
          obtain ⟨h, w, ll⟩ := h2 hok l (by omega) k hk
          exact ⟨h, w, lK0.comp ll⟩
      · intro xs hxs hC
        have hnext : ((tab xs.length fun c => [K 0 (xs.getD c []), K 1 (xs.getD c []), K 2 (xs.getD c []), K 3 (xs.getD c [])]).map
            fun b => b.getD 0 []) = tab xs.length fun c => K 0 (xs.getD c []) := by
          rw [map_tab]; rfl
        have hll : Shape (tab xs.length fun c => K 0 (xs.getD c [])) H' W' := by
          intro c hc
          rw [length_tab] at hc
          rw [getD_tab, if_pos hc]
          exact lK0.rect _ (hxs c hc)
        simp only [SWTForward, afb2dAtrous_eq, e1 xs hxs hC, if_true, Option.bind_eq_bind, Option.bind_some, length_tab]
        rw [tab_quads, hnext, e2 _ hll (by rw [length_tab]; exact hC)]
        cases ok2 with
        | false => rfl
        | true =>
          simp only [if_true, Option.bind_some, length_tab]
          rw [tab_succ_cons]
          refine congrArg some ?_
          simp only [List.cons.injEq, true_and]
          apply tab_ext rfl
          intro l _
          apply tab_ext rfl
          intro c hc
          simp only [getD_tab, hc, if_true]

/-- `a·u + b·v` on a list of levels of stacks of band lists -/
def hlin (a b : R) (u v : List (List (List (Img R)))) : List (List (List (Img R))) :=
  tab u.length fun j => tab (u.getD j []).length fun c => tab ((u.getD j []).getD c []).length fun k =>
    ilin a b (((u.getD j []).getD c []).getD k []) (((v.getD j []).getD c []).getD k [])

/-- the J-level stationary transform is linear, for every J, mode, even-length filters, channel count and image size:
`SWTForward(a·x + b·y) = a·SWTForward(x) + b·SWTForward(y)`, raising iff it raises on `x` (equivalently on `y`) -/
theorem SWTForward_linear (mode : Mode) (wc0 wc1 wr0 wr1 : List R) (he : wr0.length % 2 = 0 ∧ wr1.length % 2 = 0 ∧ wc0.length % 2 = 0)
    (J j : Nat) (a b : R) (xs ys : List (Img R)) (H W : Nat)
    (hx : Shape xs H W) (hy : Shape ys H W) (hlen : ys.length = xs.length) (hC : 1 ≤ xs.length) (hH : 1 ≤ H) (hW : 1 ≤ W) :
    SWTForward mode wc0 wc1 wr0 wr1 J j (slin a b xs ys)
      = (SWTForward mode wc0 wc1 wr0 wr1 J j xs).bind fun u => (SWTForward mode wc0 wc1 wr0 wr1 J j ys).bind fun v =>
          some (hlin a b u v) := by
  obtain ⟨ok, D, hl, e⟩ := SWTForward_rep mode wc0 wc1 wr0 wr1 he J j H W hH hW
  have hsl : (slin a b xs ys).length = xs.length := by simp [slin]
  rw [e _ (slin_shape a b xs ys H W hx) (by rw [hsl]; exact hC), e xs hx hC, e ys hy (by rw [hlen]; exact hC)]
  cases ok with
  | false => rfl
  | true =>
    have lD := hl rfl
    simp only [if_true, Option.bind_some, hsl, hlen]
    refine congrArg some ?_
    simp only [hlin, length_tab]
    apply tab_ext rfl
    intro l hl'
    simp only [getD_tab, hl', if_true, length_tab]
    apply tab_ext rfl
    intro c hc
    simp only [getD_tab, hc, if_true, slin, List.length_cons, List.length_nil]
    rw [tab4]
    obtain ⟨_, _, l0⟩ := lD l hl' 0 (by omega)
    obtain ⟨_, _, l1⟩ := lD l hl' 1 (by omega)
    obtain ⟨_, _, l2⟩ := lD l hl' 2 (by omega)
    obtain ⟨_, _, l3⟩ := lD l hl' 3 (by omega)
    have hxc := hx c hc
    have hyc := hy c (by rw [hlen]; exact hc)
    simp only [List.getD_cons_zero, List.getD_cons_succ]
    rw [l0.lin a b _ _ hxc hyc, l1.lin a b _ _ hxc hyc, l2.lin a b _ _ hxc hyc, l3.lin a b _ _ hxc hyc]

/-- whether the stationary transform raises depends on the shape of the stack only -/
theorem SWTForward_raises_by_shape (mode : Mode) (wc0 wc1 wr0 wr1 : List R)
    (he : wr0.length % 2 = 0 ∧ wr1.length % 2 = 0 ∧ wc0.length % 2 = 0) (J j : Nat) (xs ys : List (Img R)) (H W : Nat)
    (hx : Shape xs H W) (hy : Shape ys H W) (hCx : 1 ≤ xs.length) (hCy : 1 ≤ ys.length) (hH : 1 ≤ H) (hW : 1 ≤ W) :
    SWTForward mode wc0 wc1 wr0 wr1 J j xs = none ↔ SWTForward mode wc0 wc1 wr0 wr1 J j ys = none := by
  obtain ⟨ok, D, _, e⟩ := SWTForward_rep mode wc0 wc1 wr0 wr1 he J j H W hH hW
  rw [e xs hx hCx, e ys hy hCy]
  cases ok <;> simp

/-- slice independence of the stationary transform: channel `c` of every level depends on channel `c` of the input
only, whatever the other channels hold and however many there are -/
theorem SWTForward_slice (mode : Mode) (wc0 wc1 wr0 wr1 : List R) (he : wr0.length % 2 = 0 ∧ wr1.length % 2 = 0 ∧ wc0.length % 2 = 0)
    (J j : Nat) (xs ys : List (Img R)) (H W : Nat)
    (hx : Shape xs H W) (hy : Shape ys H W) (hH : 1 ≤ H) (hW : 1 ≤ W) (c c' : Nat) (hc : c < xs.length) (hc' : c' < ys.length)
    (hsame : xs.getD c [] = ys.getD c' []) (u v : List (List (List (Img R))))
    (hu : SWTForward mode wc0 wc1 wr0 wr1 J j xs = some u) (hv : SWTForward mode wc0 wc1 wr0 wr1 J j ys = some v) :
    ∀ l < J, (u.getD l []).getD c [] = (v.getD l []).getD c' [] := by
  obtain ⟨ok, D, _, e⟩ := SWTForward_rep mode wc0 wc1 wr0 wr1 he J j H W hH hW
  rw [e xs hx (by omega)] at hu
  rw [e ys hy (by omega)] at hv
  cases ok with
  | false => cases hu
  | true =>
    simp only [if_true, Option.some.injEq] at hu hv
    subst hu; subst hv
    intro l hl
    simp only [getD_tab, hl, hc, hc', if_true, hsame]

/-- the parity hypothesis is satisfiable: the Haar buffers -/
example : ([1, 1] : List Int).length % 2 = 0 ∧ ([1, -1] : List Int).length % 2 = 0 ∧ ([1, 1] : List Int).length % 2 = 0 := by decide

end WV.C07S
