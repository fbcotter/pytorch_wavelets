/-
  C13 — the stationary transform on ANY number of channels: every channel of every level of `SWTForward` is `pywt.swt2`
  of that channel alone (`SWTForward_multi`), for every C, every J, every non-empty image and all even filter lengths ≥ 2,
  in the modes 'periodization' / 'periodic'.
-/
import WaveletsVerif.Properties.C13
import WaveletsVerif.Properties.C01M
namespace WV.C13M
open WV WV.C13 WV.C01M
variable {R : Type} [CommRing R]

/-- one undecimated level on a stack of `C` images: channel `4c + k` is band `k` of `swt2Level` of channel `c` -/
theorem afb2dAtrous_multi (c0 c1 r0 r1 : List R) (hc0 : 2 ≤ c0.length ∧ c0.length % 2 = 0)
    (hc1 : 2 ≤ c1.length ∧ c1.length % 2 = 0) (hr0 : 2 ≤ r0.length ∧ r0.length % 2 = 0)
    (hr1 : 2 ≤ r1.length ∧ r1.length % 2 = 0) (d : Nat) (hd : 1 ≤ d) (xs : List (Img R)) (hx : ∀ x ∈ xs, C01.NonEmptyImg x) :
    afb2dAtrous .periodic d c0.reverse c1.reverse r0.reverse r1.reverse xs
      = some (tab (2 * (2 * xs.length)) fun o => (Spec.swt2Level c0 c1 r0 r1 d (xs.getD (o / 4) [])).getD (o % 4) []) := by
  -- the row pass: channel `o` is the row filter `o % 2` on input channel `o / 2`
  set T : List (Img R) := tab (2 * xs.length) fun o =>
    if o % 2 = 0 then Spec.rowsMap (fun r => Spec.swt r0 r d) (xs.getD (o/2) [])
    else Spec.rowsMap (fun r => Spec.swt r1 r d) (xs.getD (o/2) []) with hT
  have hrow : afb1dAtrousT .W .periodic d r0.reverse r1.reverse xs = some T :=
    grouped_pair_total _ r0.reverse r1.reverse xs _ _
      (fun c hc => ⟨atrous_W r0 hr0.1 hr0.2 d hd _ (hx _ (getD_mem xs c [] hc)).2, atrous_W r1 hr1.1 hr1.2 d hd _ (hx _ (getD_mem xs c [] hc)).2⟩)
  have hl : T.length = 2 * xs.length := length_tab _ _
  have hg : ∀ o < 2 * xs.length, T.getD o [] = if o % 2 = 0 then Spec.rowsMap (fun r => Spec.swt r0 r d) (xs.getD (o/2) [])
      else Spec.rowsMap (fun r => Spec.swt r1 r d) (xs.getD (o/2) []) := by
    intro o ho; rw [hT, getD_tab, if_pos ho]
  have hcol : afb1dAtrousT .H .periodic d c0.reverse c1.reverse T
      = some (tab (2 * T.length) fun o => if o % 2 = 0 then Spec.colsMap (fun c => Spec.swt c0 c d) (T.getD (o/2) [])
          else Spec.colsMap (fun c => Spec.swt c1 c d) (T.getD (o/2) [])) := by
    apply grouped_pair_total
    intro o ho
    rw [hl] at ho
    have hyl : 1 ≤ (T.getD o []).length := by
      rw [hg o ho]
      have hne := (hx _ (getD_mem xs (o/2) [] (by omega))).1
      split <;> (rw [Spec.rowsMap, List.length_map]; exact hne)
    exact ⟨atrous_H c0 hc0.1 hc0.2 d hd _ hyl, atrous_H c1 hc1.1 hc1.2 d hd _ hyl⟩
  unfold afb2dAtrous
  rw [hrow, Option.bind_eq_bind, Option.bind_some, hcol, hl]
  refine congrArg some (tab_ext rfl fun o ho => ?_)
  rw [hg (o/2) (by omega), apply_ite (Spec.colsMap _), apply_ite (Spec.colsMap _), Nat.div_div_eq_div_mul]
  exact ite_ite_eq_getD _ _ _ _ [] o

/-- `SWTForward` on ANY number of channels acts channel by channel: level `j`, channel `c` is level `j` of
`pywt.swt2` of channel `c` alone, for every J (modes 'periodization' / 'periodic', even filter lengths ≥ 2, non-empty
images) -/
theorem SWTForward_multi (mode : Mode) (hm : mode = .periodization ∨ mode = .periodic)
    (c0 c1 r0 r1 : List R) (hc0 : 2 ≤ c0.length ∧ c0.length % 2 = 0) (hc1 : 2 ≤ c1.length ∧ c1.length % 2 = 0)
    (hr0 : 2 ≤ r0.length ∧ r0.length % 2 = 0) (hr1 : 2 ≤ r1.length ∧ r1.length % 2 = 0)
    (J : Nat) (xs : List (Img R)) (hx : ∀ x ∈ xs, C01.NonEmptyImg x) :
    SWTForwardM mode J [c0, c1, r0, r1] xs
      = some ((List.range J).map fun j => xs.map fun x => (Spec.swt2 c0 c1 r0 r1 J 0 x).getD j []) := by
  simp only [SWTForwardM, wave4, Option.bind_eq_bind, Option.bind_some]
  have hmm := swtMode_periodic hm
  suffices H : ∀ (J j : Nat) (xs : List (Img R)), (∀ x ∈ xs, C01.NonEmptyImg x) →
      SWTForward mode c0.reverse c1.reverse r0.reverse r1.reverse J j xs
        = some ((List.range J).map fun k => xs.map fun x => (Spec.swt2 c0 c1 r0 r1 J j x).getD k []) from H J 0 xs hx
  intro J
  induction J with
  | zero => intro j xs _; simp [SWTForward]
  | succ J ih =>
    intro j xs hx
    simp only [SWTForward, hmm]
    rw [afb2dAtrous_multi c0 c1 r0 r1 hc0 hc1 hr0 hr1 (2^j) (Nat.one_le_two_pow) xs hx]
    simp only [Option.bind_eq_bind, Option.bind_some, length_tab]
    set Y := tab (2 * (2 * xs.length)) fun o => (Spec.swt2Level c0 c1 r0 r1 (2^j) (xs.getD (o / 4) [])).getD (o % 4) [] with hY
    have hyr : (tab (2 * (2 * xs.length) / 4) fun c => [Y.getD (4*c) [], Y.getD (4*c+1) [], Y.getD (4*c+2) [], Y.getD (4*c+3) []])
        = xs.map fun x => Spec.swt2Level c0 c1 r0 r1 (2^j) x := by
      rw [map_eq_tab xs _ []]
      exact tab_quads xs.length (fun k x => (Spec.swt2Level c0 c1 r0 r1 (2^j) x).getD k []) xs [] []
    rw [hyr]
    have hnext : ∀ y ∈ (xs.map fun x => Spec.swt2Level c0 c1 r0 r1 (2^j) x).map (fun b => b.getD 0 []), C01.NonEmptyImg y := by
      intro y hy
      simp only [List.mem_map] at hy
      obtain ⟨b, ⟨x, hxm, rfl⟩, rfl⟩ := hy
      simp only [Spec.swt2Level, List.getD_cons_zero]
      exact level_A_nonempty c0 r0 (2^j) x (hx x hxm)
    rw [ih (j+1) _ hnext]
    simp only [Option.bind_some, List.map_map, Function.comp_def]
    congr 1
    rw [List.range_succ_eq_map]
    simp only [List.map_cons, List.map_map, Function.comp_def, Spec.swt2, List.getD_cons_zero, List.getD_cons_succ]

end WV.C13M
