/-
  C12 — the axis tables `get_dimensions5/6` (translated from the source on every
  run into `Gen/Dims.lean`) point at the image rows/columns and at the
  orientation / real-imaginary axes for ALL integer `(o_dim, ri_dim)` with distinct
  residues mod 6 (`o % 6 ≠ ri % 6`), negative aliases included; the layout is a permutation of the canonical axes.
  Second part: the options of the DTCWT forward level loop (`dtcwtFwdLoop`, the levels ≥ 2; level 1 in `fwdJ1_skip_ll`),
  for runs that return — `skip_hps` only replaces the skipped levels by placeholders, the final low-pass and the band-pass
  levels do not depend on `include_scale`, and the first levels of a deeper transform are the shallower transform, stated
  with no `include_scale` (`loop_skip`, `loop_include`, `loop_prefix`).
-/
import WaveletsVerif.Gen.Dims
import WaveletsVerif.Model.Dtcwt
import Mathlib.Tactic.IntervalCases
namespace WV.C12
open WV WV.Gen

/-- the 6-D layout the forward transform produces for the (already reduced) pair `(o, ri)`:
`torch.stack(bands, dim=o5)` then `torch.stack((re, im), dim=ri)` -/
def layout6 (o ri : Nat) : List Ax := layoutOf (if ri < o then o - 1 else o) ri

/-- the 5-D layout seen inside the autograd Functions after `unbind(ri_dim)` -/
def layout5 (o ri : Nat) : List Ax := insertAt [.N, .C, .H, .W] (if ri < o then o - 1 else o) .O

theorem emod_six (o : Int) : 0 ≤ o % 6 ∧ o % 6 < 6 := by omega

/-- `get_dimensions6` is right for every integer pair with distinct residues mod 6:
the orientation axis sits at `o_dim % 6`, the real/imaginary axis at `ri_dim % 6`, and the
returned `h_dim`, `w_dim` are the positions of the image rows and columns. -/
theorem dims6_correct (o ri : Int) (hne : o % 6 ≠ ri % 6) :
    ∃ o5 r h w, get_dimensions6 o ri = some (o5, r, h, w) ∧ r = ri % 6 ∧
      (layout6 (o % 6).toNat (ri % 6).toNat)[(o % 6).toNat]? = some Ax.O ∧
      (layout6 (o % 6).toNat (ri % 6).toNat)[(ri % 6).toNat]? = some Ax.RI ∧
      (layout6 (o % 6).toNat (ri % 6).toNat)[h.toNat]? = some Ax.H ∧
      (layout6 (o % 6).toNat (ri % 6).toNat)[w.toNat]? = some Ax.W ∧ 0 ≤ h ∧ 0 ≤ w := by
  obtain ⟨h1, h2⟩ := emod_six o
  obtain ⟨h3, h4⟩ := emod_six ri
  unfold get_dimensions6
  generalize o % 6 = a at *
  generalize ri % 6 = b at *
  interval_cases a <;> interval_cases b <;> first | (exact absurd rfl hne) | (refine ⟨_, _, _, _, rfl, ?_⟩; decide)

/-- `get_dimensions5`: after the real/imaginary axis has been removed the orientation axis is
at the returned `o_dim` and `h_dim`, `w_dim` are the rows and columns. -/
theorem dims5_correct (o ri : Int) (hne : o % 6 ≠ ri % 6) :
    ∃ o5 r h w, get_dimensions5 o ri = some (o5, r, h, w) ∧ r = ri % 6 ∧
      o5 = (if ri % 6 < o % 6 then o % 6 - 1 else o % 6) ∧
      (layout5 (o % 6).toNat (ri % 6).toNat)[o5.toNat]? = some Ax.O ∧
      (layout5 (o % 6).toNat (ri % 6).toNat)[h.toNat]? = some Ax.H ∧
      (layout5 (o % 6).toNat (ri % 6).toNat)[w.toNat]? = some Ax.W ∧ 0 ≤ o5 ∧ 0 ≤ h ∧ 0 ≤ w := by
  obtain ⟨h1, h2⟩ := emod_six o
  obtain ⟨h3, h4⟩ := emod_six ri
  unfold get_dimensions5
  generalize o % 6 = a at *
  generalize ri % 6 = b at *
  interval_cases a <;> interval_cases b <;> first | (exact absurd rfl hne) | (refine ⟨_, _, _, _, rfl, ?_⟩; decide)

/-- the layout only moves axes: it is a permutation of the six canonical axes, so the
band-pass values are re-arranged, never changed or dropped -/
theorem layoutOf_perm (o5 ri : Nat) (ho : o5 ≤ 4) (hr : ri ≤ 5) :
    ((layoutOf o5 ri).map Ax.canon).length = 6 ∧
      (List.range 6).all (fun k => ((layoutOf o5 ri).map Ax.canon).contains k) = true := by
  interval_cases o5 <;> interval_cases ri <;> decide

/-- an evaluation at the default `(o_dim, ri_dim) = (2, -1)`: `get_dimensions6` returns `(2, 5, 3, 4)` and the layout is
`(N, C, 6, H, W, 2)` -/
example : get_dimensions6 2 (-1) = some (2, 5, 3, 4) ∧ layout6 2 5 = [.N, .C, .O, .H, .W, .RI] := by decide

/-! ### skip / include masks and prefix consistency: properties of the level loop

Generic in the scalar type; no arithmetic is used, only the shape of the loop. -/

variable {R : Type} [Add R] [Sub R] [Mul R] [OfNat R 0]

/-- level ≥ 2: whether or not the band-pass is skipped, the low-pass handed to the next level is the same -/
theorem fwdJ2_skip_ll (s : R) (h0a h1a h0b h1b : List R) (x : Img R) (r r' : Img R × Option (List (Cplx R)))
    (h : fwdJ2 s h0a h1a h0b h1b true x = some r) (h' : fwdJ2 s h0a h1a h0b h1b false x = some r') :
    r.1 = r'.1 ∧ r.2 = none ∧ r'.2 ≠ none := by
  unfold fwdJ2 at h h'
  cases hlo : rowdfilt h0b h0a false x with
  | none => simp [hlo] at h
  | some lo =>
    cases hll : coldfilt h0b h0a false lo with
    | none => simp [hlo, hll] at h
    | some ll =>
      simp only [hlo, hll, Option.bind_eq_bind, Option.bind_some, if_true] at h
      simp only [hlo, hll, Option.bind_eq_bind, Option.bind_some, Bool.false_eq_true, if_false] at h'
      cases hhi : rowdfilt h1b h1a true x with
      | none => simp [hhi] at h'
      | some hi =>
        cases hlh : coldfilt h1b h1a true lo with
        | none => simp [hhi, hlh] at h'
        | some lh =>
          cases hhl : coldfilt h0b h0a false hi with
          | none => simp [hhi, hlh, hhl] at h'
          | some hl =>
            cases hhh : coldfilt h1b h1a true hi with
            | none => simp [hhi, hlh, hhl, hhh] at h'
            | some hh =>
              simp only [hhi, hlh, hhl, hhh, Option.bind_some, Option.some.injEq] at h'
              simp only [Option.some.injEq] at h
              subst h; subst h'
              simp

/-- level 1 likewise (it never raises) -/
theorem fwdJ1_skip_ll (s : R) (sym : Bool) (h0 h1 : List R) (x : Img R) :
    (fwdJ1 s sym h0 h1 true x).1 = (fwdJ1 s sym h0 h1 false x).1 ∧ (fwdJ1 s sym h0 h1 true x).2 = none ∧
      (fwdJ1 s sym h0 h1 false x).2 ≠ none := by
  simp [fwdJ1]

/-- what a successful run of the loop over `sk :: sks` consists of -/
theorem dtcwtFwdLoop_cons_some (s : R) (f : FwdFilters R) (sk : Bool) (sks incl : List Bool) (low : Img R)
    (r : Img R × List (Option (List (Cplx R))) × List (Option (Img R)))
    (h : dtcwtFwdLoop s f (sk :: sks) incl low = some r) :
    ∃ p q, fwdJ2 s f.h0a f.h1a f.h0b f.h1b sk (extendMult4 low) = some p ∧
      dtcwtFwdLoop s f sks incl.tail p.1 = some q ∧
      r = (q.1, p.2 :: q.2.1, (if incl.head?.getD false then some p.1 else none) :: q.2.2) := by
  simp only [dtcwtFwdLoop, List.drop_one, List.headD_eq_head?_getD] at h
  cases h1 : fwdJ2 s f.h0a f.h1a f.h0b f.h1b sk (extendMult4 low) with
  | none => simp [h1] at h
  | some p =>
    simp only [h1, Option.bind_eq_bind, Option.bind_some] at h
    cases h2 : dtcwtFwdLoop s f sks incl.tail p.1 with
    | none => simp [h2] at h
    | some q =>
      simp only [h2, Option.bind_some, Option.some.injEq] at h
      exact ⟨p, q, rfl, h2, h.symm⟩

/-- `skip_hps`: skipping levels replaces exactly those levels by placeholders and leaves the final
low-pass, every requested scale and every other level unchanged — for every mask, every depth, whenever the run with
the mask and the run without it both return. -/
theorem loop_skip (s : R) (f : FwdFilters R) (sks incl : List Bool) (low : Img R)
    (r r' : Img R × List (Option (List (Cplx R))) × List (Option (Img R)))
    (h : dtcwtFwdLoop s f sks incl low = some r)
    (h' : dtcwtFwdLoop s f (sks.map fun _ => false) incl low = some r') :
    r.1 = r'.1 ∧ r.2.2 = r'.2.2 ∧
      r.2.1 = List.zipWith (fun (sk : Bool) (hp : Option (List (Cplx R))) => if sk then none else hp) sks r'.2.1 := by
  induction sks generalizing incl low r r' with
  | nil =>
    simp only [dtcwtFwdLoop, List.map_nil, Option.some.injEq] at h h'
    subst h; subst h'; simp
  | cons sk rest ih =>
    rw [List.map_cons] at h'
    obtain ⟨p, q, h1, h2, rfl⟩ := dtcwtFwdLoop_cons_some s f sk rest incl low r h
    obtain ⟨p', q', h1', h2', rfl⟩ := dtcwtFwdLoop_cons_some s f false _ incl low r' h'
    have hll : p.1 = p'.1 ∧ p.2 = (if sk then none else p'.2) := by
      cases sk with
      | true =>
        have := fwdJ2_skip_ll s f.h0a f.h1a f.h0b f.h1b (extendMult4 low) p p' h1 h1'
        exact ⟨this.1, by simpa using this.2.1⟩
      | false =>
        rw [h1] at h1'; simp only [Option.some.injEq] at h1'; subst h1'; simp
    rw [← hll.1] at h2'
    have := ih incl.tail p.1 q q' h2 h2'
    simp only [List.zipWith_cons_cons]
    refine ⟨this.1, ?_, ?_⟩
    · simp [this.2.1, hll.1]
    · rw [this.2.2, hll.2]

/-- `include_scale` only selects low-passes: the final low-pass and all band-pass levels do not depend
on the include mask (two runs that both return); that each returned scale is either absent or the low-pass after that
level is `dtcwtFwdLoop_cons_some`. -/
theorem loop_include (s : R) (f : FwdFilters R) (sks incl incl' : List Bool) (low : Img R)
    (r r' : Img R × List (Option (List (Cplx R))) × List (Option (Img R)))
    (h : dtcwtFwdLoop s f sks incl low = some r) (h' : dtcwtFwdLoop s f sks incl' low = some r') :
    r.1 = r'.1 ∧ r.2.1 = r'.2.1 := by
  induction sks generalizing incl incl' low r r' with
  | nil =>
    simp only [dtcwtFwdLoop, Option.some.injEq] at h h'
    subst h; subst h'; simp
  | cons sk rest ih =>
    obtain ⟨p, q, h1, h2, rfl⟩ := dtcwtFwdLoop_cons_some s f sk rest incl low r h
    obtain ⟨p', q', h1', h2', rfl⟩ := dtcwtFwdLoop_cons_some s f sk rest incl' low r' h'
    rw [h1] at h1'
    simp only [Option.some.injEq] at h1'
    subst h1'
    have := ih incl.tail incl'.tail p.1 q q' h2 h2'
    exact ⟨this.1, by simp [this.2]⟩

/-- prefix consistency: the first levels of a deeper transform are the shallower transform — the loop
over `sks1 ++ sks2` first does exactly what the loop over `sks1` does, and continues from its low-pass (stated with
an empty `include_scale` mask, for a run that returns; final low-pass and band-pass levels). -/
theorem loop_prefix (s : R) (f : FwdFilters R) (sks1 sks2 : List Bool) (low : Img R)
    (r : Img R × List (Option (List (Cplx R))) × List (Option (Img R)))
    (h : dtcwtFwdLoop s f (sks1 ++ sks2) [] low = some r) :
    ∃ r1 r2, dtcwtFwdLoop s f sks1 [] low = some r1 ∧ dtcwtFwdLoop s f sks2 [] r1.1 = some r2 ∧
      r.1 = r2.1 ∧ r.2.1 = r1.2.1 ++ r2.2.1 := by
  induction sks1 generalizing low r with
  | nil =>
    simp only [List.nil_append] at h
    exact ⟨(low, [], []), r, by simp [dtcwtFwdLoop], h, rfl, by simp⟩
  | cons sk rest ih =>
    rw [List.cons_append] at h
    obtain ⟨p, q, h1, h2, rfl⟩ := dtcwtFwdLoop_cons_some s f sk _ [] low r h
    obtain ⟨r1, r2, e1, e2, e3, e4⟩ := ih p.1 q h2
    refine ⟨(r1.1, p.2 :: r1.2.1, none :: r1.2.2), r2, ?_, e2, e3, ?_⟩
    · simp [dtcwtFwdLoop, h1, e1]
    · simp [e4]

end WV.C12
