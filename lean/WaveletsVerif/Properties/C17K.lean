/-
  C17 — two dimensions: the 2-D DWT with orthonormal banks in periodization mode preserves energy, one level and `J` levels.

  The one-dimensional isometry (`C17.isometry`: `‖A₀c‖² + ‖A₁c‖² = ‖c‖²` for every even length `≥ 2`, every orthonormal bank)
  is lifted along the rows and along the columns of an image (`iso_W`, `iso_H`) and composed for the row pass followed by
  the column pass of the implementation model of `AFB2D.forward` (`C05P.AFB2D_forward_val`):
  `‖ll‖² + ‖lh‖² + ‖hl‖² + ‖hh‖² = ‖x‖²` for every one-channel image with even sides and every pair of orthonormal banks
  (column bank, row bank) not longer than the sides (`AFB2D_isometry`); by induction on the levels the same for the model
  of `DWTForward` whenever every level has even sides not shorter than the filters (`LevelsOK2`, `DWT2D_isometry`).
-/
import WaveletsVerif.Properties.C05P
import WaveletsVerif.Properties.C17
namespace WV.C17K
open Finset WV WV.C04 WV.C06 WV.C05D WV.C05P WV.C17
variable {R : Type} [CommRing R]

/-- lifting a one-dimensional two-band isometry along the rows -/
theorem iso_W (A0 A1 : List R → List R) (H W K : Nat)
    (h1d : ∀ c : List R, c.length = W → energy (A0 c) + energy (A1 c) = energy c)
    (l0 : ∀ c : List R, c.length = W → (A0 c).length = K) (l1 : ∀ c : List R, c.length = W → (A1 c).length = K)
    (x : Img R) (hx : Rect x H W) :
    dot2 H K (alongW A0 x) (alongW A0 x) + dot2 H K (alongW A1 x) (alongW A1 x) = dot2 H W x x := by
  rw [dot2_rows, dot2_rows, dot2_rows, ← Finset.sum_add_distrib]
  apply Finset.sum_congr rfl; intro i hi
  have hi' : i < x.length := by rw [hx.1]; exact mem_range.mp hi
  have hr := row_length x H W hx i (mem_range.mp hi)
  have := h1d (x.getD i []) hr
  unfold energy at this
  rw [l0 _ hr, l1 _ hr, hr] at this
  rw [row_alongW A0 x i hi', row_alongW A1 x i hi', this]

theorem iso_H (A0 A1 : List R → List R) (H W K : Nat)
    (h1d : ∀ c : List R, c.length = H → energy (A0 c) + energy (A1 c) = energy c)
    (l0 : ∀ c : List R, c.length = H → (A0 c).length = K) (l1 : ∀ c : List R, c.length = H → (A1 c).length = K)
    (x : Img R) (hx : Rect x H W) (hH : 1 ≤ H) (hW : 1 ≤ W) :
    dot2 K W (alongH A0 x) (alongH A0 x) + dot2 K W (alongH A1 x) (alongH A1 x) = dot2 H W x x := by
  have r0 := alongH_rect_of_length A0 x H K W hx hH hW l0
  have r1 := alongH_rect_of_length A1 x H K W hx hH hW l1
  rw [dot2_cols K W _ _ r0 r0, dot2_cols K W _ _ r1 r1, dot2_cols H W x x hx hx, ← Finset.sum_add_distrib]
  apply Finset.sum_congr rfl; intro j hj
  have hc : (col x j).length = H := by simp [col, hx.1]
  have := h1d (col x j) hc
  unfold energy at this
  rw [l0 _ hc, l1 _ hc, hc] at this
  rw [col_alongH A0 H W K l0 x hx hH j (mem_range.mp hj), col_alongH A1 H W K l1 x hx hH j (mem_range.mp hj), this]

theorem rect_Ap_band_even (wc wr : List R) (x : Img R) (H W : Nat) (hx : Rect x H W) (hH : 1 ≤ H) (hW : 1 ≤ W)
    (hHe : H % 2 = 0) (hWe : W % 2 = 0) : Rect (alongH (Ap wc) (alongW (Ap wr) x)) (H / 2) (W / 2) := by
  have := rect_Ap_band wc wr x H W hx hH hW
  rwa [half_even H hHe, half_even W hWe] at this

/-- the four bands of the row pass followed by the column pass carry the energy of the image -/
theorem AFB2D_isometry_val (hr0 hr1 hc0 hc1 : List R) (hLr : 2 ≤ hr0.length) (hLre : hr0.length % 2 = 0) (hwr : hr1.length = hr0.length)
    (hLc : 2 ≤ hc0.length) (hLce : hc0.length % 2 = 0) (hwc : hc1.length = hc0.length)
    (horr : PRBank hr0 hr1 hr0.reverse hr1.reverse) (horc : PRBank hc0 hc1 hc0.reverse hc1.reverse)
    (x : Img R) (H W : Nat) (hx : Rect x H W) (hHe : H % 2 = 0) (hWe : W % 2 = 0) (hfH : hc0.length ≤ H) (hfW : hr0.length ≤ W) :
    dot2 (H / 2) (W / 2) (alongH (Ap hc0) (alongW (Ap hr0) x)) (alongH (Ap hc0) (alongW (Ap hr0) x))
        + dot2 (H / 2) (W / 2) (alongH (Ap hc1) (alongW (Ap hr0) x)) (alongH (Ap hc1) (alongW (Ap hr0) x))
        + dot2 (H / 2) (W / 2) (alongH (Ap hc0) (alongW (Ap hr1) x)) (alongH (Ap hc0) (alongW (Ap hr1) x))
        + dot2 (H / 2) (W / 2) (alongH (Ap hc1) (alongW (Ap hr1) x)) (alongH (Ap hc1) (alongW (Ap hr1) x))
      = dot2 H W x x := by
  have hH : 1 ≤ H := Nat.le_trans (Nat.le_trans (by decide) hLc) hfH
  have lW : ∀ (w c : List R), c.length = W → (Ap w c).length = W / 2 := fun w c hc => by rw [length_dwt_per, hc, half_even W hWe]
  have lH : ∀ (w c : List R), c.length = H → (Ap w c).length = H / 2 := fun w c hc => by rw [length_dwt_per, hc, half_even H hHe]
  have rA : ∀ w : List R, Rect (alongW (Ap w) x) H (W / 2) := fun w => alongW_rect_of_length (Ap w) x H W _ hx (lW w)
  have iW := iso_W (Ap hr0) (Ap hr1) H W (W / 2)
    (fun c hc => isometry hr0 hr1 c hLr hLre hwr horr (hc ▸ hWe) (hc ▸ Nat.le_trans hLr hfW)) (lW hr0) (lW hr1) x hx
  have iH : ∀ y : Img R, Rect y H (W / 2) →
      dot2 (H / 2) (W / 2) (alongH (Ap hc0) y) (alongH (Ap hc0) y) + dot2 (H / 2) (W / 2) (alongH (Ap hc1) y) (alongH (Ap hc1) y)
        = dot2 H (W / 2) y y := fun y hy =>
    iso_H (Ap hc0) (Ap hc1) H (W / 2) (H / 2)
      (fun c hc => isometry hc0 hc1 c hLc hLce hwc horc (hc ▸ hHe) (hc ▸ Nat.le_trans hLc hfH)) (lH hc0) (lH hc1) y hy hH
      (Nat.div_pos (Nat.le_trans hLr hfW) (by decide))
  rw [← iW, ← iH _ (rA hr0), ← iH _ (rA hr1)]; ring

/-- one level of the 2-D DWT is an isometry (implementation model of `AFB2D.forward`, one channel, periodization, orthonormal
column bank `(hc0, hc1)` and row bank `(hr0, hr1)`, even sides not shorter than the filters) -/
theorem AFB2D_isometry (hr0 hr1 hc0 hc1 : List R) (hLr : 2 ≤ hr0.length) (hLre : hr0.length % 2 = 0) (hwr : hr1.length = hr0.length)
    (hLc : 2 ≤ hc0.length) (hLce : hc0.length % 2 = 0) (hwc : hc1.length = hc0.length)
    (horr : PRBank hr0 hr1 hr0.reverse hr1.reverse) (horc : PRBank hc0 hc1 hc0.reverse hc1.reverse)
    (x : Img R) (H W : Nat) (hx : Rect x H W) (hHe : H % 2 = 0) (hWe : W % 2 = 0) (hfH : hc0.length ≤ H) (hfW : hr0.length ≤ W) :
    ∃ ll lh hl hh, AFB2D_forward .periodization hr0.reverse hr1.reverse hc0.reverse hc1.reverse [x] = some ([ll], [[lh, hl, hh]]) ∧
      dot2 (H / 2) (W / 2) ll ll + dot2 (H / 2) (W / 2) lh lh + dot2 (H / 2) (W / 2) hl hl + dot2 (H / 2) (W / 2) hh hh = dot2 H W x x :=
  ⟨_, _, _, _, C05P.AFB2D_forward_val hr0 hr1 hc0 hc1 hLr hLre hwr hLc hLce hwc H W
      (Nat.le_trans (Nat.le_trans (by decide) hLc) hfH) (Nat.le_trans (Nat.le_trans (by decide) hLr) hfW)
      (Nat.le_trans hfH (Nat.le_add_right _ _)) (Nat.le_trans hfW (Nat.le_add_right _ _)) x hx,
    AFB2D_isometry_val hr0 hr1 hc0 hc1 hLr hLre hwr hLc hLce hwc horr horc x H W hx hHe hWe hfH hfW⟩

/-- every level's input has even sides not shorter than the filters -/
def LevelsOK2 (Lc Lr : Nat) : Nat → Nat → Nat → Prop
  | 0, _, _ => True
  | J+1, H, W => H % 2 = 0 ∧ W % 2 = 0 ∧ Lc ≤ H ∧ Lr ≤ W ∧ LevelsOK2 Lc Lr J (H / 2) (W / 2)

/-- energy of an image (of any shape): the sum of the squares of its samples -/
def energy2 (x : Img R) : R := dot2 x.length x.width x x

theorem energy2_rect (x : Img R) (H W : Nat) (hx : Rect x H W) (hH : 1 ≤ H) : energy2 x = dot2 H W x x := by
  unfold energy2; rw [hx.1, rect_width x H W hx hH]

/-- the J-level 2-D DWT is an isometry (implementation model of `DWTForward`, one channel, periodization, orthonormal column and row
banks): `‖yl‖² + Σ_j (‖lh_j‖² + ‖hl_j‖² + ‖hh_j‖²) = ‖x‖²` whenever every level has even sides not shorter than the filters -/
theorem DWT2D_isometry (hr0 hr1 hc0 hc1 : List R) (hLr : 2 ≤ hr0.length) (hLre : hr0.length % 2 = 0) (hwr : hr1.length = hr0.length)
    (hLc : 2 ≤ hc0.length) (hLce : hc0.length % 2 = 0) (hwc : hc1.length = hc0.length)
    (horr : PRBank hr0 hr1 hr0.reverse hr1.reverse) (horc : PRBank hc0 hc1 hc0.reverse hc1.reverse) :
    ∀ (J : Nat) (x : Img R) (H W : Nat), Rect x H W → 1 ≤ H → 1 ≤ W → LevelsOK2 hc0.length hr0.length J H W →
      ∃ yl yh, DWTForward .periodization hc0.reverse hc1.reverse hr0.reverse hr1.reverse J [x] = some ([yl], yh) ∧
        energy2 yl + (yh.map fun lvl => ((lvl.getD 0 []).map energy2).sum).sum = energy2 x
  | 0, x, H, W, _, _, _, _ => ⟨x, [], by simp [DWTForward], by simp⟩
  | J+1, x, H, W, hx, hH, hW, hok => by
    obtain ⟨hHe, hWe, hfH, hfW, hrest⟩ := hok
    have hfv := C05P.AFB2D_forward_val hr0 hr1 hc0 hc1 hLr hLre hwr hLc hLce hwc H W hH hW
      (Nat.le_trans hfH (Nat.le_add_right _ _)) (Nat.le_trans hfW (Nat.le_add_right _ _)) x hx
    have rB := fun wc wr : List R => rect_Ap_band_even wc wr x H W hx hH hW hHe hWe
    have hH2 : 1 ≤ H / 2 := Nat.div_pos (Nat.le_trans hLc hfH) (by decide)
    have hW2 : 1 ≤ W / 2 := Nat.div_pos (Nat.le_trans hLr hfW) (by decide)
    obtain ⟨yl, yh, hrec, hen⟩ := DWT2D_isometry hr0 hr1 hc0 hc1 hLr hLre hwr hLc hLce hwc horr horc J _ (H / 2) (W / 2)
      (rB hc0 hr0) hH2 hW2 hrest
    refine ⟨yl, [[alongH (Ap hc1) (alongW (Ap hr0) x), alongH (Ap hc0) (alongW (Ap hr1) x), alongH (Ap hc1) (alongW (Ap hr1) x)]] :: yh,
      ?_, ?_⟩
    · exact DWTForward_succ _ _ _ _ _ J _ _ _ _ _ hfv hrec
    · simp only [List.map_cons, List.sum_cons, List.getD_cons_zero, List.map_nil, List.sum_nil, add_zero]
      rw [energy2_rect _ _ _ (rB hc1 hr0) hH2, energy2_rect _ _ _ (rB hc0 hr1) hH2, energy2_rect _ _ _ (rB hc1 hr1) hH2,
        energy2_rect x H W hx hH, ← AFB2D_isometry_val hr0 hr1 hc0 hc1 hLr hLre hwr hLc hLce hwc horr horc x H W hx hHe hWe hfH hfW,
        ← energy2_rect _ _ _ (rB hc0 hr0) hH2, ← hen]
      ring

/-- the level condition is satisfiable: a 16 × 8 image, two levels, 4-tap filters -/
example : LevelsOK2 4 4 2 16 8 := by simp [LevelsOK2]

end WV.C17K
namespace WV.C17K
open WV WV.C04
/-- the size hypotheses of `AFB2D_isometry` (rectangular image, even sides, filter not longer than the sides) are satisfiable
together, with the length of the orthonormal integer bank of C17's example: a 4 × 4 image, 4 taps -/
example : Rect ([[1, 2, 3, 4], [5, 6, 7, 8], [1, 0, 1, 0], [2, 2, 2, 2]] : Img Int) 4 4 ∧ 4 % 2 = 0 ∧ ([0, 1, 0, 0] : List Int).length ≤ 4 := by
  simp [Rect]
end WV.C17K
