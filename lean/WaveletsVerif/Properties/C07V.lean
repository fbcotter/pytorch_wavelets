/-
  C07 — the J-level one-dimensional transforms `DWT1DForward` / `DWT1DInverse` (dwt/transform1d.py) on one channel, in
  every mode.  `DWT1DInverse` is linear on pyramids of one shape with every band present: if it returns on two such
  pyramids, it returns their combination on the combination (`DWT1DInverse_linear`; the 2-D statement is
  `C07I.DWTInverse_linear`).  This comes from the one-level `C07D.sfb1dCh_linear` through the module's loop, the
  one-sample crop of the running low-pass included; on one channel the loop is the recursion `inv1`.
  `DWT1DForward` is linear as well, and whether it raises depends on the length only (`DWT1DForward_linear`, from
  `C07.afb1dOne_guardedLin`).
-/
import WaveletsVerif.Properties.C07D
import WaveletsVerif.Properties.C05V
namespace WV.C07V
open WV WV.C07 WV.C07D
variable {R : Type} [CommRing R]

theorem lincomb_zero_one (x y : List R) (h : x.length = y.length) : lincomb 0 1 x y = y := by
  apply list_ext_getN
  · simp [h]
  · intro i _
    rw [getN_lincomb 0 1 x y h]; ring

theorem lincomb_one_zero (x y : List R) (h : x.length = y.length) : lincomb 1 0 x y = x := by
  apply list_ext_getN
  · simp
  · intro i _
    rw [getN_lincomb 1 0 x y h]; ring

/-- whether `sfb1d` returns, and the length of what it returns, depend on the lengths of the bands only -/
theorem sfb1dCh_shape (m : Mode) (g0 g1 lo lo' hi hi' u : List R) (hl : lo.length = lo'.length) (hh : hi.length = hi'.length)
    (hu : sfb1dCh m g0 g1 lo hi = some u) : ∃ v, sfb1dCh m g0 g1 lo' hi' = some v ∧ v.length = u.length := by
  have h1 := sfb1dCh_linear m g0 g1 lo lo' hi hi' 0 1 hl hh
  have h2 := sfb1dCh_linear m g0 g1 lo lo' hi hi' 1 0 hl hh
  rw [lincomb_zero_one lo lo' hl, lincomb_zero_one hi hi' hh, hu] at h1
  cases hv : sfb1dCh m g0 g1 lo' hi' with
  | none =>
    rw [lincomb_one_zero lo lo' hl, lincomb_one_zero hi hi' hh, hu, hv] at h2
    simp at h2
  | some v =>
    rw [hv] at h1
    simp only [Option.bind_some, Option.some.injEq] at h1
    refine ⟨v, rfl, ?_⟩
    have := congrArg List.length h1
    simp at this
    exact this

/-- two band lists of one shape -/
def SameShape : List (List R) → List (List R) → Prop
  | [], [] => True
  | d :: ds, d' :: ds' => d.length = d'.length ∧ SameShape ds ds'
  | _, _ => False

/-- the crop of the loop of `DWT1DInverse`: a running low-pass longer than the band loses its last sample -/
def crop1 (z d : List R) : List R := if z.length > d.length then z.take (z.length - 1) else z

theorem crop1_length (z z' d d' : List R) (lz : z.length = z'.length) (hd : d.length = d'.length) :
    (crop1 z d).length = (crop1 z' d').length := by
  unfold crop1
  rw [← lz, ← hd]
  split <;> simp [lz]

theorem crop1_lincomb (a b : R) (z z' d d' : List R) (lz : z.length = z'.length) (hd : d.length = d'.length) :
    crop1 (lincomb a b z z') (lincomb a b d d') = lincomb a b (crop1 z d) (crop1 z' d') := by
  unfold crop1
  rw [lincomb_length, lincomb_length]
  by_cases c : z.length > d.length
  · rw [if_pos c, if_pos c, if_pos (show z'.length > d'.length by omega)]
    have h := ((lin_dropLast (R := R)) a b z z' lz).1
    simp only [lincomb_length] at h
    exact h
  · rw [if_neg c, if_neg c, if_neg (show ¬ z'.length > d'.length by omega)]

theorem DWT1DInverse_step_single (m : Mode) (g0 g1 z e : List R) :
    DWT1DInverse_step m g0 g1 [z] (some [e]) = (sfb1dCh m g0 g1 (crop1 z e) e).map fun v => [v] := by
  unfold DWT1DInverse_step crop1
  simp only [List.headD_cons, List.map_cons, List.map_nil]
  by_cases c : z.length > e.length
  · rw [if_pos c, if_pos c]
    exact SFB1D_forward_single m g0 g1 _ e
  · rw [if_neg c, if_neg c]
    exact SFB1D_forward_single m g0 g1 z e

/-- the loop of `DWT1DInverse` on one channel with every band present (finest band first, as in the module's argument) -/
def inv1 (m : Mode) (g0 g1 yl : List R) : List (List R) → Option (List R)
  | [] => some yl
  | d :: ds => (inv1 m g0 g1 yl ds).bind fun z => sfb1dCh m g0 g1 (crop1 z d) d

theorem DWT1DInverse_single (m : Mode) (g0 g1 yl : List R) : ∀ bs : List (List R),
    DWT1DInverse m g0 g1 [yl] (bs.map fun d => some [d]) = (inv1 m g0 g1 yl bs).map fun y => [y]
  | [] => rfl
  | d :: ds => by
    have ih := DWT1DInverse_single m g0 g1 yl ds
    unfold DWT1DInverse at ih ⊢
    rw [List.map_cons, List.reverse_cons, List.foldlM_append, ih, inv1]
    cases inv1 m g0 g1 yl ds with
    | none => rfl
    | some z =>
      simp only [Option.map_some, Option.bind_eq_bind, Option.bind_some, List.foldlM_cons, List.foldlM_nil, DWT1DInverse_step_single]
      cases sfb1dCh m g0 g1 (crop1 z d) d <;> rfl

theorem inv1_linear (m : Mode) (g0 g1 : List R) (a b : R) : ∀ (bs bs' : List (List R)) (yl yl' y y' : List R),
    yl.length = yl'.length → SameShape bs bs' → inv1 m g0 g1 yl bs = some y → inv1 m g0 g1 yl' bs' = some y' →
    inv1 m g0 g1 (lincomb a b yl yl') (List.zipWith (lincomb a b) bs bs') = some (lincomb a b y y') ∧ y.length = y'.length
  | [], [], yl, yl', y, y', hl, _, h1, h2 => by
    obtain rfl := Option.some.inj h1
    obtain rfl := Option.some.inj h2
    exact ⟨rfl, hl⟩
  | [], _ :: _, _, _, _, _, _, hs, _, _ => absurd hs (by simp [SameShape])
  | _ :: _, [], _, _, _, _, _, hs, _, _ => absurd hs (by simp [SameShape])
  | d :: ds, d' :: ds', yl, yl', y, y', hl, hs, h1, h2 => by
    obtain ⟨hd, hsr⟩ := hs
    obtain ⟨z, hz, hu⟩ := Option.bind_eq_some_iff.mp h1
    obtain ⟨z', hz', hv⟩ := Option.bind_eq_some_iff.mp h2
    obtain ⟨ih, lz⟩ := inv1_linear m g0 g1 a b ds ds' yl yl' z z' hl hsr hz hz'
    have lcr := crop1_length z z' d d' lz hd
    have hlin := sfb1dCh_linear m g0 g1 _ _ d d' a b lcr hd
    rw [hu, hv] at hlin
    obtain ⟨v, hv2, lv⟩ := sfb1dCh_shape m g0 g1 _ _ d d' y lcr hd hu
    rw [hv] at hv2
    obtain rfl := Option.some.inj hv2
    refine ⟨?_, lv.symm⟩
    show (inv1 m g0 g1 (lincomb a b yl yl') (List.zipWith (lincomb a b) ds ds')).bind
        (fun z => sfb1dCh m g0 g1 (crop1 z (lincomb a b d d')) (lincomb a b d d')) = _
    rw [ih, Option.bind_some, crop1_lincomb a b z z' d d' lz hd, hlin]
    rfl

omit [CommRing R] in
theorem map_single_eq_some {o : Option (List R)} {y : List R} (h : (o.map fun y => [y]) = some [y]) : o = some y := by
  cases o with
  | none => cases h
  | some u =>
    simp only [Option.map_some, Option.some.injEq, List.cons.injEq, and_true] at h
    rw [h]

/-- `DWT1DInverse` is linear on pyramids of one shape (one channel, every mode, every J): if it returns on two pyramids of the
same shape it returns their linear combination on the linear combination, and the two results have one length -/
theorem DWT1DInverse_linear (m : Mode) (g0 g1 : List R) (a b : R) : ∀ (bs bs' : List (List R)) (yl yl' y y' : List R),
    yl.length = yl'.length → SameShape bs bs' →
    DWT1DInverse m g0 g1 [yl] (bs.map fun d => some [d]) = some [y] →
    DWT1DInverse m g0 g1 [yl'] (bs'.map fun d => some [d]) = some [y'] →
    DWT1DInverse m g0 g1 [lincomb a b yl yl'] ((List.zipWith (lincomb a b) bs bs').map fun d => some [d]) = some [lincomb a b y y'] ∧
      y.length = y'.length
  | bs, bs', yl, yl', y, y', hl, hs, h1, h2 => by
    rw [DWT1DInverse_single] at h1 h2 ⊢
    obtain ⟨e, l⟩ := inv1_linear m g0 g1 a b bs bs' yl yl' y y' hl hs (map_single_eq_some h1) (map_single_eq_some h2)
    rw [e]
    exact ⟨rfl, l⟩

/-- `AFB1D.forward` on one channel, raising cases included -/
theorem AFB1D_forward_single_eq (m : Mode) (w0 w1 x : List R) :
    AFB1D_forward m w0 w1 [x] = (afb1dOne m w0 x).bind fun lo => (afb1dOne m w1 x).bind fun hi => some ([lo], [hi]) := by
  exact AFB1D_forward_single m w0 w1 x

/-- `DWT1DForward` is linear (one channel, every mode, every J) and whether it raises depends on the length only: on a linear
combination of two signals of one length it returns the linear combination, band by band, of what it returns on each -/
theorem DWT1DForward_linear (m : Mode) (w0 w1 : List R) (a b : R) : ∀ (J : Nat) (x x' : List R), x.length = x'.length →
    DWT1DForward m w0 w1 J [lincomb a b x x']
      = (DWT1DForward m w0 w1 J [x]).bind fun p => (DWT1DForward m w0 w1 J [x']).bind fun q =>
          some ([lincomb a b (p.1.getD 0 []) (q.1.getD 0 [])],
                List.zipWith (fun u v => [lincomb a b (u.getD 0 []) (v.getD 0 [])]) p.2 q.2)
  | 0, x, x', _ => rfl
  | J+1, x, x', hl => by
    obtain ⟨g0, F0, hF0, e0⟩ := afb1dOne_guardedLin m w0
    obtain ⟨g1, F1, hF1, e1⟩ := afb1dOne_guardedLin m w1
    simp only [DWT1DForward, AFB1D_forward_single_eq, e0, e1, lincomb_length, ← hl]
    by_cases c0 : g0 x.length = true
    · by_cases c1 : g1 x.length = true
      · simp only [if_pos c0, if_pos c1, Option.bind_some, Option.bind_eq_bind]
        obtain ⟨f0, l0⟩ := hF0 a b x x' hl
        obtain ⟨f1, _⟩ := hF1 a b x x' hl
        rw [f0, f1, DWT1DForward_linear m w0 w1 a b J (F0 x) (F0 x') l0]
        cases DWT1DForward m w0 w1 J [F0 x] with
        | none => rfl
        | some p =>
          cases DWT1DForward m w0 w1 J [F0 x'] with
          | none => rfl
          | some q => rfl
      · simp only [if_pos c0, if_neg c1]
        rfl
    · simp only [if_neg c0]
      rfl

/-- the shape hypothesis `SameShape` of `DWT1DInverse_linear` is satisfiable: two band lists with band lengths 3, 2 -/
example : SameShape ([[1, 2, 3], [4, 5]] : List (List Int)) [[0, 0, 1], [7, 7]] := by simp [SameShape]

end WV.C07V
