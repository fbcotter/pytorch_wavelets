/-
  C18 — the shipped DTCWT filter tables satisfy the identities the code relies on.

  `Gen/Tables.lean` is regenerated from `pytorch_wavelets/dtcwt/data/*.npz` on
  every run: each stored float64 is an exact dyadic rational `n / 2^E`.  Every
  statement below is decided by the Lean kernel (`decide +kernel`) on those
  literals, for every table the loaders accept (finite set, exhaustive); the two tables of `notQshift`, which the q-shift
  loader accepts, fail the q-shift identities (known finding, `farras_not_qshift`) and are left out of `qshiftTables`.
-/
import WaveletsVerif.Gen.Tables
namespace WV.C18
open WV.Gen

/-- a dyadic rational `n / 2^e` -/
abbrev Dy := Int × Nat

def Dy.add (a b : Dy) : Dy :=
  let e := max a.2 b.2
  (a.1 * 2^(e - a.2) + b.1 * 2^(e - b.2), e)

/-- `|a| ≤ 2^-k` -/
def Dy.small (a : Dy) (k : Nat) : Bool := a.1.natAbs * 2^k ≤ 2^a.2

def Dy.one : Dy := (1, 0)
def Dy.neg (a : Dy) : Dy := (-a.1, a.2)

def tget (t : Tab) (i : Nat) : Int := t.1.getD i 0

/-- coefficient `n` of the product polynomial (linear convolution) -/
def convAt (a b : Tab) (n : Nat) : Dy :=
  ((List.range (n+1)).foldl (fun acc i => acc + tget a i * (if n - i < b.1.length then tget b (n - i) else 0)) 0, a.2 + b.2)

/-- `Σ_k a[k]·b[k+2n]` -/
def corrEven (a b : Tab) (n : Nat) : Dy :=
  ((List.range (a.1.length - 2*n)).foldl (fun acc k => acc + tget a k * tget b (k + 2*n)) 0, a.2 + b.2)

def lookup (t : List (String × Tab)) (k : String) : Option Tab := (t.find? (·.1 == k)).map (·.2)
def hasKey (t : List (String × Tab)) (k : String) : Bool := (lookup t k).isSome

/-- `|h[k] − h[L−1−k]| ≤ 2^-tol` for all k -/
def symOK (h : Tab) (tol : Nat) : Bool :=
  (List.range h.1.length).all fun k => Dy.small (tget h k - tget h (h.1.length - 1 - k), h.2) tol

/-- `h0*g0 + h1*g1 = δ` (centre tap 1, all others 0) up to `2^-tol`: the level-1 filtering is
undecimated, so this is the whole perfect-reconstruction condition -/
def prOK (h0 g0 h1 g1 : Tab) (tol : Nat) : Bool :=
  let n := h0.1.length + g0.1.length - 1
  (h1.1.length + g1.1.length - 1 == n) &&
  (List.range n).all fun k =>
    let v := Dy.add (convAt h0 g0 k) (convAt h1 g1 k)
    Dy.small (if k = n / 2 then Dy.add v (Dy.neg Dy.one) else v) tol

/-- `Σ_k a[k]a[k+2n] = δ_n`, up to `2^-tol` -/
def orthOK (a : Tab) (tol : Nat) : Bool :=
  (List.range (a.1.length / 2)).all fun n =>
    let v := corrEven a a n
    Dy.small (if n = 0 then Dy.add v (Dy.neg Dy.one) else v) tol

/-- `Σ_k a[k]b[k+2n] = 0` and `Σ_k b[k]a[k+2n] = 0`, up to `2^-tol` -/
def crossOK (a b : Tab) (tol : Nat) : Bool :=
  (List.range (a.1.length / 2)).all fun n => Dy.small (corrEven a b n) tol && Dy.small (corrEven b a n) tol

/-- exact time reversal -/
def revOf (b a : Tab) : Bool := b.1 == a.1.reverse && b.2 == a.2

/-- sign of `Σ a[k]·b[k]` (the reference picks the tree order from it) -/
def dotSign (a b : Tab) : Int :=
  ((List.range a.1.length).foldl (fun acc k => acc + tget a k * tget b k) 0).sign

/-- all a level-1 (biorthogonal, `…o`) table must satisfy -/
def level1OK (t : List (String × Tab)) : Bool :=
  match lookup t "h0o", lookup t "g0o", lookup t "h1o", lookup t "g1o" with
  | some h0, some g0, some h1, some g1 =>
    symOK h0 40 && symOK g0 40 && symOK h1 40 && symOK g1 40 &&
    h0.1.length % 2 == 1 && g0.1.length % 2 == 1 && h1.1.length % 2 == 1 && g1.1.length % 2 == 1 &&
    prOK h0 g0 h1 g1 40 &&
    (match lookup t "h2o", lookup t "g2o" with
     | some h2, some g2 => symOK h2 40 && symOK g2 40 && h2.1.length % 2 == 1
     | none, none => true
     | _, _ => false)
  | _, _, _, _ => false

/-- all a q-shift table must satisfy; `tol` is the orthonormality tolerance exponent -/
def qshiftOK (t : List (String × Tab)) (tol : Nat) : Bool :=
  match lookup t "h0a", lookup t "h0b", lookup t "g0a", lookup t "g0b",
        lookup t "h1a", lookup t "h1b", lookup t "g1a", lookup t "g1b" with
  | some h0a, some h0b, some g0a, some g0b, some h1a, some h1b, some g1a, some g1b =>
    h0a.1.length % 2 == 0 &&
    revOf h0b h0a && revOf h1b h1a &&                 -- tree b is the time reverse of tree a
    revOf g0a h0a && revOf g0b h0b && revOf g1a h1a && revOf g1b h1b &&   -- synthesis = reversed analysis
    orthOK h0a tol && orthOK h1a tol && crossOK h0a h1a tol &&
    dotSign h0a h0b == 1 && dotSign h1a h1b == -1 &&  -- the reference's tree-order rule agrees with the flags
    (match lookup t "h2a", lookup t "h2b", lookup t "g2a", lookup t "g2b" with
     | some h2a, some h2b, some g2a, some g2b =>
       revOf h2b h2a && revOf g2a h2a && revOf g2b h2b && dotSign h2a h2b == -1
     | none, none, none, none => true
     | _, _, _, _ => false)
  | _, _, _, _, _, _, _, _ => false

/-- tables that the q-shift loader accepts (they have the `…a/…b` keys) but that are *not*
q-shift tables: recorded as a known finding, not repaired (removing shipped data is not a repair) -/
def notQshift : List String := ["farras", "near_sym_a2"]

def level1Tables := allTables.filter fun p => hasKey p.2 "h0o"
def qshiftTables := allTables.filter fun p => hasKey p.2 "h0a" && !(notQshift.contains p.1)

/-- every level-1 table: symmetric odd-length filters, undecimated PR, to 2^-40 -/
theorem level1_tables_ok : level1Tables.all (fun p => level1OK p.2) = true := by decide +kernel

/-- every q-shift table except `qshift_32`: orthonormal to 2^-40, exact reversal identities -/
theorem qshift_tables_ok :
    (qshiftTables.filter fun p => p.1 != "qshift_32").all (fun p => qshiftOK p.2 40) = true := by
  decide +kernel

/-- `qshift_32` is orthonormal only to 2^-28 (its defect is 1.5e-9), reversal identities exact -/
theorem qshift_32_ok : (qshiftTables.filter fun p => p.1 == "qshift_32").all (fun p => qshiftOK p.2 28) = true := by
  decide +kernel

/-- every file is classified: it is a level-1 table, a q-shift table, or one of the two recorded exceptions -/
theorem all_tables_classified :
    allTables.all (fun p => hasKey p.2 "h0o" || hasKey p.2 "h0a") = true := by decide +kernel

/-- the loaders only ever request keys of these two families -/
theorem loader_keys_known :
    (level1_keysets ++ qshift_keysets).all (fun ks => ks.all fun k =>
      ["h0o","g0o","h1o","g1o","h2o","g2o","h0a","h0b","g0a","g0b","h1a","h1b","g1a","g1b","h2a","h2b","g2a","g2b"].contains k) = true := by
  decide +kernel

/-- known finding, witnessed: the two first-stage tables the q-shift loader also accepts do not
satisfy the q-shift identities (`qshiftOK` is false for both even at tolerance 2^-28; in `farras` tree b is not the reverse of tree a) -/
theorem farras_not_qshift : (allTables.filter fun p => notQshift.contains p.1).all (fun p => !(qshiftOK p.2 28)) = true := by
  decide +kernel

/-- non-vacuity: there are at least 4 level-1 and at least 5 q-shift tables; the `example` after this one shows that the tolerance
is meaningful (`antonini_h0o` is *not* symmetric to 2^-52) -/
example : level1Tables.length ≥ 4 ∧ qshiftTables.length ≥ 5 := by decide +kernel
example : symOK antonini_h0o 52 = false := by decide +kernel

end WV.C18
