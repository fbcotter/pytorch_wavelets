/-
  C16 — the a-priori magnitude bound of the accuracy oracle, as a theorem about the implementation model.

  Over ℝ: every output sample of `afb1d` in the extension modes (zero, symmetric, periodic, reflect) is a dot product of the
  filter taps with samples of the input or zeros, hence `|y_k| ≤ ‖w‖₁ · max|x|` (`afb1dOne_gain`); through `J` levels of
  `pywt.wavedec` — which the module `DWT1DForward` equals in the modes zero / symmetric / periodic (C01) — every coefficient
  of every band is bounded by `max(‖h0‖₁, ‖h1‖₁, 1)^J · max|x|` (`wavedec_gain`).  This is the `gain · max|x|` the
  float32-vs-float64 deviation measured on the real code is compared against.
-/
import WaveletsVerif.Properties.C16
import WaveletsVerif.Properties.C01
namespace WV.C16G
open WV WV.C16 Finset

/-- `‖w‖₁` -/
noncomputable def l1 (w : List ℝ) : ℝ := ∑ j ∈ range w.length, |getN w j|

theorem l1_nonneg (w : List ℝ) : 0 ≤ l1 w := Finset.sum_nonneg (fun _ _ => abs_nonneg _)

def Bdd (M : ℝ) (x : List ℝ) : Prop := ∀ i, |getN x i| ≤ M

theorem Bdd.nonneg {M : ℝ} {x : List ℝ} (h : Bdd M x) : 0 ≤ M := le_trans (abs_nonneg _) (h 0)

theorem getN_oob (x : List ℝ) (i : Nat) (h : x.length ≤ i) : getN x i = 0 :=
  getN_of_le x i h

theorem bdd_l1 (x : List ℝ) : Bdd (l1 x) x := by
  intro i
  by_cases hi : i < x.length
  · exact Finset.single_le_sum (f := fun i => |getN x i|) (fun _ _ => abs_nonneg _) (Finset.mem_range.mpr hi)
  · rw [getN_oob x i (by omega), abs_zero]
    exact l1_nonneg x

theorem getZ_bdd {M : ℝ} {x : List ℝ} (h : Bdd M x) (t : Int) : |getZ x t| ≤ M := by
  unfold getZ
  split
  · exact h t.toNat
  · simpa using h.nonneg

theorem bdd_tab {M : ℝ} (hM : 0 ≤ M) (n : Nat) (f : Nat → ℝ) (hf : ∀ i < n, |f i| ≤ M) : Bdd M (tab n f) := by
  intro i
  rw [getN_tab]
  split
  · exact hf i (by assumption)
  · simpa using hM

theorem bdd_zeroPad {M : ℝ} {x : List ℝ} (h : Bdd M x) (l r : Nat) : Bdd M (zeroPad x l r) :=
  bdd_tab h.nonneg _ _ (fun _ _ => getZ_bdd h _)

theorem bdd_padIdx {M : ℝ} {x : List ℝ} (h : Bdd M x) (idx : Int → Int → Int) (l r : Nat) : Bdd M (padIdx idx x l r) :=
  bdd_tab h.nonneg _ _ (fun _ _ => getZ_bdd h _)

/-- a (strided, dilated) correlation has gain `‖w‖₁` -/
theorem corr_gain {M : ℝ} (w x : List ℝ) (h : Bdd M x) (s d : Nat) : Bdd (l1 w * M) (corr w x s d) := by
  unfold corr
  apply bdd_tab (mul_nonneg (l1_nonneg w) h.nonneg)
  intro k _
  rw [sumN_eq]
  exact abs_dot_le w.length (fun j => getN w j) (fun j => getN x (s * k + d * j)) M (fun j _ => h _)

/-- `afb1d` in the extension modes has gain `‖w‖₁`: whenever the model returns, every output sample is bounded by
`‖w‖₁ · M` for inputs bounded by `M` -/
theorem afb1dOne_gain (m : Mode) (hm : m = .zero ∨ m = .symmetric ∨ m = .periodic ∨ m = .reflect) (w x y : List ℝ) (M : ℝ)
    (hx : Bdd M x) (hy : afb1dOne m w x = some y) : Bdd (l1 w * M) y := by
  by_cases hg : w.length < 2 ∨ x.length < 1
  · simp only [afb1dOne, hg, if_true] at hy
    exact absurd hy (by simp)
  · rcases hm with rfl | rfl | rfl | rfl
    · simp only [afb1dOne, hg, if_false, Option.some.injEq] at hy
      subst hy
      apply corr_gain
      apply bdd_zeroPad
      split
      · exact bdd_zeroPad hx 0 1
      · exact hx
    · simp only [afb1dOne, hg, if_false, Option.some.injEq] at hy
      subst hy
      exact corr_gain _ _ (bdd_padIdx hx _ _ _) _ _
    · simp only [afb1dOne, hg, if_false, Option.some.injEq] at hy
      subst hy
      exact corr_gain _ _ (bdd_padIdx hx _ _ _) _ _
    · simp only [afb1dOne, hg, if_false] at hy
      split at hy
      · simp only [Option.some.injEq] at hy
        subst hy
        exact corr_gain _ _ (bdd_padIdx hx _ _ _) _ _
      · exact absurd hy (by simp)

theorem l1_reverse (h : List ℝ) : l1 h.reverse = l1 h := by
  unfold l1
  rw [List.length_reverse]
  rw [← Finset.sum_range_reflect]
  apply Finset.sum_congr rfl; intro j hj
  have hj' : j < h.length := by simpa using hj
  congr 1
  exact getN_reverse h j hj'

/-- PyWavelets' one-level formula has gain `‖h‖₁` in the modes where the implementation equals it -/
theorem dwt_gain (m : Mode) (hm : m = .zero ∨ m = .symmetric ∨ m = .periodic) (h x : List ℝ) (hL : 2 ≤ h.length) (hN : 1 ≤ x.length)
    (M : ℝ) (hx : Bdd M x) : Bdd (l1 h * M) (Spec.dwt m h x) := by
  have e := C01.modeOK_of (R := ℝ) m hm h x hL hN
  have := afb1dOne_gain m (by rcases hm with h1 | h1 | h1 <;> simp [h1]) h.reverse x _ M hx e
  rw [l1_reverse] at this
  exact this

theorem dwt_gain_le (m : Mode) (hm : m = .zero ∨ m = .symmetric ∨ m = .periodic) (h x : List ℝ) (hL : 2 ≤ h.length) (hN : 1 ≤ x.length)
    {M g : ℝ} (hx : Bdd M x) (hg : l1 h ≤ g) : Bdd (g * M) (Spec.dwt m h x) := fun i =>
  le_trans (dwt_gain m hm h x hL hN M hx i) (mul_le_mul_of_nonneg_right hg hx.nonneg)

theorem dwt_length_pos (m : Mode) (hm : m = .zero ∨ m = .symmetric ∨ m = .periodic) (h x : List ℝ) (hL : 2 ≤ h.length)
    (hN : 1 ≤ x.length) : 1 ≤ (Spec.dwt m h x).length := by
  rw [C01.dwt_length m hm]
  exact (afb_pad_spec x.length h.length hL hN).1

/-- J levels: every coefficient of `wavedec` is bounded by `g^J · M`, `g = max(‖h0‖₁, ‖h1‖₁, 1)` -/
theorem wavedec_gain (m : Mode) (hm : m = .zero ∨ m = .symmetric ∨ m = .periodic) (h0 h1 : List ℝ) (hL0 : 2 ≤ h0.length)
    (hL1 : 2 ≤ h1.length) (g : ℝ) (hg0 : l1 h0 ≤ g) (hg1 : l1 h1 ≤ g) (hg : 1 ≤ g) :
    ∀ (J : Nat) (x : List ℝ) (M : ℝ), 1 ≤ x.length → Bdd M x →
      Bdd (g ^ J * M) (Spec.wavedec m h0 h1 J x).1 ∧ ∀ d ∈ (Spec.wavedec m h0 h1 J x).2, Bdd (g ^ J * M) d
  | 0, x, M, _, hx => by simp [Spec.wavedec]; exact hx
  | J+1, x, M, hN, hx => by
    have hM := hx.nonneg
    have hi := dwt_gain_le m hm h1 x hL1 hN hx hg1
    have ih := wavedec_gain m hm h0 h1 hL0 hL1 g hg0 hg1 hg J (Spec.dwt m h0 x) (g * M) (dwt_length_pos m hm h0 x hL0 hN)
      (dwt_gain_le m hm h0 x hL0 hN hx hg0)
    have e : g ^ J * (g * M) = g ^ (J + 1) * M := by ring
    rw [e] at ih
    simp only [Spec.wavedec]
    refine ⟨ih.1, ?_⟩
    intro d hd
    simp only [List.mem_cons] at hd
    rcases hd with rfl | hd
    · intro i
      have hgj : g * M ≤ g ^ (J + 1) * M := by
        apply mul_le_mul_of_nonneg_right _ hM
        calc g = g ^ 1 := (pow_one g).symm
          _ ≤ g ^ (J + 1) := pow_le_pow_right₀ hg (by omega)
      exact le_trans (hi i) hgj
    · exact ih.2 d hd

end WV.C16G
