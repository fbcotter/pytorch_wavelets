/-
  C16 — the float32-accuracy bound of the TWO-dimensional transform under the standard model of floating-point arithmetic.

  One 2-D level is a pass of the 1-D bank over the rows followed by a pass over the columns.  With one-level maps that meet the
  1-D bound `γ` of `C16R` (the model's `afb1d` with a rounded convolution does, `C16R.flLevel_approx`) a pass over an image that is
  within `E` of an exact image bounded by `M` ends within `g·((1+γ)(M+E) − M)` of the exact pass (`pass_rows`, `pass_cols`), so one
  2-D level counts as two 1-D levels (`dwt2_fl_err`) and `J` levels as `2J`: every coefficient of every band of the 2-D pyramid is
  within `((1+γ)^{2J} − 1)·g^{2J}·max|x|` of the exact `pywt.wavedec2` coefficient (`wavedec2_fl_err`), `g = max(‖h‖₁ over the four
  filters, 1)`.  Modes zero / symmetric / periodic, filters of length `≥ 2`, every non-empty rectangular image.
-/
import WaveletsVerif.Properties.C16R
import WaveletsVerif.Lemmas.Img
import Mathlib.Data.List.GetD
namespace WV.C16S
open WV WV.C04 WV.C16 WV.C16G WV.C16R Finset

def Bdd2 (M : ℝ) (x : Img ℝ) : Prop := ∀ i j, |get2 x i j| ≤ M

def Close2 (E : ℝ) (H W : Nat) (x y : Img ℝ) : Prop := Rect x H W ∧ Rect y H W ∧ ∀ i j, |get2 x i j - get2 y i j| ≤ E

theorem Bdd2.nonneg {M : ℝ} {x : Img ℝ} (h : Bdd2 M x) : 0 ≤ M := le_trans (abs_nonneg _) (h 0 0)

theorem Close2.nonneg {E : ℝ} {H W : Nat} {x y : Img ℝ} (h : Close2 E H W x y) : 0 ≤ E := le_trans (abs_nonneg _) (h.2.2 0 0)

theorem Close2.mono {E E' : ℝ} {H W : Nat} {x y : Img ℝ} (h : Close2 E H W x y) (hE : E ≤ E') : Close2 E' H W x y :=
  ⟨h.1, h.2.1, fun i j => le_trans (h.2.2 i j) hE⟩

section
variable (m : Mode) (hm : m = .zero ∨ m = .symmetric ∨ m = .periodic)

include hm in
theorem one_level (g γ : ℝ) (hγ : 0 ≤ γ) (h : List ℝ) (D : List ℝ → List ℝ) (hL : 2 ≤ h.length) (hgl : l1 h ≤ g) (hD : ApproxLevel m h γ D)
    (x x' : List ℝ) (M E : ℝ) (hN : 1 ≤ x.length) (hx : Bdd M x) (hc : Close E x' x) :
    Close (g * ((1 + γ) * (M + E) - M)) (D x') (Spec.dwt m h x) :=
  level_err m hm g γ hγ h D hL hgl hD x x' M E hN hx hc

include hm in
/-- a pass over the rows: approximate map on the approximate image against the exact level on the exact image; also the gain bound of the exact pass -/
theorem pass_rows (g γ : ℝ) (hγ : 0 ≤ γ) (h : List ℝ) (D : List ℝ → List ℝ) (hL : 2 ≤ h.length) (hgl : l1 h ≤ g) (hD : ApproxLevel m h γ D)
    (x x' : Img ℝ) (H W : Nat) (hW : 1 ≤ W) (M E : ℝ) (hx : Bdd2 M x) (hc : Close2 E H W x' x) :
    Close2 (g * ((1 + γ) * (M + E) - M)) H (dwtCoeffLen W h.length) (Spec.rowsMap D x') (Spec.rowsMap (Spec.dwt m h) x) ∧
      Bdd2 (g * M) (Spec.rowsMap (Spec.dwt m h) x) := by
  have hM := hx.nonneg
  have hE := hc.nonneg
  obtain ⟨rx', rx, hcl⟩ := hc
  have hg0 : 0 ≤ g := le_trans (l1_nonneg h) hgl
  have lenD : ∀ c : List ℝ, c.length = W → (D c).length = dwtCoeffLen W h.length := by
    intro c hcW; rw [approxLevel_length m hD c (by omega), C01.dwt_length m hm, hcW]
  have lenX : ∀ c : List ℝ, c.length = W → (Spec.dwt m h c).length = dwtCoeffLen W h.length := by
    intro c hcW; rw [C01.dwt_length m hm, hcW]
  have eA : Spec.rowsMap D x' = tab2 H (dwtCoeffLen W h.length) fun i j => getN (D (x'.getD i [])) j := alongW_tab2 D x' H W _ rx' lenD
  have eB : Spec.rowsMap (Spec.dwt m h) x = tab2 H (dwtCoeffLen W h.length) fun i j => getN (Spec.dwt m h (x.getD i [])) j :=
    alongW_tab2 _ x H W _ rx lenX
  have rowc : ∀ i, i < H → Close E (x'.getD i []) (x.getD i []) ∧ Bdd M (x.getD i []) ∧ (x.getD i []).length = W := by
    intro i hi
    have l1' : (x'.getD i []).length = W := row_length x' H W rx' i hi
    have l2' : (x.getD i []).length = W := row_length x H W rx i hi
    exact ⟨⟨by rw [l1', l2'], fun j => hcl i j⟩, fun j => hx i j, l2'⟩
  have key : ∀ i j, |get2 (Spec.rowsMap D x') i j - get2 (Spec.rowsMap (Spec.dwt m h) x) i j| ≤ g * ((1 + γ) * (M + E) - M) ∧
      |get2 (Spec.rowsMap (Spec.dwt m h) x) i j| ≤ g * M := by
    intro i j
    have hpos : 0 ≤ g * ((1 + γ) * (M + E) - M) := by
      have : 0 ≤ (1 + γ) * (M + E) - M := by nlinarith
      exact mul_nonneg hg0 this
    rw [eA, eB]
    by_cases hij : i < H ∧ j < dwtCoeffLen W h.length
    · rw [get2_tab2 _ _ _ i j hij.1 hij.2, get2_tab2 _ _ _ i j hij.1 hij.2]
      obtain ⟨c1, c2, c3⟩ := rowc i hij.1
      refine ⟨(one_level m hm g γ hγ h D hL hgl hD _ _ M E (by omega) c2 c1).2 j, ?_⟩
      exact dwt_gain_le m hm h _ hL (by omega) c2 hgl j
    · rw [get2_tab2_oob _ _ _ _ _ hij, get2_tab2_oob _ _ _ _ _ hij, sub_self, abs_zero]
      exact ⟨hpos, mul_nonneg hg0 hM⟩
  refine ⟨⟨?_, ?_, fun i j => (key i j).1⟩, fun i j => (key i j).2⟩
  · rw [eA]; exact tab2_rect _ _ _
  · rw [eB]; exact tab2_rect _ _ _

theorem close2_tr {E : ℝ} {H W : Nat} {x y : Img ℝ} (h : Close2 E H W x y) (hH : 1 ≤ H) : Close2 E W H (tr x) (tr y) :=
  ⟨tr_rect x H W h.1 hH, tr_rect y H W h.2.1 hH, fun j i => by
    rw [get2_tr x H W h.1 hH, get2_tr y H W h.2.1 hH]; exact h.2.2 i j⟩

include hm in
theorem pass_cols (g γ : ℝ) (hγ : 0 ≤ γ) (h : List ℝ) (D : List ℝ → List ℝ) (hL : 2 ≤ h.length) (hgl : l1 h ≤ g) (hD : ApproxLevel m h γ D)
    (x x' : Img ℝ) (H W : Nat) (hH : 1 ≤ H) (hW : 1 ≤ W) (M E : ℝ) (hx : Bdd2 M x) (hc : Close2 E H W x' x) :
    Close2 (g * ((1 + γ) * (M + E) - M)) (dwtCoeffLen H h.length) W (Spec.colsMap D x') (Spec.colsMap (Spec.dwt m h) x) ∧
      Bdd2 (g * M) (Spec.colsMap (Spec.dwt m h) x) := by
  have hxt : Bdd2 M (tr x) := fun j i => by rw [get2_tr x H W hc.2.1 hH]; exact hx i j
  obtain ⟨c, b⟩ := pass_rows m hm g γ hγ h D hL hgl hD (tr x) (tr x') W H hH M E hxt (close2_tr hc hH)
  have e1 : Spec.colsMap D x' = tr (Spec.rowsMap D (tr x')) := rfl
  have e2 : Spec.colsMap (Spec.dwt m h) x = tr (Spec.rowsMap (Spec.dwt m h) (tr x)) := rfl
  rw [e1, e2]
  refine ⟨close2_tr c hW, fun i j => ?_⟩
  rw [get2_tr _ W _ c.2.1 hW]; exact b j i

include hm in
/-- one 2-D level in floating point counts as two 1-D levels: the four bands computed with approximate one-level maps (rows, then
columns) from an image within `E` of an exact image bounded by `M` are within `g²·((1+γ)²(M+E) − M)` of the exact `pywt.dwt2` bands,
and the exact bands are bounded by `g²·M` -/
theorem dwt2_fl_err (g γ : ℝ) (hγ : 0 ≤ γ) (hc0 hc1 hr0 hr1 : List ℝ) (hLc0 : 2 ≤ hc0.length) (hLc1 : hc1.length = hc0.length)
    (hLr0 : 2 ≤ hr0.length) (hLr1 : hr1.length = hr0.length)
    (g0 : l1 hc0 ≤ g) (g1 : l1 hc1 ≤ g) (g2 : l1 hr0 ≤ g) (g3 : l1 hr1 ≤ g)
    (Dc0 Dc1 Dr0 Dr1 : List ℝ → List ℝ) (a0 : ApproxLevel m hc0 γ Dc0) (a1 : ApproxLevel m hc1 γ Dc1)
    (a2 : ApproxLevel m hr0 γ Dr0) (a3 : ApproxLevel m hr1 γ Dr1)
    (x x' : Img ℝ) (H W : Nat) (hH : 1 ≤ H) (hW : 1 ≤ W) (M E : ℝ) (hx : Bdd2 M x) (hc : Close2 E H W x' x) :
    let K := dwtCoeffLen H hc0.length
    let Kw := dwtCoeffLen W hr0.length
    let e2 := errJ g γ M E 2
    let S := Spec.dwt2 m hc0 hc1 hr0 hr1 x
    Close2 e2 K Kw (Spec.colsMap Dc0 (Spec.rowsMap Dr0 x')) S.1 ∧ Close2 e2 K Kw (Spec.colsMap Dc1 (Spec.rowsMap Dr0 x')) S.2.1 ∧
    Close2 e2 K Kw (Spec.colsMap Dc0 (Spec.rowsMap Dr1 x')) S.2.2.1 ∧ Close2 e2 K Kw (Spec.colsMap Dc1 (Spec.rowsMap Dr1 x')) S.2.2.2 ∧
    Bdd2 (g * (g * M)) S.1 := by
  intro K Kw e2 S
  have hKw : 1 ≤ Kw := (afb_pad_spec W hr0.length hLr0 hW).1
  obtain ⟨lo, lob⟩ := pass_rows m hm g γ hγ hr0 Dr0 hLr0 g2 a2 x x' H W hW M E hx hc
  obtain ⟨hi, hib⟩ := pass_rows m hm g γ hγ hr1 Dr1 (by omega) g3 a3 x x' H W hW M E hx hc
  rw [hLr1] at hi
  have ee : g * ((1 + γ) * (g * M + g * ((1 + γ) * (M + E) - M)) - g * M) = errJ g γ M E 2 := by
    rw [← errJ_one, errJ_step]
  obtain ⟨c00, b00⟩ := pass_cols m hm g γ hγ hc0 Dc0 hLc0 g0 a0 _ _ H Kw hH hKw (g * M) _ lob lo
  obtain ⟨c10, _⟩ := pass_cols m hm g γ hγ hc1 Dc1 (by omega) g1 a1 _ _ H Kw hH hKw (g * M) _ lob lo
  obtain ⟨c01, _⟩ := pass_cols m hm g γ hγ hc0 Dc0 hLc0 g0 a0 _ _ H Kw hH hKw (g * M) _ hib hi
  obtain ⟨c11, _⟩ := pass_cols m hm g γ hγ hc1 Dc1 (by omega) g1 a1 _ _ H Kw hH hKw (g * M) _ hib hi
  rw [ee] at c00 c10 c01 c11
  rw [hLc1] at c10 c11
  exact ⟨c00, c10, c01, c11, b00⟩

/-- `wavedec2` computed with level-dependent approximate one-level maps (rows first, then columns, as `AFB2D` does) -/
def flWavedec2 (Dc0 Dc1 Dr0 Dr1 : Nat → List ℝ → List ℝ) : Nat → Nat → Img ℝ → Img ℝ × List (List (Img ℝ))
  | 0, _, x => (x, [])
  | J+1, j, x =>
    let lo := Spec.rowsMap (Dr0 j) x
    let hi := Spec.rowsMap (Dr1 j) x
    let r := flWavedec2 Dc0 Dc1 Dr0 Dr1 J (j+1) (Spec.colsMap (Dc0 j) lo)
    (r.1, [Spec.colsMap (Dc1 j) lo, Spec.colsMap (Dc0 j) hi, Spec.colsMap (Dc1 j) hi] :: r.2)

theorem errJ_two (g γ M E : ℝ) (n : Nat) : errJ g γ (g * (g * M)) (errJ g γ M E 2) n = errJ g γ M E (n + 2) := by
  unfold errJ; ring

include hm in
/-- J levels of the 2-D transform in floating point: with one-level maps of relative accuracy `γ`, the final low-pass and every
band of every level are within `errJ g γ M E (2J)` of the exact `pywt.wavedec2` coefficients when the input is within `E` of an exact
image bounded by `M` -/
theorem wavedec2_fl_err_gen (g γ : ℝ) (hg : 1 ≤ g) (hγ : 0 ≤ γ) (hc0 hc1 hr0 hr1 : List ℝ) (hLc0 : 2 ≤ hc0.length)
    (hLc1 : hc1.length = hc0.length) (hLr0 : 2 ≤ hr0.length) (hLr1 : hr1.length = hr0.length)
    (g0 : l1 hc0 ≤ g) (g1 : l1 hc1 ≤ g) (g2 : l1 hr0 ≤ g) (g3 : l1 hr1 ≤ g)
    (Dc0 Dc1 Dr0 Dr1 : Nat → List ℝ → List ℝ) (a0 : ∀ j, ApproxLevel m hc0 γ (Dc0 j)) (a1 : ∀ j, ApproxLevel m hc1 γ (Dc1 j))
    (a2 : ∀ j, ApproxLevel m hr0 γ (Dr0 j)) (a3 : ∀ j, ApproxLevel m hr1 γ (Dr1 j)) :
    ∀ (J j : Nat) (x x' : Img ℝ) (H W : Nat) (M E : ℝ), 1 ≤ H → 1 ≤ W → Bdd2 M x → Close2 E H W x' x →
      (∃ HJ WJ, Close2 (errJ g γ M E (2 * J)) HJ WJ (flWavedec2 Dc0 Dc1 Dr0 Dr1 J j x').1 (Spec.wavedec2 m hc0 hc1 hr0 hr1 J x).1) ∧
      (flWavedec2 Dc0 Dc1 Dr0 Dr1 J j x').2.length = (Spec.wavedec2 m hc0 hc1 hr0 hr1 J x).2.length ∧
      ∀ i k, i < J → k < 3 → ∃ Hi Wi, Close2 (errJ g γ M E (2 * J)) Hi Wi
        (((flWavedec2 Dc0 Dc1 Dr0 Dr1 J j x').2.getD i []).getD k []) (((Spec.wavedec2 m hc0 hc1 hr0 hr1 J x).2.getD i []).getD k [])
  | 0, j, x, x', H, W, M, E, _, _, _, hc => by
    have e : errJ g γ M E (2 * 0) = E := by unfold errJ; simp
    simp only [flWavedec2, Spec.wavedec2, e]
    exact ⟨⟨H, W, hc⟩, trivial, fun i k hi _ => absurd hi (by omega)⟩
  | J+1, j, x, x', H, W, M, E, hH, hW, hx, hc => by
    have hM := hx.nonneg
    have hE := hc.nonneg
    obtain ⟨cA, cH, cV, cD, bA⟩ := dwt2_fl_err m hm g γ hγ hc0 hc1 hr0 hr1 hLc0 hLc1 hLr0 hLr1 g0 g1 g2 g3 (Dc0 j) (Dc1 j) (Dr0 j) (Dr1 j)
      (a0 j) (a1 j) (a2 j) (a3 j) x x' H W hH hW M E hx hc
    have hK : 1 ≤ dwtCoeffLen H hc0.length := (afb_pad_spec H hc0.length hLc0 hH).1
    have hKw : 1 ≤ dwtCoeffLen W hr0.length := (afb_pad_spec W hr0.length hLr0 hW).1
    obtain ⟨ihA, ihL, ihB⟩ := wavedec2_fl_err_gen g γ hg hγ hc0 hc1 hr0 hr1 hLc0 hLc1 hLr0 hLr1 g0 g1 g2 g3 Dc0 Dc1 Dr0 Dr1 a0 a1 a2 a3 J (j+1)
      (Spec.dwt2 m hc0 hc1 hr0 hr1 x).1 _ _ _ (g * (g * M)) (errJ g γ M E 2) hK hKw bA cA
    have e2 : 2 * (J + 1) = 2 * J + 2 := by ring
    rw [errJ_two] at ihA ihB
    rw [e2]
    simp only [flWavedec2, Spec.wavedec2]
    refine ⟨ihA, by simp [ihL], fun i k hi hk => ?_⟩
    cases i with
    | zero =>
      have mono : errJ g γ M E 2 ≤ errJ g γ M E (2 * J + 2) := by
        have := errJ_le g γ M E hg hγ hM hE 2 (2 * J)
        rw [show 2 + 2 * J = 2 * J + 2 by ring] at this; exact this
      simp only [List.getD_cons_zero]
      have hk3 : k = 0 ∨ k = 1 ∨ k = 2 := by omega
      rcases hk3 with rfl | rfl | rfl
      · exact ⟨_, _, cH.mono mono⟩
      · exact ⟨_, _, cV.mono mono⟩
      · exact ⟨_, _, cD.mono mono⟩
    | succ i =>
      simp only [List.getD_cons_succ]
      exact ihB i k (Nat.lt_of_succ_lt_succ hi) hk

include hm in
/-- C16, float32 accuracy of the J-level 2-D transform (modes zero / symmetric / periodic, non-empty `H × W` image): computed with one-level maps of relative accuracy `γ`, every coefficient of
every band is within `((1+γ)^{2J} − 1)·g^{2J}·max|x|` of the exact coefficient of `pywt.wavedec2` — i.e. of the module `DWTForward`
(`C01.DWTForward_eq_wavedec2`) -/
theorem wavedec2_fl_err (g γ : ℝ) (hg : 1 ≤ g) (hγ : 0 ≤ γ) (hc0 hc1 hr0 hr1 : List ℝ) (hLc0 : 2 ≤ hc0.length)
    (hLc1 : hc1.length = hc0.length) (hLr0 : 2 ≤ hr0.length) (hLr1 : hr1.length = hr0.length)
    (g0 : l1 hc0 ≤ g) (g1 : l1 hc1 ≤ g) (g2 : l1 hr0 ≤ g) (g3 : l1 hr1 ≤ g)
    (Dc0 Dc1 Dr0 Dr1 : Nat → List ℝ → List ℝ) (a0 : ∀ j, ApproxLevel m hc0 γ (Dc0 j)) (a1 : ∀ j, ApproxLevel m hc1 γ (Dc1 j))
    (a2 : ∀ j, ApproxLevel m hr0 γ (Dr0 j)) (a3 : ∀ j, ApproxLevel m hr1 γ (Dr1 j))
    (J : Nat) (x : Img ℝ) (H W : Nat) (M : ℝ) (hH : 1 ≤ H) (hW : 1 ≤ W) (hr : Rect x H W) (hx : Bdd2 M x) :
    (∃ HJ WJ, Close2 (((1 + γ) ^ (2 * J) - 1) * (g ^ (2 * J) * M)) HJ WJ (flWavedec2 Dc0 Dc1 Dr0 Dr1 J 0 x).1 (Spec.wavedec2 m hc0 hc1 hr0 hr1 J x).1) ∧
    ∀ i k, i < J → k < 3 → ∃ Hi Wi, Close2 (((1 + γ) ^ (2 * J) - 1) * (g ^ (2 * J) * M)) Hi Wi
      (((flWavedec2 Dc0 Dc1 Dr0 Dr1 J 0 x).2.getD i []).getD k []) (((Spec.wavedec2 m hc0 hc1 hr0 hr1 J x).2.getD i []).getD k []) := by
  have := wavedec2_fl_err_gen m hm g γ hg hγ hc0 hc1 hr0 hr1 hLc0 hLc1 hLr0 hLr1 g0 g1 g2 g3 Dc0 Dc1 Dr0 Dr1 a0 a1 a2 a3 J 0 x x H W M 0 hH hW hx
    ⟨hr, hr, fun i j => by simp⟩
  have e : errJ g γ M 0 (2 * J) = ((1 + γ) ^ (2 * J) - 1) * (g ^ (2 * J) * M) := by unfold errJ; ring
  rw [e] at this
  exact ⟨this.1, this.2.2⟩

/-- the hypothesis `ApproxLevel` of `dwt2_fl_err` / `wavedec2_fl_err` is satisfiable: the exact level is an approximate level of
accuracy 0 (and `C16R.flLevel_approx` gives the rounded
`afb1d` of the model with `γ = (1+u)^(L+1) − 1`) -/
example (h : List ℝ) : ApproxLevel m h 0 (Spec.dwt m h) := by
  intro x M _ _
  simpa using close_refl (Spec.dwt m h x)

end
end WV.C16S
