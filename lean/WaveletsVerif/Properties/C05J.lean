/-
  C05 — back-propagation through the whole J-level 2-D forward transform is the exact adjoint (mode zero, one channel, every
  image size `H, W ≥ 1`, all filter lengths ≥ 2, every J; `DWT2D_zero_adjoint`).

  The module `DWTForward` applies `AFB2D` level after level to the low-pass; autograd therefore runs `AFB2D.backward` from the
  coarsest level to the finest, each time with the gradient of the low-pass that the coarser levels produced and the saved
  input shape of that level (`DWTForwardBackward`: PyTorch's chain rule over the module's loop, with the library's hand-written
  backward at every level).  One level is the adjoint of one level (`C05D.AFB2D_zero_adjoint`); by induction over the levels
  `⟨DWTForward x, P⟩ = ⟨x, backward(P)⟩` for every cotangent pyramid `P` of forward shapes.
  The same in periodization mode (`DWT2D_per_adjoint`, from `C05P.AFB2D_per_adjoint`): one channel, every image size, odd sides
  included, and even filter lengths that fit the even-extended sides at every level (`C01P.LevelsFitP`).
-/
import WaveletsVerif.Properties.C17T
import WaveletsVerif.Properties.C01P
namespace WV.C05J
open Finset WV WV.C04 WV.C06 WV.C05D WV.C17T
variable {R : Type} [CommRing R]

/-- autograd's chain rule over the level loop of `DWTForward`: `AFB2D.backward` from the coarsest level to the finest;
`shapes` are the saved input shapes of the levels, finest first -/
def DWTForwardBackward (mode : Mode) (wr0 wr1 wc0 wc1 : List R) : List (Nat × Nat) → Img R → List (List (Img R)) → Option (Img R)
  | [], gl, _ => some gl
  | (H, W) :: ss, gl, b :: rest => do
    let g ← DWTForwardBackward mode wr0 wr1 wc0 wc1 ss gl rest
    let r ← AFB2D_backward mode wr0 wr1 wc0 wc1 H W [g] [b]
    r.head?
  | _ :: _, _, [] => none

/-- the input shapes of the levels of a `J`-level transform of an `H × W` image in the non-periodization modes -/
def shapesZ (Lc Lr : Nat) : Nat → Nat → Nat → List (Nat × Nat)
  | 0, _, _ => []
  | J+1, H, W => (H, W) :: shapesZ Lc Lr J (dwtCoeffLen H Lc) (dwtCoeffLen W Lr)

/-- a cotangent pyramid of the shapes a `J`-level mode-zero transform of an `H × W` image produces (finest level first) -/
def PyrRectZ (Lc Lr : Nat) : Nat → Nat → Nat → Img R → List (List (Img R)) → Prop
  | 0, H, W, gl, [] => Rect gl H W
  | J+1, H, W, gl, b :: rest =>
    (∃ glh ghl ghh, b = [glh, ghl, ghh] ∧ Rect glh (dwtCoeffLen H Lc) (dwtCoeffLen W Lr) ∧ Rect ghl (dwtCoeffLen H Lc) (dwtCoeffLen W Lr) ∧
      Rect ghh (dwtCoeffLen H Lc) (dwtCoeffLen W Lr)) ∧ PyrRectZ Lc Lr J (dwtCoeffLen H Lc) (dwtCoeffLen W Lr) gl rest
  | _, _, _, _, _ => False

/-- the J-level back-propagation is the adjoint of the J-level forward transform (mode zero, one channel): for every J,
every image, all filter lengths ≥ 2 and every cotangent pyramid `P` of forward shapes, `⟨DWTForward x, P⟩ = ⟨x, backward(P)⟩` -/
theorem DWT2D_zero_adjoint (wr0 wr1 wc0 wc1 : List R) (hLr : 2 ≤ wr0.length) (hwr : wr1.length = wr0.length)
    (hLc : 2 ≤ wc0.length) (hwc : wc1.length = wc0.length) :
    ∀ (J : Nat) (x : Img R) (H W : Nat) (gl : Img R) (gh : List (List (Img R))), Rect x H W → 1 ≤ H → 1 ≤ W →
      PyrRectZ wc0.length wr0.length J H W gl gh →
      ∃ yl yh y, DWTForward .zero wc0 wc1 wr0 wr1 J [x] = some ([yl], yh) ∧
        DWTForwardBackward .zero wr0 wr1 wc0 wc1 (shapesZ wc0.length wr0.length J H W) gl gh = some y ∧
        Rect y H W ∧ pdot yl yh gl gh = idot x y
  | 0, x, H, W, gl, gh, hx, hH, _, hp => by
    cases gh with
    | nil =>
      exact ⟨x, [], gl, by simp [DWTForward], by simp [DWTForwardBackward, shapesZ], hp, pdot_nil x gl⟩
    | cons b rest => exact absurd hp (by simp [PyrRectZ])
  | J+1, x, H, W, gl, gh, hx, hH, hW, hp => by
    cases gh with
    | nil => exact absurd hp (by simp [PyrRectZ])
    | cons b rest =>
      obtain ⟨⟨glh, ghl, ghh, rfl, r2, r3, r4⟩, hrest⟩ := hp
      have hKh := bandLen_pos H wc0.length hLc hH
      have hKw := bandLen_pos W wr0.length hLr hW
      have hfv := C05D.AFB2D_forward_val wr0 wr1 wc0 wc1 hLr hwr hLc hwc x H W hx hH hW
      have rB : ∀ wc wr : List R, wc.length = wc0.length → wr.length = wr0.length →
          Rect (alongH (Az wc) (alongW (Az wr) x)) (dwtCoeffLen H wc0.length) (dwtCoeffLen W wr0.length) := by
        intro wc wr ec er
        rw [← ec, ← er]
        exact rect_Az_band wc wr (by rw [ec]; exact hLc) (by rw [er]; exact hLr) x H W hx hH hW
      obtain ⟨yl, yh, y', hfr, hbr, ry', hdr⟩ := DWT2D_zero_adjoint wr0 wr1 wc0 wc1 hLr hwr hLc hwc J _ _ _ gl rest (rB wc0 wr0 rfl rfl)
        hKh hKw hrest
      have hbv := AFB2D_backward_val wr0 wr1 wc0 wc1 hLr hwr hLc hwc H W hH hW y' glh ghl ghh ry' r2 r3 r4
      have hd := AFB2D_zero_adjoint_val wr0 wr1 wc0 wc1 hLr hwr hLc hwc H W hH hW x y' glh ghl ghh hx ry' r2 r3 r4
      refine ⟨yl, [[alongH (Az wc1) (alongW (Az wr0) x), alongH (Az wc0) (alongW (Az wr1) x), alongH (Az wc1) (alongW (Az wr1) x)]] :: yh,
        tab2 H W (get2 (dxFull wr0 wr1 wc0 wc1 H W y' glh ghl ghh)), ?_, ?_, tab2_rect _ _ _, ?_⟩
      · exact DWTForward_succ _ _ _ _ _ J _ _ _ _ _ hfv hfr
      · simp only [shapesZ, DWTForwardBackward, hbr, Option.bind_eq_bind, Option.bind_some, hbv, List.head?_cons]
      · rw [pdot_cons, hdr, idot_rect _ _ _ _ (rB wc1 wr0 hwc rfl) hKh, idot_rect _ _ _ _ (rB wc0 wr1 rfl hwr) hKh,
          idot_rect _ _ _ _ (rB wc1 wr1 hwc hwr) hKh, idot_rect _ _ _ _ (rB wc0 wr0 rfl rfl) hKh, idot_rect x _ H W hx hH, ← hd]
        ring

/-- the input shapes of the levels in periodization mode (odd sides are extended by one sample first) -/
def shapesP : Nat → Nat → Nat → List (Nat × Nat)
  | 0, _, _ => []
  | J+1, H, W => (H, W) :: shapesP J ((H + H % 2) / 2) ((W + W % 2) / 2)

/-- a cotangent pyramid of the shapes a `J`-level periodization transform of an `H × W` image produces -/
def PyrRectP : Nat → Nat → Nat → Img R → List (List (Img R)) → Prop
  | 0, H, W, gl, [] => Rect gl H W
  | J+1, H, W, gl, b :: rest =>
    (∃ glh ghl ghh, b = [glh, ghl, ghh] ∧ Rect glh ((H + H % 2) / 2) ((W + W % 2) / 2) ∧ Rect ghl ((H + H % 2) / 2) ((W + W % 2) / 2) ∧
      Rect ghh ((H + H % 2) / 2) ((W + W % 2) / 2)) ∧ PyrRectP J ((H + H % 2) / 2) ((W + W % 2) / 2) gl rest
  | _, _, _, _, _ => False

open WV.C05P WV.C01P in
/-- the J-level back-propagation is the adjoint of the J-level forward transform in periodization mode (one channel; every
J and image size, odd sizes included — the gradient of the repeated sample is folded back at every level —, even filter
lengths that fit the even-extended sides at every level, `LevelsFitP`: the complement of the recorded short-level finding) -/
theorem DWT2D_per_adjoint (hr0 hr1 hc0 hc1 : List R) (hLr : 2 ≤ hr0.length) (hLre : hr0.length % 2 = 0) (hwr : hr1.length = hr0.length)
    (hLc : 2 ≤ hc0.length) (hLce : hc0.length % 2 = 0) (hwc : hc1.length = hc0.length) :
    ∀ (J : Nat) (x : Img R) (H W : Nat) (gl : Img R) (gh : List (List (Img R))), Rect x H W → 1 ≤ H → 1 ≤ W →
      LevelsFitP hc0.length hr0.length J H W → PyrRectP J H W gl gh →
      ∃ yl yh y, DWTForward .periodization hc0.reverse hc1.reverse hr0.reverse hr1.reverse J [x] = some ([yl], yh) ∧
        DWTForwardBackward .periodization hr0.reverse hr1.reverse hc0.reverse hc1.reverse (shapesP J H W) gl gh = some y ∧
        Rect y H W ∧ pdot yl yh gl gh = idot x y
  | 0, x, H, W, gl, gh, hx, hH, _, _, hp => by
    cases gh with
    | nil =>
      exact ⟨x, [], gl, by simp [DWTForward], by simp [DWTForwardBackward, shapesP], hp, pdot_nil x gl⟩
    | cons b rest => exact absurd hp (by simp [PyrRectP])
  | J+1, x, H, W, gl, gh, hx, hH, hW, hfit, hp => by
    cases gh with
    | nil => exact absurd hp (by simp [PyrRectP])
    | cons b rest =>
      obtain ⟨⟨glh, ghl, ghh, rfl, r2, r3, r4⟩, hrest⟩ := hp
      obtain ⟨hfH, hfW, hfitr⟩ := hfit
      have hKh := halfUp_pos H hH
      have hKw := halfUp_pos W hW
      have hfv := C05P.AFB2D_forward_val hr0 hr1 hc0 hc1 hLr hLre hwr hLc hLce hwc H W hH hW hfH hfW x hx
      have rB := fun wc wr : List R => rect_Ap_band wc wr x H W hx hH hW
      obtain ⟨yl, yh, y', hfr, hbr, ry', hdr⟩ := DWT2D_per_adjoint hr0 hr1 hc0 hc1 hLr hLre hwr hLc hLce hwc J _ _ _ gl rest (rB hc0 hr0)
        hKh hKw hfitr hrest
      have hbv := C05P.AFB2D_backward_val hr0 hr1 hc0 hc1 hLr hwr hLc hwc H W hH hW hfH hfW y' glh ghl ghh ry' r2 r3 r4
      have hd := AFB2D_per_adjoint_val hr0 hr1 hc0 hc1 hLr hLre hwr hLc hLce hwc H W hH hW hfH hfW x y' glh ghl ghh hx ry' r2 r3 r4
      have rdx : Rect (foldCrop2 .periodization H W (dxFullP hr0 hr1 hc0 hc1 H W y' glh ghl ghh)) H W := by
        have rfull : Rect (dxFullP hr0 hr1 hc0 hc1 H W y' glh ghl ghh) (2 * ((H + H % 2) / 2)) (2 * ((W + W % 2) / 2)) := rowzip_rect _ _ _ _ _
        rw [foldCrop2_val .periodization _ (2 * ((H + H % 2) / 2)) (2 * ((W + W % 2) / 2)) H W rfull (by omega) (by omega)
          (fun c hc => foldCrop_per_length H c (by rw [hc]; exact two_mul_halfUp H))
          (fun c hc => foldCrop_per_length W c (by rw [hc]; exact two_mul_halfUp W))]
        exact tab2_rect _ _ _
      refine ⟨yl, [[alongH (Ap hc1) (alongW (Ap hr0) x), alongH (Ap hc0) (alongW (Ap hr1) x), alongH (Ap hc1) (alongW (Ap hr1) x)]] :: yh,
        _, ?_, ?_, rdx, ?_⟩
      · exact DWTForward_succ _ _ _ _ _ J _ _ _ _ _ hfv hfr
      · simp only [shapesP, DWTForwardBackward, hbr, Option.bind_eq_bind, Option.bind_some, hbv, List.head?_cons]
      · rw [pdot_cons, hdr, idot_rect _ _ _ _ (rB hc1 hr0) hKh, idot_rect _ _ _ _ (rB hc0 hr1) hKh, idot_rect _ _ _ _ (rB hc1 hr1) hKh,
          idot_rect _ _ _ _ (rB hc0 hr0) hKh, idot_rect x _ H W hx hH, ← hd]
        ring

/-- the shape hypotheses `PyrRectZ` (of `DWT2D_zero_adjoint`) and `PyrRectP` (of `DWT2D_per_adjoint`) are satisfiable: one-level
cotangent pyramids for a 3 × 5 image (mode zero with a 4-tap column filter and a 2-tap row filter: bands 3 × 3; periodization:
bands 2 × 3, the odd sides extended) -/
example : PyrRectZ 4 2 1 3 5 ([[1, 2, 3], [4, 5, 6], [7, 8, 9]] : Img Int)
      [[[[1, 0, 0], [0, 1, 0], [0, 0, 1]], [[2, 0, 0], [0, 2, 0], [0, 0, 2]], [[0, 0, 3], [0, 3, 0], [3, 0, 0]]]] ∧
    PyrRectP 1 3 5 ([[1, 2, 3], [4, 5, 6]] : Img Int) [[[[1, 0, 0], [0, 1, 0]], [[2, 0, 0], [0, 2, 0]], [[0, 0, 3], [0, 3, 0]]]] := by
  constructor
  · refine ⟨⟨_, _, _, rfl, ?_, ?_, ?_⟩, (?_ : Rect _ _ _)⟩ <;> (unfold Rect; decide)
  · refine ⟨⟨_, _, _, rfl, ?_, ?_, ?_⟩, (?_ : Rect _ _ _)⟩ <;> (unfold Rect; decide)

end WV.C05J
