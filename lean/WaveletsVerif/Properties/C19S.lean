/-
  C19 — the non-separable synthesis bank equals the separable one, mode zero (C19X carries it over to the other padded modes,
  whose models are those of mode zero), every band size `Kh × Kw` and filter lengths that fit, `2 ≤ L ≤ 2K + 1` on each axis.  One channel.

  `sfb2d_nonsep` adds four 2-D transposed convolutions with the kernels `np.outer(gc, gr)` and crops `(Ly−2, Lx−2)`;
  `sfb2d` / `SFB2D` synthesise the columns of the two band pairs and then the rows.  The crop of both axes is a 1-D crop along
  the columns followed by one along the rows (`crop2_sep`), both gather-linear, so this is the case `Q = crop` of
  `GLA.nonsep_synth_gen`.
-/
import WaveletsVerif.Properties.C05S
import WaveletsVerif.Properties.C19
import WaveletsVerif.Lemmas.ConvT2
namespace WV.C19S
open Finset WV WV.C04 WV.C04Q WV.C06 WV.C05D WV.C05S WV.C03P WV.GLA
variable {R : Type} [CommRing R]

/-- one band's contribution, as a table -/
theorem convT2Full_outer (gc gr : List R) (band : Img R) (Kh Kw : Nat) (hb : Rect band Kh Kw) (hKh : 1 ≤ Kh) (hLy : 1 ≤ gc.length)
    (hLx : 1 ≤ gr.length) :
    convT2Full (outer gc gr) band
      = tab2 (2*(Kh-1) + gc.length) (2*(Kw-1) + gr.length) fun a b =>
          ∑ i ∈ range Kh, ∑ j ∈ range Kw, get2 band i j * (getZ gc ((a:Int) - 2*i) * getZ gr ((b:Int) - 2*j)) :=
  convT2Full_outer_tab gc gr band Kh Kw hb hKh hLy hLx

/-- `h` samples from position `t` on -/
def cropL (t h : Nat) (c : List R) : List R := tab h fun i => getN c (i + t)

theorem GL_cropL (t h n : Nat) (ht : t + h ≤ n) (hn : 1 ≤ n) : GL (cropL (R := R) t h) n h :=
  GL_gather _ n h hn (fun _ => true) (fun i => i + t) (fun _ _ => rfl) (fun i hi _ => by omega)

/-- the crop of both axes at once is the 1-D crop along the columns and then along the rows -/
theorem crop2_sep (full : Img R) (Mh Mw t l h w : Nat) (rf : Rect full Mh Mw) (hMh : 1 ≤ Mh) (hMw : 1 ≤ Mw) (ht : t + h ≤ Mh)
    (hl : l + w ≤ Mw) : crop2 full t l h w = alongW (cropL l w) (alongH (cropL t h) full) := by
  have lH : ∀ c : List R, c.length = Mh → (cropL t h c).length = h := fun c _ => length_tab _ _
  have rY := GL_alongH_rect (GL_cropL (R := R) t h Mh ht hMh) full Mw rf hMh hMw
  rw [alongW_tab2 (cropL l w) _ h Mw w rY (fun c _ => length_tab _ _)]
  unfold crop2
  apply tab2_congr; intro i hi j hj
  show _ = getN (tab w fun k => getN ((alongH (cropL t h) full).getD i []) (k + l)) j
  rw [getN_tab, if_pos hj]
  show _ = get2 (alongH (cropL t h) full) i (j + l)
  rw [get2_alongH _ _ Mh h Mw rf hMh hMw lH i (j + l), if_pos (by omega)]
  show _ = getN (tab h fun k => getN (col full (j + l)) (k + t)) i
  rw [getN_tab, if_pos hi]
  unfold col
  rw [getN_tab, rf.1, if_pos (by omega)]

/-- the mode-zero pair synthesis is the crop of the two full transposed convolutions -/
theorem Sz_eq (g0 g1 : List R) (hg : g1.length = g0.length) (K : Nat) (a b : List R) (ha : a.length = K) (hb : b.length = K) :
    Sz g0 g1 a b = vadd (cropL (g0.length - 2) (Nf K g0.length) (convTFull g0 a)) (cropL (g0.length - 2) (Nf K g0.length) (convTFull g1 b)) := by
  have l0 : (convTFull g0 a).length = 2*(K-1) + g0.length := by rw [convTFull, length_tab, ha]
  have l1 : (convTFull g1 b).length = 2*(K-1) + g0.length := by rw [convTFull, length_tab, hb, hg]
  unfold Sz convT cropL
  simp only [l0, l1]

/-- the crop by `L − 2` on either side stays inside the full transposed convolution and leaves at least one sample -/
theorem crop_fits (K L : Nat) (hK : 1 ≤ K) (hL : 2 ≤ L) (hf : L ≤ 2 * K + 1) : L - 2 + Nf K L ≤ 2*(K-1) + L ∧ 1 ≤ Nf K L := by
  unfold Nf; omega

/-- the size test of `sfb2d_nonsep` passes on bands that admit the filter -/
theorem crop_admitted (K L : Nat) (hK : 1 ≤ K) (hL : 2 ≤ L) (hf : L ≤ 2 * K + 1) : ¬ 2*(K-1) + L < 2*(L-2) + 1 := by omega

section synth
variable (gr0 gr1 gc0 gc1 : List R) (hLr : 2 ≤ gr0.length) (hgr : gr1.length = gr0.length)
    (hLc : 2 ≤ gc0.length) (hgc : gc1.length = gc0.length) (Kh Kw : Nat) (hKh : 1 ≤ Kh) (hKw : 1 ≤ Kw)
    (hfc : gc0.length ≤ 2 * Kh + 1) (hfr : gr0.length ≤ 2 * Kw + 1)

include hLr hgr hLc hgc hKh hKw hfc hfr in
theorem sfb2dNonsep_zero_val (dense : Bool) (ll lh hl hh : Img R) (r1 : Rect ll Kh Kw) :
    sfb2dNonsepCh .zero dense gc0 gc1 gr0 gr1 [ll, lh, hl, hh]
      = some (crop2 (iadd (iadd (iadd (iadd (izero (2*(Kh-1)+gc0.length) (2*(Kw-1)+gr0.length)) (convT2Full (outer gc0 gr0) ll))
          (convT2Full (outer gc1 gr0) lh)) (convT2Full (outer gc0 gr1) hl)) (convT2Full (outer gc1 gr1) hh))
          (gc0.length-2) (gr0.length-2) (2*(Kh-1) + gc0.length - 2*(gc0.length-2)) (2*(Kw-1) + gr0.length - 2*(gr0.length-2))) := by
  have hllw : ll.width = Kw := rect_width ll Kh Kw r1 hKh
  have hguard : ¬ (gc0.length < 2 ∨ gr0.length < 2 ∨ gc1.length ≠ gc0.length ∨ gr1.length ≠ gr0.length ∨ Kh < 1 ∨ Kw < 1 ∨
      ([ll, lh, hl, hh] : List (Img R)).length ≠ 4) := by simp; omega
  have hfit : ¬ (2*(Kh-1) + gc0.length < 2*(gc0.length-2) + 1 ∨ 2*(Kw-1) + gr0.length < 2*(gr0.length-2) + 1) :=
    not_or.mpr ⟨crop_admitted Kh _ hKh hLc hfc, crop_admitted Kw _ hKw hLr hfr⟩
  have hr4 : List.range 4 = [0, 1, 2, 3] := by decide
  simp only [sfb2dNonsepCh, List.getD_cons_zero, r1.1, hllw, hguard, hfit, if_false, hr4, List.foldl_cons, List.foldl_nil,
    List.getD_cons_succ]

include hLr hgr hLc hgc hKh hKw hfc hfr in
/-- `sfb2d_nonsep` = `sfb2d` in mode zero: the model of the non-separable synthesis equals the separable column-then-row
synthesis (`C05S.synth2`, the value of the model of `SFB2D.forward`) for every band size and filter lengths that fit -/
theorem sfb2d_nonsep_zero_eq_sep (dense : Bool) (ll lh hl hh : Img R) (r1 : Rect ll Kh Kw) (r2 : Rect lh Kh Kw) (r3 : Rect hl Kh Kw)
    (r4 : Rect hh Kh Kw) :
    sfb2dNonsepCh .zero dense gc0 gc1 gr0 gr1 [ll, lh, hl, hh] = some (synth2 gr0 gr1 gc0 gc1 Kh Kw ll lh hl hh) := by
  have rf := sum4_rect gr0 gr1 gc0 gc1 (by omega) hgr (by omega) hgc Kh Kw hKh ll lh hl hh r1 r2 r3 r4
  obtain ⟨hNc, hNh⟩ := crop_fits Kh gc0.length hKh hLc hfc
  obtain ⟨hNr, _⟩ := crop_fits Kw gr0.length hKw hLr hfr
  rw [sfb2dNonsep_zero_val gr0 gr1 gc0 gc1 hLr hgr hLc hgc Kh Kw hKh hKw hfc hfr dense ll lh hl hh r1]
  show some (crop2 _ _ _ (Nf Kh gc0.length) (Nf Kw gr0.length)) = _
  rw [crop2_sep _ _ _ _ _ _ _ rf (by omega) (by omega) hNc hNr]
  exact congrArg some (nonsep_synth_gen gr0 gr1 gc0 gc1 (by omega) hgr (by omega) hgc Kh Kw hKh ll lh hl hh r1 r2 r3 r4 hKw
    (Nf Kh gc0.length) (Nf Kw gr0.length) hNh _ _ (GL_cropL _ _ _ hNc (by omega)) (GL_cropL _ _ _ hNr (by omega)) _ _
    (fun a b ha hb => Sz_eq gc0 gc1 hgc Kh a b ha hb) (fun a b ha hb => Sz_eq gr0 gr1 hgr Kw a b ha hb))

include hLr hgr hLc hgc hKh hKw hfc hfr in
/-- the same image is what the model of the autograd Function `SFB2D.forward` returns -/
theorem sfb2d_nonsep_zero_eq_SFB2D (dense : Bool) (ll lh hl hh : Img R) (r1 : Rect ll Kh Kw) (r2 : Rect lh Kh Kw) (r3 : Rect hl Kh Kw)
    (r4 : Rect hh Kh Kw) :
    ∃ y, sfb2dNonsepCh .zero dense gc0 gc1 gr0 gr1 [ll, lh, hl, hh] = some y ∧
      SFB2D_forward .zero gr0 gr1 gc0 gc1 [ll] [[lh, hl, hh]] = some [y] :=
  ⟨_, sfb2d_nonsep_zero_eq_sep gr0 gr1 gc0 gc1 hLr hgr hLc hgc Kh Kw hKh hKw hfc hfr dense ll lh hl hh r1 r2 r3 r4,
    SFB2D_forward_val gr0 gr1 gc0 gc1 hLr hgr hLc hgc Kh Kw hKh hKw hfc hfr ll lh hl hh r1 r2 r3 r4⟩

end synth

end WV.C19S
