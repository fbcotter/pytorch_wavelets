/-
  The size arithmetic of the non-separable banks (`afb2d_nonsep`, `sfb2d_nonsep`) and of the a-trous bank (`afb1d_atrous`),
  tied to the source by translation.

  `Gen/Sizes.lean` is regenerated on every run; its `nonsep_*` and `atrous_*` definitions are the integer expressions of
  `dwt/lowlevel.py` read at fixed statement shapes (the odd-size tests, `pad = (Ly-1, Lx-1)`, the shifts of the two `roll`
  calls by their `dim=`, the bounds of the two in-place wrap-around folds, the two-axis crop, `p1` / `p2`, the `padding=` of the
  zero-mode convolution, the four entries of the `mypad` tuple; `L2` and the pad tuple of the a-trous bank; the slice bounds of
  the `roll` helper; whether the filter-preparation helpers mirror the taps).  The theorems
  below restate the hand-written models with those generated expressions substituted, for all sizes and filter lengths that the
  guards of the models accept (the a-trous bank in modes periodic, symmetric and zero): an
  edit of one of the expressions in the source breaks a theorem here whether or not a sampled input shows it.
-/
import WaveletsVerif.Gen.Sizes
import WaveletsVerif.Lemmas.Basic
import WaveletsVerif.Properties.C01Z
import WaveletsVerif.Model.Dwt
namespace WV.C19Z
open WV WV.Gen.Sizes WV.C01Z
variable {R : Type} [CommRing R]

/-- the periodization branch of `afb2d_nonsep` written with the generated arithmetic -/
def afb2dNonsepPerGen (hc0 hc1 hr0 hr1 : List R) (x : Img R) : Option (List (Img R)) :=
  let Ly : Int := hc0.length
  let Lx : Int := hr0.length
  let fs := [outerRev hc0 hr0, outerRev hc1 hr0, outerRev hc0 hr1, outerRev hc1 hr1]
  let x1 : Img R := if (x.length : Int) % 2 = 1 then x ++ sliceFrom x (-1) else x
  let x2 : Img R := if (x1.width : Int) % 2 = 1 then x1.map (fun r => r ++ sliceFrom r (-1)) else x1
  let Ny : Int := x2.length
  let Nx : Int := x2.width
  let x3 := rollPy x2 (nonsep_per_shift_y Ly)
  let x4 := x3.map fun r => rollPy r (nonsep_per_shift_x Lx)
  let py := (nonsep_per_pad_y Ly).toNat
  let px := (nonsep_per_pad_x Lx).toNat
  let xp := (izero py (x2.width + 2*px)) ++ (x4.map fun r => zeroPad r px px) ++ (izero py (x2.width + 2*px))
  fs.mapM fun f => do
    let y := corr2 f xp nonsep_per_stride_y.toNat nonsep_per_stride_x.toNat
    let y1 ← foldAddInPlaceRows false y (nonsep_per_fold_width_y Ly Ny).toNat (nonsep_per_fold_from_y Ly Ny).toNat
    let y2 ← foldAddInPlaceCols y1 (nonsep_per_fold_width_x Lx Nx).toNat (nonsep_per_fold_from_x Lx Nx).toNat
    some ((y2.take (nonsep_per_crop_y Ny).toNat).map fun r => r.take (nonsep_per_crop_x Nx).toNat)

/-- `afb2d_nonsep`, periodization, with the generated odd tests, pads, strides, roll shifts, fold bounds and crops -/
theorem afb2dNonsepCh_per_gen (hc0 hc1 hr0 hr1 : List R) (x : Img R)
    (hg : ¬ (hc0.length < 2 ∨ hr0.length < 2 ∨ hc1.length ≠ hc0.length ∨ hr1.length ≠ hr0.length ∨ x.length < 1 ∨ x.width < 1)) :
    afb2dNonsepCh .periodization hc0 hc1 hr0 hr1 x = afb2dNonsepPerGen hc0 hc1 hr0 hr1 x ∧
    (∀ N : Int, nonsep_per_odd_rows N ↔ N % 2 = 1) ∧ (∀ N : Int, nonsep_per_odd_cols N ↔ N % 2 = 1) ∧
    (∀ L N : Int, nonsep_per_fold_to_y L N = nonsep_per_fold_from_y L N + nonsep_per_fold_width_y L N) ∧
    (∀ L N : Int, nonsep_per_fold_to_x L N = nonsep_per_fold_from_x L N + nonsep_per_fold_width_x L N) := by
  refine ⟨?_, fun _ => Iff.rfl, fun _ => Iff.rfl, fun _ _ => rfl, fun _ _ => rfl⟩
  simp only [afb2dNonsepCh, hg, if_false, afb2dNonsepPerGen, nonsep_per_shift_y, nonsep_per_shift_x, nonsep_per_pad_y, nonsep_per_pad_x,
    nonsep_per_stride_y, nonsep_per_stride_x, nonsep_per_fold_width_y, nonsep_per_fold_from_y, nonsep_per_fold_width_x,
    nonsep_per_fold_from_x, nonsep_per_crop_y, nonsep_per_crop_x, nat_half, nat_pred, neg_half, odd_cast]
  rfl

/-- the periodization branch of `sfb2d_nonsep` after the sum of the four transposed convolutions, with the generated arithmetic -/
def sfb2dNonsepPostGen (Ly Lx Ny Nx : Nat) (dense : Bool) (full : Img R) : Option (Img R) := do
  let y1 ← foldAddInPlaceRows dense full (nonsep_syn_fold_width_y Ly Ny).toNat (nonsep_syn_fold_from_y Ly Ny).toNat
  let y2 ← foldAddInPlaceCols y1 (nonsep_syn_fold_width_x Lx Nx).toNat (nonsep_syn_fold_from_x Lx Nx).toNat
  let y3 := (y2.take (nonsep_syn_crop_y Ny).toNat).map fun r => r.take (nonsep_syn_crop_x Nx).toNat
  let y4 := rollPy y3 (nonsep_syn_shift_y Ly)
  some (y4.map fun r => rollPy r (nonsep_syn_shift_x Lx))

/-- `sfb2d_nonsep`, periodization, with the generated fold bounds, crops and roll shifts -/
theorem sfb2dNonsepCh_per_gen (dense : Bool) (gc0 gc1 gr0 gr1 : List R) (bands : List (Img R))
    (hg : ¬ (gc0.length < 2 ∨ gr0.length < 2 ∨ gc1.length ≠ gc0.length ∨ gr1.length ≠ gr0.length ∨ (bands.getD 0 []).length < 1 ∨
      (bands.getD 0 []).width < 1 ∨ bands.length ≠ 4)) :
    sfb2dNonsepCh .periodization dense gc0 gc1 gr0 gr1 bands
      = sfb2dNonsepPostGen gc0.length gr0.length (bands.getD 0 []).length (bands.getD 0 []).width dense
          ((List.range 4).foldl (fun acc k => iadd acc (convT2Full ([outer gc0 gr0, outer gc1 gr0, outer gc0 gr1, outer gc1 gr1].getD k []) (bands.getD k [])))
            (izero (2*((bands.getD 0 []).length-1)+gc0.length) (2*((bands.getD 0 []).width-1)+gr0.length))) ∧
    (∀ L N : Int, nonsep_syn_fold_to_y L N = nonsep_syn_fold_from_y L N + nonsep_syn_fold_width_y L N) ∧
    (∀ L N : Int, nonsep_syn_fold_to_x L N = nonsep_syn_fold_from_x L N + nonsep_syn_fold_width_x L N) := by
  refine ⟨?_, fun _ _ => by unfold nonsep_syn_fold_to_y nonsep_syn_fold_from_y nonsep_syn_fold_width_y; ring,
    fun _ _ => by unfold nonsep_syn_fold_to_x nonsep_syn_fold_from_x nonsep_syn_fold_width_x; ring⟩
  simp only [sfb2dNonsepCh, hg, if_false, sfb2dNonsepPostGen, nonsep_syn_fold_width_y, nonsep_syn_fold_from_y, nonsep_syn_fold_width_x,
    nonsep_syn_fold_from_x, nonsep_syn_crop_y, nonsep_syn_crop_x, nonsep_syn_shift_y, nonsep_syn_shift_x, nat_pred2, nat_dbl, one_sub_half]

/-- the padded modes of both banks: `p1`, `p2`, the zero-mode padding, the `mypad` tuple and the synthesis crop are the model's -/
theorem nonsep_pads (Ny Nx Ly Lx : Nat) (hLy : 2 ≤ Ly) (hLx : 2 ≤ Lx) (hNy : 1 ≤ Ny) (hNx : 1 ≤ Nx) :
    nonsep_p1 (dwtCoeffLen Ny Ly) Ny Ly = ((2 * (dwtCoeffLen Ny Ly - 1) + Ly - Ny : Nat) : Int) ∧
    nonsep_p2 (dwtCoeffLen Nx Lx) Nx Lx = ((2 * (dwtCoeffLen Nx Lx - 1) + Lx - Nx : Nat) : Int) ∧
    (∀ p : Nat, (nonsep_zero_pad_y p).toNat = p / 2 ∧ (nonsep_zero_pad_x p).toNat = p / 2 ∧
      (nonsep_ext_before_y p).toNat = p / 2 ∧ (nonsep_ext_after_y p).toNat = (p + 1) / 2 ∧
      (nonsep_ext_before_x p).toNat = p / 2 ∧ (nonsep_ext_after_x p).toNat = (p + 1) / 2) ∧
    (nonsep_syn_pad_y Ly).toNat = Ly - 2 ∧ (nonsep_syn_pad_x Lx).toNat = Lx - 2 := by
  exact ⟨afb1d_p_eq Ny Ly hLy hNy, afb1d_p_eq Nx Lx hLx hNx,
    fun p => ⟨nat_half p, nat_half p, nat_half p, nat_half_succ p, nat_half p, nat_half_succ p⟩, nat_pred2 Ly, nat_pred2 Lx⟩

/-- `afb1d_atrous` in modes periodic, symmetric and zero with the generated `L2` and pad tuple (both axes give the same split) -/
theorem afb1dAtrousOne_gen (mode : Mode) (d : Nat) (w x : List R)
    (hg : ¬ (w.length < 2 ∨ x.length < 1 ∨ d < 1 ∨ (w.length * d) / 2 < d)) (hm : mode = .periodic ∨ mode = .symmetric ∨ mode = .zero) :
    afb1dAtrousOne mode d w x = some (corr w (match mode with
      | .periodic => padIdx perIdx x (atrous_before_W (atrous_L2 w.length d) d).toNat (atrous_after_W (atrous_L2 w.length d) d).toNat
      | .symmetric => padIdx symIdx x (atrous_before_W (atrous_L2 w.length d) d).toNat (atrous_after_W (atrous_L2 w.length d) d).toNat
      | _ => zeroPad x (atrous_before_W (atrous_L2 w.length d) d).toNat (atrous_after_W (atrous_L2 w.length d) d).toNat) 1 d) ∧
    (∀ L2 dl : Int, atrous_before_H L2 dl = atrous_before_W L2 dl ∧ atrous_after_H L2 dl = atrous_after_W L2 dl) := by
  refine ⟨?_, fun _ _ => ⟨rfl, rfl⟩⟩
  have hc : ((w.length : Int) * (d : Int)) / 2 = (((w.length * d) / 2 : Nat) : Int) := by push_cast; rfl
  have e1 : (atrous_before_W (atrous_L2 w.length d) d).toNat = (w.length * d) / 2 - d := by
    unfold atrous_before_W atrous_L2
    rw [hc]; omega
  have e2 : (atrous_after_W (atrous_L2 w.length d) d).toNat = (w.length * d) / 2 := by
    unfold atrous_after_W atrous_L2
    rw [hc]; omega
  rw [e1, e2]
  rcases hm with rfl | rfl | rfl <;> simp only [afb1dAtrousOne, hg, if_false]

/-- `roll(x, n, dim)` (with `make_even=False`) read from the source: the model's `rollPy` is the concatenation of the two slices
whose bounds the source gives, with the shift normalised as the source normalises it — the same for all four `dim` branches -/
theorem rollPy_gen {α : Type} (x : List α) (n : Int) :
    rollPy x n = sliceFrom x (roll_first_from_3 (roll_norm n x.length)) ++ sliceTo x (roll_second_to_3 (roll_norm n x.length) 0) ∧
    (∀ m e : Int, roll_first_from_0 m = roll_first_from_3 m ∧ roll_first_from_1 m = roll_first_from_3 m ∧ roll_first_from_2 m = roll_first_from_3 m ∧
      roll_second_to_0 m e = roll_second_to_3 m e ∧ roll_second_to_1 m e = roll_second_to_3 m e ∧ roll_second_to_2 m e = roll_second_to_3 m e) := by
  refine ⟨?_, fun _ _ => ⟨rfl, rfl, rfl, rfl, rfl, rfl⟩⟩
  unfold rollPy roll_first_from_3 roll_second_to_3 roll_norm
  simp only [add_zero]

/-- the analysis helpers mirror the taps and the synthesis helper does not — what `DWT1DForwardM` / `DWTForwardM` (buffers =
reversed filters) and `DWTInverseM` (filters as given) assume; the DTCWT helper mirrors too (`prepFilt = reverse`) -/
theorem prep_mirrors_gen : prep_afb1d_mirrors_h0 = true ∧ prep_afb1d_mirrors_h1 = true ∧ prep_sfb1d_mirrors_g0 = false ∧
    prep_sfb1d_mirrors_g1 = false ∧ dtcwt_prep_filt_mirrors = true := by decide

end WV.C19Z
