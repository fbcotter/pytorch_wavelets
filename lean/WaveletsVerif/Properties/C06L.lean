/-
  C06 — back-propagation through the whole forward DTCWT is the adjoint on EVERY image size (the edge extensions of odd sizes and
  of sizes that are not multiples of 4 included).

  `DTCWTForward` repeats the last row / column of an odd-sized image before level 1 and the first and last row / column of a low-pass
  whose side is not a multiple of 4 before every level ≥ 2 (`extendEven`, `extendMult4`: `torch.cat` of slices).  Both are index
  gathers `e[m, k] = x[sr m, sc k]`; the backward pass PyTorch itself runs for them is the transpose of the gather (`gatherBack`: every
  gradient entry is added to the source entry it was copied from).  `gather2_adjoint` is the adjoint identity of any such gather,
  `extendMult4_get2` / `extendEven_get2` identify the two extensions as gathers, and an induction over the levels of the same shape
  as that of C06J, with the extension in front of every level and `C06J.level2_adjoint` / `C06J.level1_adjoint` for the level itself
  (`loop_adjoint_ext`, `DTCWT_backward_adjoint_ext`), gives: for every J, every image size and every cotangent
  pyramid `⟨DTCWTForward x, P⟩ = ⟨x, backward(P)⟩`, where `backward` chains the library's hand-written `FWD_J2PLUS.backward` /
  `FWD_J1.backward` with the transposed gathers.  One channel, symmetric mode, filters as in C06J.
-/
import WaveletsVerif.Properties.C06J
import Mathlib.Data.List.GetD
namespace WV.C06L
open Finset WV WV.C04 WV.C06 WV.C06Q WV.C04P WV.C06J
variable {R : Type} [CommRing R]

/-- the backward pass of a two-dimensional gather `e[m, k] = x[sr m, sc k]`: every gradient entry is added to its source -/
def gatherBack (sr sc : Nat → Nat) (H W H' W' : Nat) (g : Img R) : Img R :=
  tab2 H W fun i j => ∑ m ∈ range H', if sr m = i then (∑ k ∈ range W', if sc k = j then get2 g m k else 0) else 0

theorem gatherBack_rect (sr sc : Nat → Nat) (H W H' W' : Nat) (g : Img R) : Rect (gatherBack sr sc H W H' W' g) H W := tab2_rect _ _ _

theorem gather2_adjoint (H W H' W' : Nat) (sr sc : Nat → Nat) (hsr : ∀ m < H', sr m < H) (hsc : ∀ k < W', sc k < W)
    (x e g : Img R) (he : ∀ m < H', ∀ k < W', get2 e m k = get2 x (sr m) (sc k)) :
    dot2 H' W' e g = dot2 H W x (gatherBack sr sc H W H' W' g) := by
  unfold dot2
  have h1 : ∀ m ∈ range H', ∑ k ∈ range W', get2 e m k * get2 g m k
      = ∑ j ∈ range W, get2 x (sr m) j * ∑ k ∈ range W', if sc k = j then get2 g m k else 0 := by
    intro m hm
    rw [← gather_adjoint W W' sc hsc (fun j => get2 x (sr m) j) (fun k => get2 g m k)]
    apply Finset.sum_congr rfl
    intro k hk
    rw [he m (Finset.mem_range.mp hm) k (Finset.mem_range.mp hk)]
  rw [Finset.sum_congr rfl h1, Finset.sum_comm]
  have h2 : ∀ j ∈ range W, ∑ m ∈ range H', get2 x (sr m) j * (∑ k ∈ range W', if sc k = j then get2 g m k else 0)
      = ∑ i ∈ range H, get2 x i j * ∑ m ∈ range H', if sr m = i then (∑ k ∈ range W', if sc k = j then get2 g m k else 0) else 0 := by
    intro j _
    exact gather_adjoint H H' sr hsr (fun i => get2 x i j) (fun m => ∑ k ∈ range W', if sc k = j then get2 g m k else 0)
  rw [Finset.sum_congr rfl h2, Finset.sum_comm]
  apply Finset.sum_congr rfl
  intro i hi
  apply Finset.sum_congr rfl
  intro j hj
  unfold gatherBack
  rw [get2_tab2 H W _ i j (Finset.mem_range.mp hi) (Finset.mem_range.mp hj)]

/-- source index of sample `m` of `head ++ x ++ last` over a list of length `n` -/
def srcB (n m : Nat) : Nat := if m = 0 then 0 else min (m - 1) (n - 1)

/-- source index along an axis of length `n` under `extendMult4` -/
def src4 (n m : Nat) : Nat := if n % 4 ≠ 0 then srcB n m else m

/-- source index along an axis of length `n` under `extendEven` -/
def src2 (n m : Nat) : Nat := if n % 2 ≠ 0 then min m (n - 1) else m

omit [CommRing R] in
theorem getD_appLast {α : Type} (x : List α) (d : α) (m : Nat) (hN : 1 ≤ x.length) (hm : m < x.length + 1) :
    (x ++ sliceFrom x (-1)).getD m d = x.getD (min m (x.length - 1)) d := by
  rw [sliceFrom_neg_one x]
  by_cases h1 : m < x.length
  · rw [List.getD_append _ _ _ _ h1, Nat.min_eq_left (by omega)]
  · rw [List.getD_append_right _ _ _ _ (by omega)]
    have hm' : m - x.length = 0 := by omega
    rw [hm', Nat.min_eq_right (by omega)]
    simp [List.getD_eq_getElem?_getD, List.getElem?_drop]

omit [CommRing R] in
theorem getD_ext1B {α : Type} (x : List α) (d : α) (m : Nat) (hN : 1 ≤ x.length) (hm : m < x.length + 2) :
    (C04P.ext1 x).getD m d = x.getD (srcB x.length m) d := by
  unfold C04P.ext1 srcB
  rw [slice_zero_one x hN, List.append_assoc]
  have ht : (x.take 1).length = 1 := by rw [List.length_take]; omega
  by_cases h0 : m = 0
  · subst h0
    rw [if_pos rfl, List.getD_append _ _ _ _ (by omega)]
    simp [List.getD_eq_getElem?_getD]
  · -- past the repeated first element the extension is `x` with its last element repeated
    rw [if_neg h0, List.getD_append_right _ _ _ _ (by omega), ht]
    exact getD_appLast x d (m - 1) hN (by omega)

theorem srcB_lt (n m : Nat) (hn : 1 ≤ n) : srcB n m < n := by
  unfold srcB; split <;> omega

theorem src4_lt (n m : Nat) (hn : 1 ≤ n) (hm : m < n + (if n % 4 ≠ 0 then 2 else 0)) : src4 n m < n := by
  unfold src4
  by_cases h : n % 4 ≠ 0
  · rw [if_pos h]; exact srcB_lt n m hn
  · rw [if_neg h] at hm ⊢; omega

theorem src2_lt (n m : Nat) (hn : 1 ≤ n) (hm : m < n + n % 2) : src2 n m < n := by
  unfold src2
  by_cases h : n % 2 ≠ 0
  · rw [if_pos h]; omega
  · rw [if_neg h]; omega

omit [CommRing R] in
theorem getD_ext4 {α : Type} (x : List α) (d : α) (n m : Nat) (hx : x.length = n) (hn : 1 ≤ n) (hm : m < n + (if n % 4 ≠ 0 then 2 else 0)) :
    (if n % 4 ≠ 0 then C04P.ext1 x else x).getD m d = x.getD (src4 n m) d := by
  unfold src4
  split
  · rw [if_pos ‹_›] at hm
    rw [getD_ext1B x d m (by rw [hx]; exact hn) (by rw [hx]; exact hm), hx]
  · rfl

omit [CommRing R] in
theorem getD_ext2 {α : Type} (x : List α) (d : α) (n m : Nat) (hx : x.length = n) (hn : 1 ≤ n) (hm : m < n + n % 2) :
    (if n % 2 ≠ 0 then x ++ sliceFrom x (-1) else x).getD m d = x.getD (src2 n m) d := by
  unfold src2
  split
  · rw [getD_appLast x d m (by rw [hx]; exact hn) (by rw [hx]; omega), hx]
  · rfl

theorem extendMult4_get2 (x : Img R) (H W : Nat) (hx : Rect x H W) (hH : 1 ≤ H) (hW : 1 ≤ W) (m k : Nat)
    (hm : m < H + (if H % 4 ≠ 0 then 2 else 0)) (hk : k < W + (if W % 4 ≠ 0 then 2 else 0)) :
    get2 (extendMult4 x) m k = get2 x (src4 H m) (src4 W k) := by
  rw [extendMult4_eq x H W hx hH]
  exact get2_rows_cols x _ _ H W _ _ (src4 H) (src4 W) hx (extendMult4_rows_rect x H W hx hH).1 (fun m hm => src4_lt H m hH hm)
    (fun m hm => getD_ext4 x [] H m hx.1 hH hm) (fun r hr k hk => getD_ext4 r 0 W k hr hW hk) m k hm hk

theorem extendEven_get2 (x : Img R) (H W : Nat) (hx : Rect x H W) (hH : 1 ≤ H) (hW : 1 ≤ W) (m k : Nat)
    (hm : m < H + H % 2) (hk : k < W + W % 2) :
    get2 (extendEven x) m k = get2 x (src2 H m) (src2 W k) := by
  rw [extendEven_eq x H W hx hH]
  exact get2_rows_cols x _ _ H W _ _ (src2 H) (src2 W) hx (extendEven_rows_rect x H W hx hH).1 (fun m hm => src2_lt H m hH hm)
    (fun m hm => getD_ext2 x [] H m hx.1 hH hm) (fun r hr k hk => getD_ext2 r 0 W k hr hW hk) m k hm hk

/-- the backward pass of `extendMult4` on an `H × W` input -/
def ext4Back (H W : Nat) (g : Img R) : Img R :=
  gatherBack (src4 H) (src4 W) H W (H + (if H % 4 ≠ 0 then 2 else 0)) (W + (if W % 4 ≠ 0 then 2 else 0)) g

/-- the backward pass of `extendEven` on an `H × W` input -/
def ext2Back (H W : Nat) (g : Img R) : Img R := gatherBack (src2 H) (src2 W) H W (H + H % 2) (W + W % 2) g

theorem ext4_adjoint (x g : Img R) (H W : Nat) (hx : Rect x H W) (hH : 1 ≤ H) (hW : 1 ≤ W) :
    dot2 (H + (if H % 4 ≠ 0 then 2 else 0)) (W + (if W % 4 ≠ 0 then 2 else 0)) (extendMult4 x) g = dot2 H W x (ext4Back H W g) :=
  gather2_adjoint H W _ _ (src4 H) (src4 W) (fun m hm => src4_lt H m hH hm) (fun k hk => src4_lt W k hW hk) x _ g
    (fun m hm k hk => extendMult4_get2 x H W hx hH hW m k hm hk)

theorem ext2_adjoint (x g : Img R) (H W : Nat) (hx : Rect x H W) (hH : 1 ≤ H) (hW : 1 ≤ W) :
    dot2 (H + H % 2) (W + W % 2) (extendEven x) g = dot2 H W x (ext2Back H W g) :=
  gather2_adjoint H W _ _ (src2 H) (src2 W) (fun m hm => src2_lt H m hH hm) (fun k hk => src2_lt W k hW hk) x _ g
    (fun m hm k hk => extendEven_get2 x H W hx hH hW m k hm hk)

/-- what the scatter-add is on a small case: a 2-row image extended to 4 rows; the gradient rows 0 and 1 both land on source row 0,
rows 2 and 3 on source row 1 (`torch.cat`'s backward adds the slices' gradients) -/
example : (List.range 4).map (src4 2) = [0, 0, 1, 1] ∧ (List.range 4).map (src2 3) = [0, 1, 2, 2] := by decide

/-- the chain rule over levels `2 … J` with the extension of every level: every entry carries the size of the low-pass handed to
its level (before the extension), finest first -/
def loopBackwardE (s : R) (f : FwdFilters R) : List ((Nat × Nat) × List (Cplx R)) → Img R → Option (Img R)
  | [], gl => some gl
  | ((H, W), dh) :: rest, gl => do
    let g ← loopBackwardE s f rest gl
    let y ← FWD_J2PLUS_backward s f.h0a f.h1a f.h0b f.h1b g (some dh)
    some (ext4Back H W y)

/-- … and `FWD_J1.backward` followed by the backward of `extendEven` last; `(H, W)` is the image size -/
def DTCWTForwardBackwardE (s : R) (f : FwdFilters R) (HW : Nat × Nat) (dh1 : List (Cplx R))
    (dhs : List ((Nat × Nat) × List (Cplx R))) (gl : Img R) : Option (Img R) := do
  let g ← loopBackwardE s f dhs gl
  let y ← FWD_J1_backward s true f.h0o f.h1o ((HW.1 + 1) / 2, (HW.2 + 1) / 2) g (some dh1)
  some (ext2Back HW.1 HW.2 y)

/-- half-size of the low-pass after `n` more levels: every level maps a side `2a` to `2 * ((a + 1) / 2)` -/
def upN : Nat → Nat → Nat
  | 0, a => a
  | n+1, a => upN n ((a + 1) / 2)

def cotsE (A B : Nat → Nat → Nat → Nat → R) : Nat → Nat → Nat → Nat → List ((Nat × Nat) × List (Cplx R))
  | 0, _, _, _ => []
  | n+1, lvl, a, b => ((2*a, 2*b), cot (A lvl) (B lvl) ((a + 1) / 2) ((b + 1) / 2)) :: cotsE A B n (lvl + 1) ((a + 1) / 2) ((b + 1) / 2)

def loopDotE (A B : Nat → Nat → Nat → Nat → R) : Nat → Nat → Nat → Nat → List (Option (List (Cplx R))) → R
  | n+1, lvl, a, b, h :: hs =>
    bdot ((a + 1) / 2) ((b + 1) / 2) (h.getD []) (cot (A lvl) (B lvl) ((a + 1) / 2) ((b + 1) / 2)) + loopDotE A B n (lvl + 1) ((a + 1) / 2) ((b + 1) / 2) hs
  | _, _, _, _, _ => 0

section
variable (s : R) (h0o h1o h0 h1 : List R) (hh0o : h0o.length % 2 = 1) (hh1o : h1o.length % 2 = 1) (hs0 : Symm h0o) (hs1 : Symm h1o)
    (hm0 : h0.length % 2 = 0) (hm0' : 2 ≤ h0.length) (hm1 : h1.length % 2 = 0) (hm1' : 2 ≤ h1.length)
    (A B : Nat → Nat → Nat → Nat → R)

include hm0 hm0' hm1 hm1' in
/-- levels `2 … J` on EVERY even-sized low-pass: the chain of `FWD_J2PLUS.backward` and extension backward passes is the adjoint of
the level loop -/
theorem loop_adjoint_ext : ∀ (n lvl : Nat) (incl : List Bool) (low gl : Img R) (a b : Nat), 1 ≤ a → 1 ≤ b → Rect low (2*a) (2*b) →
    Rect gl (2 * upN n a) (2 * upN n b) →
    ∃ lowF hsl scs y, dtcwtFwdLoop s (mkF h0o h1o h0 h1) (List.replicate n false) incl low = some (lowF, hsl, scs) ∧
      loopBackwardE s (mkF h0o h1o h0 h1) (cotsE A B n lvl a b) gl = some y ∧ Rect y (2*a) (2*b) ∧
      dot2 (2 * upN n a) (2 * upN n b) lowF gl + loopDotE A B n lvl a b hsl = dot2 (2*a) (2*b) low y := by
  intro n
  induction n with
  | zero =>
    intro lvl incl low gl a b _ _ hx hg
    exact ⟨low, [], [], gl, rfl, rfl, hg, add_zero _⟩
  | succ n ih =>
    intro lvl incl low gl a b ha hb hx hg
    have ha1 := half_up_pos ha
    have hb1 := half_up_pos hb
    have hx4 := extendMult4_rect_even low a b ha hb hx
    simp only [upN] at hg ⊢
    obtain ⟨ll, hs, hF, rll, hbw⟩ := level2_adjoint s h0o h1o h0 h1 hm0 hm0' hm1 hm1' (extendMult4 low) ((a + 1) / 2) ((b + 1) / 2) ha1 hb1 hx4
      (A lvl) (B lvl)
    -- the coarser levels on this level's low-pass, then this level with the gradient they produced
    obtain ⟨lowF, hsl, scs, y', hfr, hbr, ry', hdr'⟩ := ih (lvl + 1) (incl.drop 1) ll gl ((a + 1) / 2) ((b + 1) / 2) ha1 hb1 rll hg
    obtain ⟨y, hB, ry, hid⟩ := hbw y' ry'
    refine ⟨lowF, some hs :: hsl, (if incl.headD false then some ll else none) :: scs, ext4Back (2*a) (2*b) y, ?_, ?_, gatherBack_rect _ _ _ _ _ _ _, ?_⟩
    · simp only [List.replicate_succ, dtcwtFwdLoop, hF, Option.bind_eq_bind, Option.bind_some, hfr]
    · simp only [cotsE, loopBackwardE, hbr, Option.bind_eq_bind, Option.bind_some, hB]
    · rw [← ext4_adjoint low y (2*a) (2*b) hx (Nat.mul_pos (by decide) ha) (Nat.mul_pos (by decide) hb), ext4_size a, ext4_size b, ← hid,
        ← hdr']
      simp only [loopDotE, Option.getD_some]
      ring

include hh0o hh1o hs0 hs1 hm0 hm0' hm1 hm1' in
/-- back-propagation through the whole J-level forward DTCWT is the adjoint of the transform on EVERY image size (one channel,
symmetric mode, all levels kept, `J = n + 1`): for every `H × W` image, every cotangent `gl` of the final low-pass and every band
cotangents, `⟨low_J, gl⟩ + Σ_levels Σ_k ⟨band, cotangent⟩ = ⟨x, backward(gl, cotangents)⟩`, where `backward` chains the library's
hand-written backward passes with the scatter-adds of the edge extensions -/
theorem DTCWT_backward_adjoint_ext (n : Nat) (incl : List Bool) (x gl : Img R) (H W : Nat) (hH : 1 ≤ H) (hW : 1 ≤ W)
    (hx : Rect x H W) (hg : Rect gl (2 * upN n ((H + 1) / 2)) (2 * upN n ((W + 1) / 2))) :
    ∃ lowF h1s hsl scs y,
      DTCWTForward s true (mkF h0o h1o h0 h1) (List.replicate (n+1) false) incl x = some (lowF, some h1s :: hsl, scs) ∧
      DTCWTForwardBackwardE s (mkF h0o h1o h0 h1) (H, W) (cot (A 0) (B 0) ((H + 1) / 2) ((W + 1) / 2))
        (cotsE A B n 1 ((H + 1) / 2) ((W + 1) / 2)) gl = some y ∧
      Rect y H W ∧
      dot2 (2 * upN n ((H + 1) / 2)) (2 * upN n ((W + 1) / 2)) lowF gl + bdot ((H + 1) / 2) ((W + 1) / 2) h1s (cot (A 0) (B 0) ((H + 1) / 2) ((W + 1) / 2))
          + loopDotE A B n 1 ((H + 1) / 2) ((W + 1) / 2) hsl
        = dot2 H W x y := by
  have ha := half_up_pos hH
  have hb := half_up_pos hW
  have hxe := extendEven_rect_even x H W hx hH hW
  obtain ⟨low1, h1s, hF1, rlow1, hbw⟩ := level1_adjoint s h0o h1o h0 h1 hh0o hh1o hs0 hs1 (extendEven x) _ _ ha hb hxe (A 0) (B 0)
  -- the coarser levels on the level-1 low-pass, then level 1 with the gradient they produced
  obtain ⟨lowF, hsl, scs, y', hfr, hbr, ry', hdr⟩ := loop_adjoint_ext s h0o h1o h0 h1 hm0 hm0' hm1 hm1' A B n 1 (incl.drop 1) low1 gl _ _ ha hb
    rlow1 hg
  obtain ⟨y, hB, ry, hid⟩ := hbw y' ry'
  refine ⟨lowF, h1s, hsl, (if incl.headD false then some low1 else none) :: scs, ext2Back H W y, ?_, ?_, gatherBack_rect _ _ _ _ _ _ _, ?_⟩
  · simp only [List.replicate_succ, DTCWTForward, hF1, Option.bind_eq_bind, hfr, Option.bind_some]
  · simp only [DTCWTForwardBackwardE, hbr, Option.bind_eq_bind, Option.bind_some, hB]
  · rw [← ext2_adjoint x y H W hx hH hW, ext2_size H, ext2_size W, ← hid, ← hdr]
    ring

end

/-- a size on which level 1 and level 2 extend: a 5 × 7 image is extended to 6 × 8 (`a = 3`, `b = 4`), the level-1 low-pass 6 × 8 to 8 × 8,
the level-2 low-pass 4 × 4 stays: `upN 2 3 = 1`, `upN 2 4 = 1` -/
example : (5 + 1) / 2 = 3 ∧ (7 + 1) / 2 = 4 ∧ upN 2 3 = 1 ∧ upN 2 4 = 1 ∧ (2 * 3) % 4 ≠ 0 := by decide

end WV.C06L
