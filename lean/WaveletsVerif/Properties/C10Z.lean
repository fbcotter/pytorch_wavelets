/-
  The module glue of the DWT classes, tied to the source by translation (regenerated on every run into `Gen/Sizes.lean`).

  Read from `dwt/transform1d.py`, `dwt/transform2d.py` and `dwt/lowlevel.py` at fixed statement shapes: the one call of the
  autograd Function / functional bank inside each module's level loop WITH ITS ARGUMENTS IN ORDER, the loop header (levels in
  increasing order for the analyses, `[::-1]` — coarsest first — for the syntheses), the one-sample crops of the two inverse loops
  (test and slice), the dilation `2 ** j` of the stationary transform and the filter tuple it passes, and, for the two 2-D
  preparation helpers, that both axis pairs go through the 1-D helper (so they inherit its mirroring, `C19Z.prep_mirrors_gen`), that
  column filters are reshaped onto axis 2 and row filters onto axis 3, and that absent row filters default to the prepared column
  filters.  The theorems restate the hand-written model with them: the model's `DWTForward` calls `AFB2D_forward mode wr0 wr1 wc0
  wc1` (rows first, the Function's own order), `DWTInverse_step` crops with `llH > hH` / `take (length - 1)` and calls
  `SFB2D_forward mode gr0 gr1 gc0 gc1`, `SWTForward` passes `2^j`.

  Also read, from `dtcwt/transform2d.py` and `scatternet/layers.py`: the call arguments and level loops of the DTCWT modules
  (`dtcwt_glue_gen`) and the call arguments of the scattering modules (`scat_glue_gen`); and, over the library, that no `forward`
  of a module class assigns to an attribute of the module (`forward_keeps_no_state_gen`) and which functions write into a
  parameter (`writes_into_parameters_gen`).
-/
import WaveletsVerif.Gen.Sizes
import WaveletsVerif.Lemmas.Slice
namespace WV.C10Z
open WV WV.Gen.Sizes
variable {α : Type}

/-- the crop of `DWTInverse_step`, written with the generated tests and slice bounds -/
def cropGen2 (ll : Img α) (hH hW : Nat) : Img α :=
  let ll1 : Img α := if (ll.length : Int) > (hH : Int) then sliceTo ll dwtinv2_crop_to_rows else ll
  if ((Img.width ll : Nat) : Int) > (hW : Int) then ll1.map (fun r => sliceTo r dwtinv2_crop_to_cols) else ll1

/-- the crops of the 2-D inverse loop with the tests and slices read from the source (rows on axis −2, then columns on axis −1,
one sample each, when the running low-pass is larger than the band-pass level) -/
theorem dwtinv2_crop_gen (ll : Img α) (hH hW : Nat) :
    (let ll1 := if ll.length > hH then ll.take (ll.length - 1) else ll
     if Img.width ll > hW then ll1.map (fun r => r.take (r.length - 1)) else ll1) = cropGen2 ll hH hW ∧
    (∀ l h : Int, (dwtinv2_crop_test_rows l h ↔ l > h) ∧ (dwtinv2_crop_test_cols l h ↔ l > h) ∧ (dwtinv1_crop_test_cols l h ↔ l > h)) ∧
    dwtinv2_crop_to_rows = -1 ∧ dwtinv2_crop_to_cols = -1 ∧ dwtinv1_crop_to_cols = -1 := by
  refine ⟨?_, fun l h => ⟨Iff.rfl, Iff.rfl, Iff.rfl⟩, rfl, rfl, rfl⟩
  unfold cropGen2
  simp only [show dwtinv2_crop_to_rows = -1 from rfl, show dwtinv2_crop_to_cols = -1 from rfl, sliceTo_neg_one, Int.ofNat_lt, gt_iff_lt]

/-- the level loops call the Functions with the arguments in the order the model assumes, analyses finest level first, syntheses
coarsest level first; the stationary transform dilates by `2 ^ j`; the 2-D preparation helpers put column filters on axis 2 and row
filters on axis 3 through the 1-D helpers -/
theorem module_glue_gen :
    dwtfwd2_call_args = ["ll", "self.h0_row", "self.h1_row", "self.h0_col", "self.h1_col", "mode"] ∧ dwtfwd2_loop = ["j", "range(self.J)"] ∧
    dwtinv2_call_args = ["ll", "h", "self.g0_row", "self.g1_row", "self.g0_col", "self.g1_col", "mode"] ∧ dwtinv2_loop = ["h", "yh[::-1]"] ∧
    dwtfwd1_call_args = ["x0", "self.h0", "self.h1", "mode"] ∧ dwtfwd1_loop = ["j", "range(self.J)"] ∧
    dwtinv1_call_args = ["x0", "x1", "self.g0", "self.g1", "mode"] ∧ dwtinv1_loop = ["x1", "highs[::-1]"] ∧
    swt_call_args = ["ll", "filts", "mode"] ∧ swt_loop = ["j", "range(self.J)"] ∧ swt_dilation_base = 2 ∧
    swt_filts = ["self.h0_col", "self.h1_col", "self.h0_row", "self.h1_row"] ∧
    prep_filt_afb2d_1d_calls = ["h0_col, h1_col", "h0_row, h1_row"] ∧ prep_filt_sfb2d_1d_calls = ["g0_col, g1_col", "g0_row, g1_row"] ∧
    prep_filt_afb2d_axis_h0_col = 2 ∧ prep_filt_afb2d_axis_h1_col = 2 ∧ prep_filt_afb2d_axis_h0_row = 3 ∧ prep_filt_afb2d_axis_h1_row = 3 ∧
    prep_filt_sfb2d_axis_g0_col = 2 ∧ prep_filt_sfb2d_axis_g1_col = 2 ∧ prep_filt_sfb2d_axis_g0_row = 3 ∧ prep_filt_sfb2d_axis_g1_row = 3 ∧
    prep_filt_afb2d_row_default = ["h0_row, h1_row = (h0_col, h1_col)"] ∧ prep_filt_sfb2d_row_default = ["g0_row, g1_row = (g0_col, g1_col)"] := by
  exact ⟨rfl, rfl, rfl, rfl, rfl, rfl, rfl, rfl, rfl, rfl, rfl, rfl, rfl, rfl, rfl, rfl, rfl, rfl, rfl, rfl, rfl, rfl, rfl, rfl⟩

/-- the DTCWT modules call the four level Functions with the arguments in the order the model assumes: level 1 on the image, then
levels `1 … J-1` (0-based) on the running low-pass with that level's skip flag; results stored per level; the inverse walks the levels
from the coarsest (`J-1`) down to 1 over `highs[1:][::-1]` and applies `INV_J1` to `highs[0]` last -/
theorem dtcwt_glue_gen :
    dtcwtfwd_j1_args = ["x", "self.h0o", "self.h1o", "self.skip_hps[0]", "self.o_dim", "self.ri_dim", "mode"] ∧
    dtcwtfwd_j2_args = ["low", "self.h0a", "self.h1a", "self.h0b", "self.h1b", "self.skip_hps[j]", "self.o_dim", "self.ri_dim", "mode"] ∧
    dtcwtfwd_loop = ["j", "range(1, self.J)"] ∧
    dtcwtfwd_stores = ["highs[0] = h", "scales[0] = low", "highs[j] = h", "scales[j] = low"] ∧
    dtcwtfwd_returns = ["(x, None)", "(scales, highs)", "(low, highs)"] ∧
    dtcwtinv_j1_args = ["low", "highs[0]", "self.g0o", "self.g1o", "self.o_dim", "self.ri_dim", "mode"] ∧
    dtcwtinv_j2_args = ["low", "s", "self.g0a", "self.g1a", "self.g0b", "self.g1b", "self.o_dim", "self.ri_dim", "mode"] ∧
    dtcwtinv_loop = ["(j, s)", "zip(range(J - 1, 0, -1), highs[1:][::-1])"] := by
  exact ⟨rfl, rfl, rfl, rfl, rfl, rfl, rfl, rfl⟩

/-- the scattering modules hand every option of the call to the Function as an ARGUMENT (filters, padding mode, smoothing bias,
colour combination, in this order), for the plain and the band-pass families: nothing a call needs travels through the process -/
theorem scat_glue_gen :
    scat1_args_plain = ["x", "self.h0o", "self.h1o", "self.mode", "self.magbias", "self.combine_colour"] ∧
    scat1_args_rot = ["x", "self.h0o", "self.h1o", "self.h2o", "self.mode", "self.magbias", "self.combine_colour"] ∧
    scatj2_args_plain = ["x", "self.h0o", "self.h1o", "self.h0a", "self.h0b", "self.h1a", "self.h1b", "self.mode", "self.magbias", "self.combine_colour"] ∧
    scatj2_args_rot = ["x", "self.h0o", "self.h1o", "self.h2o", "self.h0a", "self.h0b", "self.h1a", "self.h1b", "self.h2a", "self.h2b", "self.mode", "self.magbias",
      "self.combine_colour"] := by
  exact ⟨rfl, rfl, rfl, rfl⟩

/-- no `forward` of a public module class assigns to an attribute of the module: whatever a call computes lives in locals, so the
module a call sees is the module the caller built (the model's modules are functions of their arguments and buffers; C15) -/
theorem forward_keeps_no_state_gen :
    dtcwtfwd_self_writes = [] ∧ dtcwtinv_self_writes = [] ∧ dwtfwd2_self_writes = [] ∧ dwtinv2_self_writes = [] ∧ swt_self_writes = [] ∧
    dwtfwd1_self_writes = [] ∧ dwtinv1_self_writes = [] ∧ scat1_self_writes = [] ∧ scatj2_self_writes = [] := by
  exact ⟨rfl, rfl, rfl, rfl, rfl, rfl, rfl, rfl, rfl⟩

/-- no function of the library writes into one of its parameters (subscript stores, augmented assignments, trailing-underscore
methods on a parameter): the only two hits are the integer `o_dim -= 1` of the axis helpers.  What a caller hands in is read, never
written (C15, C10: the pyramid lists and tensors of the caller) -/
theorem writes_into_parameters_gen :
    writes_into_parameters = ["get_dimensions5: o_dim -= 1", "get_dimensions6: o_dim -= 1"] := by
  rfl

/-- the model's stationary transform uses the dilation read from the source: level `j` (from 0) dilates by `base ^ j` -/
theorem swt_dilation_gen [Add α] [Mul α] [OfNat α 0] (mode : Mode) (wc0 wc1 wr0 wr1 : List α) (J j : Nat) (ll : List (Img α)) :
    SWTForward mode wc0 wc1 wr0 wr1 (J+1) j ll = (do
      let m := if mode = .periodization then Mode.periodic else mode
      let y ← afb2dAtrous m (swt_dilation_base.toNat ^ j) wc0 wc1 wr0 wr1 ll
      let C := y.length / 4
      let yr := tab C fun c => [y.getD (4*c) [], y.getD (4*c+1) [], y.getD (4*c+2) [], y.getD (4*c+3) []]
      let rest ← SWTForward mode wc0 wc1 wr0 wr1 J (j+1) (yr.map fun b => b.getD 0 [])
      some (yr :: rest)) := by
  rfl

end WV.C10Z
