/-
  C19 — the non-separable analysis bank equals the separable one, mode zero, every image size and all filter lengths ≥ 2.  One channel.

  `afb2d_nonsep` zero-pads the image on both axes at once and runs one strided 2-D correlation per sub-band with the kernel
  `np.outer(hc, hr)[::-1, ::-1]`; `afb2d` / `AFB2D` filter the rows and then the columns with the reversed filters, zero
  padding each axis in turn.  The image padded on both axes is the 1-D padding `Zp` along the rows and then along the
  columns (`padBoth_sep`), so the rank-one correlation on it is the separable analysis (`GLA.corr2_outer_prep`).  The padded
  image is the zero extension `x̃` of the image (`gz`) shifted by `(Ly−2, Lx−2)` (`get2_xpZero`), so pixel `(a, b)` of a band
  is `Σ_i Σ_j hc.rev[i]·hr.rev[j]·x̃[2a+i−(Ly−2), 2b+j−(Lx−2)]`.
-/
import Mathlib.Data.List.GetD
import WaveletsVerif.Lemmas.AlongAxis
import WaveletsVerif.Properties.C05D
import WaveletsVerif.Properties.C19
namespace WV.C19N
open Finset WV WV.C04 WV.C04Q WV.C06 WV.C05D WV.C03P WV.GLA
variable {R : Type} [CommRing R]

/-- zero-extended pixel read with integer indices -/
def gz (x : Img R) (i j : Int) : R := if 0 ≤ i then getZ (x.getD i.toNat []) j else 0

theorem getZ_nil (j : Int) : getZ ([] : List R) j = 0 := by unfold getZ; split <;> simp

/-- the zero-padded image `afb2d_nonsep` correlates with, as the model builds it -/
def xpZero (Ly Lx : Nat) (x : Img R) : Img R :=
  let Ny := x.length
  let Nx := x.width
  let p1 := 2 * (dwtCoeffLen Ny Ly - 1) + Ly - Ny
  let p2 := 2 * (dwtCoeffLen Nx Lx - 1) + Lx - Nx
  let x1 : Img R := if p1 % 2 = 1 then x ++ izero 1 Nx else x
  let x2 : Img R := if p2 % 2 = 1 then x1.map (fun r => zeroPad r 0 1) else x1
  let W2 := x2.width
  (izero (p1/2) (W2 + 2*(p2/2))) ++ (x2.map fun r => zeroPad r (p2/2) (p2/2)) ++ (izero (p1/2) (W2 + 2*(p2/2)))

theorem afb2dNonsep_zero_val (hc0 hc1 hr0 hr1 : List R) (hLy : 2 ≤ hc0.length) (hLx : 2 ≤ hr0.length)
    (hc : hc1.length = hc0.length) (hr : hr1.length = hr0.length) (x : Img R) (hH : 1 ≤ x.length) (hW : 1 ≤ x.width) :
    afb2dNonsepCh .zero hc0 hc1 hr0 hr1 x
      = some ([outerRev hc0 hr0, outerRev hc1 hr0, outerRev hc0 hr1, outerRev hc1 hr1].map fun f =>
          corr2 f (xpZero hc0.length hr0.length x) 2 2) := by
  have hguard : ¬ (hc0.length < 2 ∨ hr0.length < 2 ∨ hc1.length ≠ hc0.length ∨ hr1.length ≠ hr0.length ∨ x.length < 1 ∨ x.width < 1) := by omega
  simp only [afb2dNonsepCh, hguard, if_false, xpZero]

/-- zeros around a signal, `p` in total: `p/2` on either side, an odd one first appended on the right -/
def Zp (p : Nat) (c : List R) : List R := zeroPad (if p % 2 = 1 then zeroPad c 0 1 else c) (p/2) (p/2)

theorem Az_eq (w c : List R) :
    Az w c = corr w (Zp (2 * (dwtCoeffLen c.length w.length - 1) + w.length - c.length) c) 2 1 := rfl

theorem Zp_eq (p : Nat) (c : List R) : Zp p c = zeroPad (zeroPad c 0 (p % 2)) (p/2) (p/2) := by
  unfold Zp
  rcases Nat.mod_two_eq_zero_or_one p with h | h
  · rw [h, if_neg (by omega), zeroPad_zero]
  · rw [h, if_pos rfl]

theorem GL_Zp (p n : Nat) (hn : 1 ≤ n) : GL (Zp (R := R) p) n (n + p) := by
  have g := GL.comp (GL_zeroPad (R := R) (p/2) (p/2) (0 + n + p % 2) (by omega)) (GL_zeroPad 0 (p % 2) n hn)
  have e : p/2 + (0 + n + p % 2) + p/2 = n + p := by omega
  rw [e] at g
  exact GL.congr g (fun c _ => Zp_eq p c)

/-- zeros around an image as `afb2d_nonsep` adds them, `p1` rows and `p2` columns in total: an odd row goes below and an odd
column to the right before the symmetric part -/
def padBoth (p1 p2 W : Nat) (x : Img R) : Img R :=
  let x1 : Img R := if p1 % 2 = 1 then x ++ izero 1 W else x
  let x2 : Img R := if p2 % 2 = 1 then x1.map (fun r => zeroPad r 0 1) else x1
  (izero (p1/2) (x2.width + 2*(p2/2))) ++ (x2.map fun r => zeroPad r (p2/2) (p2/2)) ++ (izero (p1/2) (x2.width + 2*(p2/2)))

theorem xpZero_eq (Ly Lx : Nat) (x : Img R) :
    xpZero Ly Lx x = padBoth (2 * (dwtCoeffLen x.length Ly - 1) + Ly - x.length) (2 * (dwtCoeffLen x.width Lx - 1) + Lx - x.width)
      x.width x := rfl

/-- padding both axes at once is the 1-D padding along the rows and then along the columns: every step is a zero padding
along one axis, and paddings along different axes commute -/
theorem padBoth_sep (p1 p2 : Nat) (x : Img R) (H W : Nat) (hx : Rect x H W) (hH : 1 ≤ H) (hW : 1 ≤ W) :
    padBoth p1 p2 W x = alongH (Zp p1) (alongW (Zp p2) x) := by
  have pH : 1 ≤ 0 + H + p1 % 2 := Nat.le_add_right_of_le (Nat.le_add_left_of_le hH)
  have pW : 1 ≤ 0 + W + p2 % 2 := Nat.le_add_right_of_le (Nat.le_add_left_of_le hW)
  have pZ : 1 ≤ p2 / 2 + (0 + W + p2 % 2) + p2 / 2 := Nat.le_add_right_of_le (Nat.le_add_left_of_le pW)
  have g1 := GL_zeroPad (R := R) 0 (p1 % 2) H hH
  have g2 := GL_zeroPad (R := R) 0 (p2 % 2) W hW
  have g3 := GL_zeroPad (R := R) (p2/2) (p2/2) (0 + W + p2 % 2) pW
  have g4 := GL_zeroPad (R := R) (p1/2) (p1/2) (0 + H + p1 % 2) pH
  have h1 : (if p1 % 2 = 1 then x ++ izero 1 W else x) = alongH (fun c => zeroPad c 0 (p1 % 2)) x := by
    rw [← vpad_eq 0 (p1 % 2) x H W hx hH hW]
    rcases Nat.mod_two_eq_zero_or_one p1 with h | h
    · rw [h, if_neg Nat.zero_ne_one, izero_zero, List.nil_append, List.append_nil]
    · rw [h, if_pos rfl, izero_zero, List.nil_append]
  have h2 : ∀ y : Img R, (if p2 % 2 = 1 then y.map (fun r => zeroPad r 0 1) else y) = alongW (fun r => zeroPad r 0 (p2 % 2)) y := by
    intro y
    unfold alongW
    rcases Nat.mod_two_eq_zero_or_one p2 with h | h
    · have e : (fun r : List R => zeroPad r 0 0) = id := funext zeroPad_zero
      rw [h, if_neg Nat.zero_ne_one, e, List.map_id]
    · rw [h, if_pos rfl]
  have r1 := GL_alongH_rect g1 x W hx hH hW
  have r2 := GL_alongW_rect g2 _ _ r1
  have r3 := GL_alongW_rect g3 _ _ r2
  have eW : 0 + W + p2 % 2 + 2 * (p2/2) = p2/2 + (0 + W + p2 % 2) + p2/2 := by
    rw [Nat.two_mul, Nat.add_comm (p2/2) (0 + W + p2 % 2), Nat.add_assoc (0 + W + p2 % 2)]
  unfold padBoth
  simp only [h1, h2]
  rw [rect_width _ _ _ r2 pH, eW]
  show izero _ _ ++ alongW (fun r => zeroPad r (p2/2) (p2/2)) _ ++ izero _ _ = _
  -- the key step is `alongH_alongW_comm` (an operation on the columns commutes with one on the rows); the others merge compositions along one axis
  rw [vpad_eq (p1/2) (p1/2) _ _ _ r3 pH pZ, alongW_comp,
    ← alongH_alongW_comm _ _ H _ W _ g1 (GL.comp g3 g2) x hx hH hW pH pZ,
    alongH_comp _ _ _ H _ _ _ (GL_alongW_rect (GL.comp g3 g2) x H hx) hH pZ pH (fun c hc => GL.length g1 c hc)
      (fun c hc => GL.length g4 c hc)]
  have e1 : Zp (R := R) p1 = fun c => zeroPad (zeroPad c 0 (p1 % 2)) (p1/2) (p1/2) := funext (Zp_eq p1)
  have e2 : Zp (R := R) p2 = fun c => zeroPad (zeroPad c 0 (p2 % 2)) (p2/2) (p2/2) := funext (Zp_eq p2)
  rw [e1, e2]

theorem getN_Zp (p : Nat) (c : List R) (u : Nat) : getN (Zp p c) u = getZ c ((u:Int) - ((p/2 : Nat):Int)) := by
  rw [getN_eq_getZ, Zp_eq, getZ_zeroPad, getZ_zeroPad]
  congr 1
  omega

theorem beyond_pad (W p k v : Nat) (hp : p / 2 = k) (h : ¬ v < W + p) : (W : Int) ≤ (v : Int) - (k : Int) := by omega

/-- the padded image is the zero extension of `x` shifted by `(Ly−2, Lx−2)` -/
theorem get2_xpZero (Ly Lx : Nat) (hLy : 2 ≤ Ly) (hLx : 2 ≤ Lx) (x : Img R) (H W : Nat) (hx : Rect x H W) (hH : 1 ≤ H) (hW : 1 ≤ W)
    (u v : Nat) : get2 (xpZero Ly Lx x) u v = gz x ((u:Int) - ((Ly - 2 : Nat):Int)) ((v:Int) - ((Lx - 2 : Nat):Int)) := by
  -- by `padBoth_sep` an entry is a `Zp` read along the column of `Zp` reads along the rows, each a read shifted by `p/2` (`getN_Zp`);
  -- `afb_pad_spec` gives `p/2 = L − 2`, and `generalize` on the pad amounts leaves only this equation about them
  have hw : x.width = W := rect_width x H W hx hH
  have hP1 := (afb_pad_spec H Ly hLy hH).2.1
  have hP2 := (afb_pad_spec W Lx hLx hW).2.1
  rw [xpZero_eq, hx.1, hw]
  generalize 2 * (dwtCoeffLen H Ly - 1) + Ly - H = p1 at hP1 ⊢
  generalize 2 * (dwtCoeffLen W Lx - 1) + Lx - W = p2 at hP2 ⊢
  have rY := GL_alongW_rect (GL_Zp (R := R) p2 W hW) x H hx
  rw [padBoth_sep _ _ x H W hx hH hW,
    get2_alongH _ _ H _ _ rY hH (Nat.le_add_right_of_le hW) (fun c hc => GL.length (GL_Zp p1 H hH) c hc), getN_Zp, hP1]
  unfold gz col
  rw [rY.1, getZ_tab]
  generalize (u:Int) - ((Ly - 2 : Nat):Int) = z
  by_cases hc : 0 ≤ z ∧ z < H
  · have hzt : z.toNat < H := (Int.toNat_lt hc.1).mpr hc.2
    rw [if_pos hc, if_pos hc.1, get2_alongW _ _ _ _ (by rw [hx.1]; exact hzt), getN_Zp, hP2]
    split
    · rfl
    · next hv => exact (getZ_of_ge _ _ (by rw [row_length x H W hx _ hzt]; exact beyond_pad W p2 _ v hP2 hv)).symm
  · rw [if_neg hc, ite_self]
    by_cases hz : 0 ≤ z
    · have hle : H ≤ z.toNat := (Int.le_toNat hz).mpr (Int.not_lt.mp fun h => hc ⟨hz, h⟩)
      have e : x.getD z.toNat [] = [] := by
        rw [List.getD_eq_getElem?_getD, List.getElem?_eq_none (by rw [hx.1]; exact hle)]; rfl
      rw [if_pos hz, e, getZ_nil]
    · rw [if_neg hz]

/-- one sub-band: the strided 2-D correlation with `outerRev hc hr` on the zero-padded image is the row pass with
`hr.reverse` followed by the column pass with `hc.reverse` -/
theorem band_eq (hc hr : List R) (Ly Lx : Nat) (hcl : hc.length = Ly) (hrl : hr.length = Lx) (hLy : 2 ≤ Ly) (hLx : 2 ≤ Lx)
    (x : Img R) (H W : Nat) (hx : Rect x H W) (hH : 1 ≤ H) (hW : 1 ≤ W) :
    corr2 (outerRev hc hr) (xpZero Ly Lx x) 2 2 = alongH (Az hc.reverse) (alongW (Az hr.reverse) x) := by
  have hw : x.width = W := rect_width x H W hx hH
  have hcr : hc.reverse.length = Ly := by rw [List.length_reverse, hcl]
  have hrr : hr.reverse.length = Lx := by rw [List.length_reverse, hrl]
  have gy := GL_Zp (R := R) (2 * (dwtCoeffLen H Ly - 1) + Ly - H) H hH
  have gx := GL_Zp (R := R) (2 * (dwtCoeffLen W Lx - 1) + Lx - W) W hW
  have hMw : 1 ≤ corrLen (W + (2 * (dwtCoeffLen W Lx - 1) + Lx - W)) hr.reverse.length 2 1 := by
    obtain ⟨hD, _, hK⟩ := afb_pad_spec W Lx hLx hW
    rw [hrr, hK, corrLen_two _ _ hD (by omega)]
    exact hD
  rw [xpZero_eq, hx.1, hw, padBoth_sep _ _ x H W hx hH hW, C19.outerRev_eq,
    corr2_outer_prep hc.reverse hr.reverse _ _ H W _ _ gy gx x hx hH (by omega) (by omega) (by rw [hcr]; omega) hMw,
    alongW_congr _ (Az hr.reverse) x H W hx (fun c hc' => by rw [Az_eq, hc', hrr])]
  exact alongH_congr _ _ _ (fun c hc' => by rw [Az_eq, hc', (Az_alongW_rect hr.reverse (by omega) x H W hx hW).1, hcr])

/-- `afb2d_nonsep` = `afb2d` in mode zero: the four sub-bands (ll, lh, hl, hh) of the non-separable model are the
row pass followed by the column pass of the separable bank, for every image size and every filter lengths ≥ 2 -/
theorem afb2d_nonsep_zero_eq_sep (hc0 hc1 hr0 hr1 : List R) (hLy : 2 ≤ hc0.length) (hLx : 2 ≤ hr0.length)
    (hc : hc1.length = hc0.length) (hr : hr1.length = hr0.length) (x : Img R) (H W : Nat) (hx : Rect x H W) (hH : 1 ≤ H) (hW : 1 ≤ W) :
    afb2dNonsepCh .zero hc0 hc1 hr0 hr1 x
      = some [alongH (Az hc0.reverse) (alongW (Az hr0.reverse) x), alongH (Az hc1.reverse) (alongW (Az hr0.reverse) x),
              alongH (Az hc0.reverse) (alongW (Az hr1.reverse) x), alongH (Az hc1.reverse) (alongW (Az hr1.reverse) x)] := by
  have hw : x.width = W := rect_width x H W hx hH
  rw [afb2dNonsep_zero_val hc0 hc1 hr0 hr1 hLy hLx hc hr x (by rw [hx.1]; exact hH) (by rw [hw]; exact hW)]
  simp only [List.map_cons, List.map_nil]
  rw [band_eq hc0 hr0 _ _ rfl rfl hLy hLx x H W hx hH hW, band_eq hc1 hr0 _ _ hc rfl hLy hLx x H W hx hH hW,
    band_eq hc0 hr1 _ _ rfl hr hLy hLx x H W hx hH hW, band_eq hc1 hr1 _ _ hc hr hLy hLx x H W hx hH hW]

/-- the same four images are what the autograd Function `AFB2D.forward` returns in mode zero (`C05D.AFB2D_forward_val`):
the non-separable bank and the separable Function agree band by band -/
theorem afb2d_nonsep_zero_eq_AFB2D (hc0 hc1 hr0 hr1 : List R) (hLy : 2 ≤ hc0.length) (hLx : 2 ≤ hr0.length)
    (hc : hc1.length = hc0.length) (hr : hr1.length = hr0.length) (x : Img R) (H W : Nat) (hx : Rect x H W) (hH : 1 ≤ H) (hW : 1 ≤ W) :
    ∃ ll lh hl hh, afb2dNonsepCh .zero hc0 hc1 hr0 hr1 x = some [ll, lh, hl, hh] ∧
      AFB2D_forward .zero hr0.reverse hr1.reverse hc0.reverse hc1.reverse [x] = some ([ll], [[lh, hl, hh]]) :=
  ⟨_, _, _, _, afb2d_nonsep_zero_eq_sep hc0 hc1 hr0 hr1 hLy hLx hc hr x H W hx hH hW,
    AFB2D_forward_val hr0.reverse hr1.reverse hc0.reverse hc1.reverse (by simpa using hLx) (by simp [hr]) (by simpa using hLy) (by simp [hc])
      x H W hx hH hW⟩

end WV.C19N
