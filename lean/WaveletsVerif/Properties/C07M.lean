/-
  C07 / C05 — channel stacks in two dimensions, every channel count.

  `afb1d` / `sfb1d` run one grouped convolution with the weight `cat([h0, h1] * C)` (`groups = C`).  On a stack of `C`
  images the autograd Functions `AFB2D.forward`, `AFB2D.backward`, `SFB2D.forward` therefore act channel by channel:
  output channel `c` is the one-channel operator applied to input channel `c`, nothing else enters it
  (`AFB2D_forward_channels`, `AFB2D_backward_channels`, `SFB2D_forward_channels`).  With the one-channel theorems of
  C05D this gives the mode-zero adjointness `Σ_c ⟨bands_c, g_c⟩ = Σ_c ⟨x_c, dx_c⟩` for every `C` (`AFB2D_zero_adjoint_channels`),
  and in the same way `AFB2D_per_adjoint_channels` (periodization, from C05P: even filter length `L ≤ N + N % 2` on each
  axis) and `SFB2D_zero_adjoint_channels` (`SFB2D.backward` against `SFB2D.forward`, mode zero, from C05S:
  filter length `L ≤ 2K + 1` for bands of `K` samples on each axis).
-/
import WaveletsVerif.Properties.C05D
import WaveletsVerif.Properties.C05P
import WaveletsVerif.Properties.C05S
import WaveletsVerif.Properties.C07
namespace WV.C07M
open Finset WV WV.C04 WV.C06 WV.C05D
variable {R : Type} [CommRing R]

theorem sfb1dT_total (ax : Axis) (m : Mode) (g0 g1 : List R) (lo hi : List (Img R)) (S : Img R → Img R → Img R)
    (hlen : hi.length = lo.length)
    (h : ∀ c < lo.length, sfb1dImg ax m g0 g1 (lo.getD c []) (hi.getD c []) = some (S (lo.getD c []) (hi.getD c []))) :
    sfb1dT ax m g0 g1 lo hi = some (tab lo.length fun c => S (lo.getD c []) (hi.getD c [])) := by
  unfold sfb1dT
  rw [if_neg (by rw [hlen]; simp)]
  rw [mapM_total _ (fun c => S (lo.getD c []) (hi.getD c []))]
  · rfl
  · intro c hc
    exact h c (by simpa using hc)

/-- `AFB2D.forward` acts channel by channel, for every channel count: if the row pass and the column pass return on
every channel (`r0, r1` and `c0, c1` are their values), the stack result is exactly the per-channel results -/
theorem AFB2D_forward_channels (mode : Mode) (wr0 wr1 wc0 wc1 : List R) (xs : List (Img R)) (r0 r1 c0 c1 : Img R → Img R)
    (hrow : ∀ c < xs.length, alongO .W (afb1dOne mode wr0) (xs.getD c []) = some (r0 (xs.getD c [])) ∧
                              alongO .W (afb1dOne mode wr1) (xs.getD c []) = some (r1 (xs.getD c [])))
    (hcol : ∀ c < xs.length, ∀ y, (y = r0 (xs.getD c []) ∨ y = r1 (xs.getD c [])) →
        alongO .H (afb1dOne mode wc0) y = some (c0 y) ∧ alongO .H (afb1dOne mode wc1) y = some (c1 y)) :
    AFB2D_forward mode wr0 wr1 wc0 wc1 xs
      = some (tab xs.length fun c => c0 (r0 (xs.getD c [])),
              tab xs.length fun c => [c1 (r0 (xs.getD c [])), c0 (r1 (xs.getD c [])), c1 (r1 (xs.getD c []))]) := by
  unfold AFB2D_forward
  rw [C07.afb1dT_total .W mode wr0 wr1 xs r0 r1 hrow]
  simp only [Option.bind_eq_bind, Option.bind_some]
  set Y := tab (2 * xs.length) fun o => if o % 2 = 0 then r0 (xs.getD (o/2) []) else r1 (xs.getD (o/2) []) with hY
  have hYl : Y.length = 2 * xs.length := length_tab _ _
  -- the row pass interleaves (lo, hi) per channel …
  have hg : ∀ c < xs.length, ∀ k < 2, Y.getD (2 * c + k) [] = if k = 0 then r0 (xs.getD c []) else r1 (xs.getD c []) := by
    intro c hc k hk
    rw [hY, getD_tab, if_pos (by omega), Nat.mul_add_mod, Nat.mul_add_div (by decide), Nat.mod_eq_of_lt hk, Nat.div_eq_of_lt hk,
      Nat.add_zero]
  rw [C07.afb1dT_total .H mode wc0 wc1 Y c0 c1 (by
    intro o ho
    rw [hYl] at ho
    have ho2 : o / 2 < xs.length := Nat.div_lt_of_lt_mul ho
    rw [hY, getD_tab, if_pos ho]
    by_cases he : o % 2 = 0
    · rw [if_pos he]; exact hcol (o / 2) ho2 _ (Or.inl rfl)
    · rw [if_neg he]; exact hcol (o / 2) ho2 _ (Or.inr rfl))]
  simp only [Option.bind_some, length_tab, hYl]
  -- … and the column pass interleaves again: entry `4c + k` is band `k` of channel `c`
  have hq : ∀ c < xs.length, ∀ k < 4,
      (tab (2 * (2 * xs.length)) fun o => if o % 2 = 0 then c0 (Y.getD (o/2) []) else c1 (Y.getD (o/2) [])).getD (4 * c + k) []
        = if k % 2 = 0 then c0 (if k / 2 = 0 then r0 (xs.getD c []) else r1 (xs.getD c []))
          else c1 (if k / 2 = 0 then r0 (xs.getD c []) else r1 (xs.getD c [])) := by
    intro c hc k hk
    rw [show 4 * c = 2 * (2 * c) by omega, getD_tab, if_pos (by omega), Nat.mul_add_mod, Nat.mul_add_div (by decide),
      hg c hc (k / 2) (Nat.div_lt_of_lt_mul hk)]
  have h4 : 2 * (2 * xs.length) / 4 = xs.length := by omega
  congr 2
  · apply tab_ext h4; intro c hc
    exact hq c (h4 ▸ hc) 0 (by decide)
  · apply tab_ext h4; intro c hc
    rw [hq c (h4 ▸ hc) 1 (by decide), hq c (h4 ▸ hc) 2 (by decide), hq c (h4 ▸ hc) 3 (by decide)]
    rfl

/-- `SFB2D.forward` acts channel by channel, for every channel count -/
theorem SFB2D_forward_channels (mode : Mode) (gr0 gr1 gc0 gc1 : List R) (lows : List (Img R)) (highs : List (List (Img R)))
    (hlen : highs.length = lows.length) (Sc Sr : Img R → Img R → Img R)
    (h1 : ∀ c < lows.length, sfb1dImg .H mode gc0 gc1 (lows.getD c []) ((highs.getD c []).getD 0 [])
        = some (Sc (lows.getD c []) ((highs.getD c []).getD 0 [])))
    (h2 : ∀ c < lows.length, sfb1dImg .H mode gc0 gc1 ((highs.getD c []).getD 1 []) ((highs.getD c []).getD 2 [])
        = some (Sc ((highs.getD c []).getD 1 []) ((highs.getD c []).getD 2 [])))
    (h3 : ∀ c < lows.length, sfb1dImg .W mode gr0 gr1 (Sc (lows.getD c []) ((highs.getD c []).getD 0 []))
          (Sc ((highs.getD c []).getD 1 []) ((highs.getD c []).getD 2 []))
        = some (Sr (Sc (lows.getD c []) ((highs.getD c []).getD 0 [])) (Sc ((highs.getD c []).getD 1 []) ((highs.getD c []).getD 2 [])))) :
    SFB2D_forward mode gr0 gr1 gc0 gc1 lows highs
      = some (tab lows.length fun c =>
          Sr (Sc (lows.getD c []) ((highs.getD c []).getD 0 [])) (Sc ((highs.getD c []).getD 1 []) ((highs.getD c []).getD 2 []))) := by
  have hm : ∀ (k : Nat) (c : Nat), c < lows.length → (highs.map fun b => b.getD k []).getD c [] = (highs.getD c []).getD k [] := by
    intro k c hc
    have hc' : c < highs.length := by omega
    simp [List.getD_eq_getElem?_getD, List.getElem?_eq_getElem hc']
  unfold SFB2D_forward
  simp only []
  rw [sfb1dT_total .H mode gc0 gc1 lows _ Sc (by simp [hlen]) (by intro c hc; rw [hm 0 c hc]; exact h1 c hc)]
  simp only [Option.bind_eq_bind, Option.bind_some]
  rw [sfb1dT_total .H mode gc0 gc1 _ _ Sc (by simp) (by
    intro c hc
    have hc' : c < lows.length := by simpa [hlen] using hc
    rw [hm 1 c hc', hm 2 c hc']; exact h2 c hc')]
  simp only [Option.bind_some, List.length_map, hlen]
  rw [sfb1dT_total .W mode gr0 gr1 _ _ Sr (by simp) (by
    intro c hc
    have hc' : c < lows.length := by simpa using hc
    rw [getD_tab, getD_tab, if_pos hc', if_pos hc', hm 0 c hc', hm 1 c hc', hm 2 c hc']
    exact h3 c hc')]
  simp only [length_tab]
  congr 1
  apply tab_ext rfl; intro c hc
  rw [getD_tab, getD_tab, if_pos hc, if_pos hc, hm 0 c hc, hm 1 c hc, hm 2 c hc]

/-- `AFB2D.backward` acts channel by channel, for every channel count -/
theorem AFB2D_backward_channels (mode : Mode) (wr0 wr1 wc0 wc1 : List R) (H W : Nat) (lows : List (Img R)) (highs : List (List (Img R)))
    (hlen : highs.length = lows.length) (Sc Sr : Img R → Img R → Img R)
    (h1 : ∀ c < lows.length, sfb1dImg .H mode wc0 wc1 (lows.getD c []) ((highs.getD c []).getD 0 [])
        = some (Sc (lows.getD c []) ((highs.getD c []).getD 0 [])))
    (h2 : ∀ c < lows.length, sfb1dImg .H mode wc0 wc1 ((highs.getD c []).getD 1 []) ((highs.getD c []).getD 2 [])
        = some (Sc ((highs.getD c []).getD 1 []) ((highs.getD c []).getD 2 [])))
    (h3 : ∀ c < lows.length, sfb1dImg .W mode wr0 wr1 (Sc (lows.getD c []) ((highs.getD c []).getD 0 []))
          (Sc ((highs.getD c []).getD 1 []) ((highs.getD c []).getD 2 []))
        = some (Sr (Sc (lows.getD c []) ((highs.getD c []).getD 0 [])) (Sc ((highs.getD c []).getD 1 []) ((highs.getD c []).getD 2 [])))) :
    AFB2D_backward mode wr0 wr1 wc0 wc1 H W lows highs
      = some (tab lows.length fun c => foldCrop2 mode H W
          (Sr (Sc (lows.getD c []) ((highs.getD c []).getD 0 [])) (Sc ((highs.getD c []).getD 1 []) ((highs.getD c []).getD 2 [])))) := by
  rw [AFB2D_backward_eq_SFB2D_forward, SFB2D_forward_channels mode wr0 wr1 wc0 wc1 lows highs hlen Sc Sr h1 h2 h3,
    Option.map_some, map_tab]

/-- `AFB2D.forward` on a stack of `H × W` images, where `afb1d` computes `(Ar0, Ar1)` on rows and `(Ac0, Ac1)` on columns -/
theorem AFB2D_forward_rect_channels (mode : Mode) (wr0 wr1 wc0 wc1 : List R) (Ar0 Ar1 Ac0 Ac1 : List R → List R) (H W : Nat)
    (hr : ∀ c : List R, c.length = W → afb1dOne mode wr0 c = some (Ar0 c) ∧ afb1dOne mode wr1 c = some (Ar1 c))
    (hc : ∀ c : List R, c.length = H → afb1dOne mode wc0 c = some (Ac0 c) ∧ afb1dOne mode wc1 c = some (Ac1 c))
    (xs : List (Img R)) (hxs : ∀ c < xs.length, Rect (xs.getD c []) H W) :
    AFB2D_forward mode wr0 wr1 wc0 wc1 xs
      = some (tab xs.length fun c => alongH Ac0 (alongW Ar0 (xs.getD c [])),
              tab xs.length fun c => [alongH Ac1 (alongW Ar0 (xs.getD c [])), alongH Ac0 (alongW Ar1 (xs.getD c [])),
                                      alongH Ac1 (alongW Ar1 (xs.getD c []))]) := by
  apply AFB2D_forward_channels mode wr0 wr1 wc0 wc1 xs (alongW Ar0) (alongW Ar1) (alongH Ac0) (alongH Ac1)
  · intro c hc'
    exact ⟨alongO_W_val _ _ _ H W (hxs c hc') fun r h => (hr r h).1, alongO_W_val _ _ _ H W (hxs c hc') fun r h => (hr r h).2⟩
  · intro c hc' y hy
    have hyl : y.length = H := by
      rcases hy with rfl | rfl <;> rw [alongW, List.length_map, (hxs c hc').1]
    exact ⟨alongO_H_val _ _ y H hyl fun r h => (hc r h).1, alongO_H_val _ _ y H hyl fun r h => (hc r h).2⟩

theorem SFB2D_forward_rect_channels (mode : Mode) (gr0 gr1 gc0 gc1 : List R) (Sr Sc : List R → List R → List R) (Kh Kw nh nw : Nat)
    (hc : SynthVal mode gc0 gc1 Sc Kh nh) (hr : SynthVal mode gr0 gr1 Sr Kw nw) (hKh : 1 ≤ Kh) (hKw : 1 ≤ Kw)
    (lows : List (Img R)) (highs : List (List (Img R))) (hlen : highs.length = lows.length)
    (hrect : ∀ c < lows.length, Rect (lows.getD c []) Kh Kw ∧ ∀ k < 3, Rect ((highs.getD c []).getD k []) Kh Kw) :
    SFB2D_forward mode gr0 gr1 gc0 gc1 lows highs
      = some (tab lows.length fun c => rowzip Sr nh nw (colzip Sc nh Kw (lows.getD c []) ((highs.getD c []).getD 0 []))
          (colzip Sc nh Kw ((highs.getD c []).getD 1 []) ((highs.getD c []).getD 2 []))) :=
  SFB2D_forward_channels mode gr0 gr1 gc0 gc1 lows highs hlen (colzip Sc nh Kw) (rowzip Sr nh nw)
    (fun c h => sfb1dImg_H_colzip mode _ _ Sc Kh nh hc.val hc.len _ _ Kw (hrect c h).1 ((hrect c h).2 0 (by decide)) hKh hKw)
    (fun c h => sfb1dImg_H_colzip mode _ _ Sc Kh nh hc.val hc.len _ _ Kw ((hrect c h).2 1 (by decide)) ((hrect c h).2 2 (by decide)) hKh hKw)
    (fun c h => sfb1dImg_W_rowzip mode _ _ Sr Kw nw hr.val hr.len _ _ nh (colzip_rect _ _ _ _ _) (colzip_rect _ _ _ _ _))

theorem AFB2D_backward_rect_channels (mode : Mode) (wr0 wr1 wc0 wc1 : List R) (H W : Nat) (Sr Sc : List R → List R → List R)
    (Kh Kw nh nw : Nat) (hc : SynthVal mode wc0 wc1 Sc Kh nh) (hr : SynthVal mode wr0 wr1 Sr Kw nw) (hKh : 1 ≤ Kh) (hKw : 1 ≤ Kw)
    (lows : List (Img R)) (highs : List (List (Img R))) (hlen : highs.length = lows.length)
    (hrect : ∀ c < lows.length, Rect (lows.getD c []) Kh Kw ∧ ∀ k < 3, Rect ((highs.getD c []).getD k []) Kh Kw) :
    AFB2D_backward mode wr0 wr1 wc0 wc1 H W lows highs
      = some (tab lows.length fun c => foldCrop2 mode H W (rowzip Sr nh nw (colzip Sc nh Kw (lows.getD c []) ((highs.getD c []).getD 0 []))
          (colzip Sc nh Kw ((highs.getD c []).getD 1 []) ((highs.getD c []).getD 2 [])))) := by
  rw [AFB2D_backward_eq_SFB2D_forward, SFB2D_forward_rect_channels mode wr0 wr1 wc0 wc1 Sr Sc Kh Kw nh nw hc hr hKh hKw lows highs hlen hrect,
    Option.map_some, map_tab]

section zero
variable (wr0 wr1 wc0 wc1 : List R) (hLr : 2 ≤ wr0.length) (hwr : wr1.length = wr0.length)
    (hLc : 2 ≤ wc0.length) (hwc : wc1.length = wc0.length) (H W : Nat) (hH : 1 ≤ H) (hW : 1 ≤ W)

include hLr hwr hLc hwc hH hW in
theorem AFB2D_forward_zero_channels (xs : List (Img R)) (hxs : ∀ c < xs.length, Rect (xs.getD c []) H W) :
    AFB2D_forward .zero wr0 wr1 wc0 wc1 xs
      = some (tab xs.length fun c => alongH (Az wc0) (alongW (Az wr0) (xs.getD c [])),
              tab xs.length fun c => [alongH (Az wc1) (alongW (Az wr0) (xs.getD c [])), alongH (Az wc0) (alongW (Az wr1) (xs.getD c [])),
                                      alongH (Az wc1) (alongW (Az wr1) (xs.getD c []))]) :=
  AFB2D_forward_rect_channels .zero wr0 wr1 wc0 wc1 _ _ _ _ H W (afb1dOne_zero_pair wr0 wr1 hLr hwr W hW)
    (afb1dOne_zero_pair wc0 wc1 hLc hwc H hH) xs hxs

include hLr hwr hLc hwc hH hW in
theorem AFB2D_backward_zero_channels (glls : List (Img R)) (ghs : List (List (Img R))) (hlen : ghs.length = glls.length)
    (hr : ∀ c < glls.length, Rect (glls.getD c []) (dwtCoeffLen H wc0.length) (dwtCoeffLen W wr0.length) ∧
      ∀ k < 3, Rect ((ghs.getD c []).getD k []) (dwtCoeffLen H wc0.length) (dwtCoeffLen W wr0.length)) :
    AFB2D_backward .zero wr0 wr1 wc0 wc1 H W glls ghs
      = some (tab glls.length fun c => tab2 H W (get2 (dxFull wr0 wr1 wc0 wc1 H W (glls.getD c []) ((ghs.getD c []).getD 0 [])
          ((ghs.getD c []).getD 1 []) ((ghs.getD c []).getD 2 [])))) := by
  rw [AFB2D_backward_rect_channels .zero wr0 wr1 wc0 wc1 H W (Sz wr0 wr1) (Sz wc0 wc1) _ _ _ _
    (synthVal_zero wc0 wc1 hLc hwc _ (bandLen_pos H _ hLc hH) (bandLen_fit H _ hLc hH))
    (synthVal_zero wr0 wr1 hLr hwr _ (bandLen_pos W _ hLr hW) (bandLen_fit W _ hLr hW))
    (bandLen_pos H _ hLc hH) (bandLen_pos W _ hLr hW) glls ghs hlen hr]
  refine congrArg some (tab_ext rfl fun c hc => ?_)
  rw [foldCrop2_zero _ _ _ H W (rowzip_rect _ _ _ _ _) hH hW (bandLen_le_synth H _ hLc hH)
    (bandLen_le_synth W _ hLr hW)]
  rfl

include hLr hwr hLc hwc hH hW in
/-- `AFB2D.backward` is the adjoint of `AFB2D.forward` in mode zero on every number of channels:
`Σ_c (⟨ll_c,gll_c⟩ + ⟨lh_c,glh_c⟩ + ⟨hl_c,ghl_c⟩ + ⟨hh_c,ghh_c⟩) = Σ_c ⟨x_c, dx_c⟩`, and in fact channel by channel -/
theorem AFB2D_zero_adjoint_channels (xs glls : List (Img R)) (ghs : List (List (Img R))) (hl1 : glls.length = xs.length)
    (hl2 : ghs.length = xs.length) (hxs : ∀ c < xs.length, Rect (xs.getD c []) H W)
    (hr : ∀ c < xs.length, Rect (glls.getD c []) (dwtCoeffLen H wc0.length) (dwtCoeffLen W wr0.length) ∧
      ∀ k < 3, Rect ((ghs.getD c []).getD k []) (dwtCoeffLen H wc0.length) (dwtCoeffLen W wr0.length)) :
    ∃ lows highs dxs, AFB2D_forward .zero wr0 wr1 wc0 wc1 xs = some (lows, highs) ∧
      AFB2D_backward .zero wr0 wr1 wc0 wc1 H W glls ghs = some dxs ∧
      ∀ c < xs.length,
        dot2 (dwtCoeffLen H wc0.length) (dwtCoeffLen W wr0.length) (lows.getD c []) (glls.getD c [])
          + dot2 (dwtCoeffLen H wc0.length) (dwtCoeffLen W wr0.length) ((highs.getD c []).getD 0 []) ((ghs.getD c []).getD 0 [])
          + dot2 (dwtCoeffLen H wc0.length) (dwtCoeffLen W wr0.length) ((highs.getD c []).getD 1 []) ((ghs.getD c []).getD 1 [])
          + dot2 (dwtCoeffLen H wc0.length) (dwtCoeffLen W wr0.length) ((highs.getD c []).getD 2 []) ((ghs.getD c []).getD 2 [])
          = dot2 H W (xs.getD c []) (dxs.getD c []) := by
  refine ⟨_, _, _, AFB2D_forward_zero_channels wr0 wr1 wc0 wc1 hLr hwr hLc hwc H W hH hW xs hxs,
    AFB2D_backward_zero_channels wr0 wr1 wc0 wc1 hLr hwr hLc hwc H W hH hW glls ghs (by omega) (by rw [hl1]; exact hr), ?_⟩
  intro c hc
  simp only [getD_tab, if_pos hc, if_pos (hl1 ▸ hc), List.getD_cons_zero, List.getD_cons_succ]
  exact AFB2D_zero_adjoint_val wr0 wr1 wc0 wc1 hLr hwr hLc hwc H W hH hW (xs.getD c []) (glls.getD c []) ((ghs.getD c []).getD 0 [])
    ((ghs.getD c []).getD 1 []) ((ghs.getD c []).getD 2 []) (hxs c hc) (hr c hc).1 ((hr c hc).2 0 (by decide))
    ((hr c hc).2 1 (by decide)) ((hr c hc).2 2 (by decide))

end zero

section per
open WV.C05P
variable (wr0 wr1 wc0 wc1 : List R) (hLr : 2 ≤ wr0.length) (hLre : wr0.length % 2 = 0) (hwr : wr1.length = wr0.length)
    (hLc : 2 ≤ wc0.length) (hLce : wc0.length % 2 = 0) (hwc : wc1.length = wc0.length) (H W : Nat) (hH : 1 ≤ H) (hW : 1 ≤ W)
    (hfH : wc0.length ≤ H + H % 2) (hfW : wr0.length ≤ W + W % 2)

include hLr hLre hwr hLc hLce hwc hH hW hfH hfW in
/-- `AFB2D.backward` is the adjoint of `AFB2D.forward` in periodization on every number of channels, channel by channel
(`w·` are the analysis filters; the module's buffers are their reverses) -/
theorem AFB2D_per_adjoint_channels (xs glls : List (Img R)) (ghs : List (List (Img R))) (hl1 : glls.length = xs.length)
    (hl2 : ghs.length = xs.length) (hxs : ∀ c < xs.length, Rect (xs.getD c []) H W)
    (hr : ∀ c < xs.length, Rect (glls.getD c []) ((H + H % 2) / 2) ((W + W % 2) / 2) ∧
      ∀ k < 3, Rect ((ghs.getD c []).getD k []) ((H + H % 2) / 2) ((W + W % 2) / 2)) :
    ∃ lows highs dxs, AFB2D_forward .periodization wr0.reverse wr1.reverse wc0.reverse wc1.reverse xs = some (lows, highs) ∧
      AFB2D_backward .periodization wr0.reverse wr1.reverse wc0.reverse wc1.reverse H W glls ghs = some dxs ∧
      ∀ c < xs.length,
        dot2 ((H + H % 2) / 2) ((W + W % 2) / 2) (lows.getD c []) (glls.getD c [])
          + dot2 ((H + H % 2) / 2) ((W + W % 2) / 2) ((highs.getD c []).getD 0 []) ((ghs.getD c []).getD 0 [])
          + dot2 ((H + H % 2) / 2) ((W + W % 2) / 2) ((highs.getD c []).getD 1 []) ((ghs.getD c []).getD 1 [])
          + dot2 ((H + H % 2) / 2) ((W + W % 2) / 2) ((highs.getD c []).getD 2 []) ((ghs.getD c []).getD 2 [])
          = dot2 H W (xs.getD c []) (dxs.getD c []) := by
  have hKh := halfUp_pos H hH
  have hKw := halfUp_pos W hW
  have hfwd := AFB2D_forward_rect_channels .periodization _ _ _ _ (Ap wr0) (Ap wr1) (Ap wc0) (Ap wc1) H W
    (afb1dOne_per_pair wr0 wr1 hLr hLre hwr W hW hfW) (afb1dOne_per_pair wc0 wc1 hLc hLce hwc H hH hfH) xs hxs
  have hbwd := AFB2D_backward_rect_channels .periodization _ _ _ _ H W (Ip wr0.reverse wr1.reverse) (Ip wc0.reverse wc1.reverse) _ _ _ _
    (synthVal_per wc0 wc1 hLc hwc _ hKh (by omega)) (synthVal_per wr0 wr1 hLr hwr _ hKw (by omega)) hKh hKw glls ghs (by omega)
    (by rw [hl1]; exact hr)
  refine ⟨_, _, _, hfwd, hbwd, ?_⟩
  intro c hc
  simp only [getD_tab, if_pos hc, if_pos (hl1 ▸ hc), List.getD_cons_zero, List.getD_cons_succ]
  exact AFB2D_per_adjoint_val wr0 wr1 wc0 wc1 hLr hLre hwr hLc hLce hwc H W hH hW hfH hfW (xs.getD c []) (glls.getD c [])
    ((ghs.getD c []).getD 0 []) ((ghs.getD c []).getD 1 []) ((ghs.getD c []).getD 2 []) (hxs c hc) (hr c hc).1
    ((hr c hc).2 0 (by decide)) ((hr c hc).2 1 (by decide)) ((hr c hc).2 2 (by decide))

end per

section synthzero
open WV.C05S
variable (gr0 gr1 gc0 gc1 : List R) (hLr : 2 ≤ gr0.length) (hgr : gr1.length = gr0.length)
    (hLc : 2 ≤ gc0.length) (hgc : gc1.length = gc0.length) (Kh Kw : Nat) (hKh : 1 ≤ Kh) (hKw : 1 ≤ Kw)
    (hfc : gc0.length ≤ 2 * Kh + 1) (hfr : gr0.length ≤ 2 * Kw + 1)

include hLr hgr hLc hgc hKh hKw hfc hfr in
/-- `SFB2D.backward` is the adjoint of `SFB2D.forward` in mode zero on every number of channels, channel by channel -/
theorem SFB2D_zero_adjoint_channels (lows dys : List (Img R)) (highs : List (List (Img R))) (hl1 : highs.length = lows.length)
    (hl2 : dys.length = lows.length)
    (hr : ∀ c < lows.length, Rect (lows.getD c []) Kh Kw ∧ ∀ k < 3, Rect ((highs.getD c []).getD k []) Kh Kw)
    (hd : ∀ c < lows.length, Rect (dys.getD c []) (Nf Kh gc0.length) (Nf Kw gr0.length)) :
    ∃ ys dlows dhighs, SFB2D_forward .zero gr0 gr1 gc0 gc1 lows highs = some ys ∧
      SFB2D_backward .zero gr0 gr1 gc0 gc1 dys = some (dlows, dhighs) ∧
      ∀ c < lows.length,
        dot2 (Nf Kh gc0.length) (Nf Kw gr0.length) (dys.getD c []) (ys.getD c [])
          = dot2 Kh Kw (dlows.getD c []) (lows.getD c []) + dot2 Kh Kw ((dhighs.getD c []).getD 0 []) ((highs.getD c []).getD 0 [])
            + dot2 Kh Kw ((dhighs.getD c []).getD 1 []) ((highs.getD c []).getD 1 [])
            + dot2 Kh Kw ((dhighs.getD c []).getD 2 []) ((highs.getD c []).getD 2 []) := by
  have hH := synthLen_pos Kh _ hLc hKh hfc
  have hW := synthLen_pos Kw _ hLr hKw hfr
  have hfwd := SFB2D_forward_rect_channels .zero gr0 gr1 gc0 gc1 (Sz gr0 gr1) (Sz gc0 gc1) Kh Kw _ _
    (synthVal_zero gc0 gc1 hLc hgc Kh hKh hfc) (synthVal_zero gr0 gr1 hLr hgr Kw hKw hfr) hKh hKw lows highs hl1 hr
  have hbwd : SFB2D_backward .zero gr0 gr1 gc0 gc1 dys
      = some (tab dys.length fun c => alongH (Az gc0) (alongW (Az gr0) (dys.getD c [])),
              tab dys.length fun c => [alongH (Az gc1) (alongW (Az gr0) (dys.getD c [])), alongH (Az gc0) (alongW (Az gr1) (dys.getD c [])),
                                      alongH (Az gc1) (alongW (Az gr1) (dys.getD c []))]) := by
    rw [SFB2D_backward_eq]
    exact AFB2D_forward_zero_channels gr0 gr1 gc0 gc1 hLr hgr hLc hgc _ _ hH hW dys (by rw [hl2]; exact hd)
  refine ⟨_, _, _, hfwd, hbwd, ?_⟩
  intro c hc
  simp only [getD_tab, if_pos hc, if_pos (hl2 ▸ hc), List.getD_cons_zero, List.getD_cons_succ]
  exact SFB2D_zero_adjoint_val gr0 gr1 gc0 gc1 hLr hgr hLc hgc Kh Kw hKh hKw hfc hfr (lows.getD c []) ((highs.getD c []).getD 0 [])
    ((highs.getD c []).getD 1 []) ((highs.getD c []).getD 2 []) (dys.getD c []) (hr c hc).1 ((hr c hc).2 0 (by decide))
    ((hr c hc).2 1 (by decide)) ((hr c hc).2 2 (by decide)) (hd c hc)

end synthzero

end WV.C07M

namespace WV.C07M
open WV WV.C04
/-- the per-channel shape hypothesis `hxs` (every channel is `Rect … H W`) of the `…_channels` theorems is satisfiable: a stack of two
2 × 2 channels -/
example : ∀ c < ([[[1, 2], [3, 4]], [[5, 6], [7, 8]]] : List (Img Int)).length,
    Rect (([[[1, 2], [3, 4]], [[5, 6], [7, 8]]] : List (Img Int)).getD c []) 2 2 := by
  intro c hc
  have : c = 0 ∨ c = 1 := by simp at hc; omega
  rcases this with rfl | rfl <;> simp [Rect]
end WV.C07M
