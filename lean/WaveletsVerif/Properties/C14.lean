/-
  C14 — separate row and column filters act on the axis they are named for.

  The module model follows the code's positional call
  `AFB2D.apply(ll, h0_row, h1_row, h0_col, h1_col, mode)`; the theorems say that
  with a 4-tuple `(h0_col, h1_col, h0_row, h1_row)` the column pair is applied
  along the vertical axis and the row pair along the horizontal one — i.e. the
  result is PyWavelets' `dwt2` with (column wavelet, row wavelet) (`DWTForwardM_level_axes`:
  one level, one channel, filter lengths ≥ 2, any mode for which `C01.ModeOK` holds) — and that a
  2-tuple uses the same pair on both axes.  `DWTInverseM_axes` is the synthesis counterpart,
  for one level: the column pair goes to the vertical synthesis, the row pair to the horizontal one.
-/
import WaveletsVerif.Properties.C01
namespace WV.C14
open WV WV.C01
variable {R : Type} [CommRing R]

/-- a 2-tuple wave is the 4-tuple that repeats it -/
theorem wave4_two (a b : List R) : wave4 [a, b] = wave4 [a, b, a, b] := rfl

theorem DWTForwardM_two_eq_four (mode : Mode) (J : Nat) (a b : List R) (x : List (Img R)) :
    DWTForwardM mode J [a, b] x = DWTForwardM mode J [a, b, a, b] x := rfl

theorem DWTInverseM_two_eq_four (mode : Mode) (a b : List R) (yl : List (Img R))
    (yh : List (Option (List (List (Img R))))) :
    DWTInverseM mode [a, b] yl yh = DWTInverseM mode [a, b, a, b] yl yh := rfl

/-- one level of `DWTForward` built from the 4-tuple `(c0, c1, r0, r1)` = (column low, column high,
row low, row high) equals `pywt.dwt2(x, (column wavelet, row wavelet))`: the column filters act
along the vertical axis, the row filters along the horizontal axis.  One channel, filter lengths ≥ 2, a mode
for which `ModeOK` holds (the 1-D analysis of that mode is `Spec.dwt`). -/
theorem DWTForwardM_level_axes (mode : Mode) (hm : ModeOK (R := R) mode) (c0 c1 r0 r1 : List R)
    (hc0 : 2 ≤ c0.length) (hc1 : 2 ≤ c1.length) (hr0 : 2 ≤ r0.length) (hr1 : 2 ≤ r1.length)
    (x : Img R) (hH : 1 ≤ x.length) (hW : ∀ r ∈ x, 1 ≤ r.length) :
    DWTForwardM mode 1 [c0, c1, r0, r1] [x]
      = some ([(Spec.dwt2 mode c0 c1 r0 r1 x).1],
              [[[(Spec.dwt2 mode c0 c1 r0 r1 x).2.1, (Spec.dwt2 mode c0 c1 r0 r1 x).2.2.1,
                 (Spec.dwt2 mode c0 c1 r0 r1 x).2.2.2]]]) := by
  simp only [DWTForwardM, wave4, Option.bind_eq_bind, Option.bind_some, DWTForward]
  rw [AFB2D_forward_eq_dwt2 mode hm c0 c1 r0 r1 hc0 hc1 hr0 hr1 x hH hW]
  rfl

/-- synthesis, one level: `DWTInverse` built from `(g0_col, g1_col, g0_row, g1_row)` hands the column pair to the
vertical synthesis and the row pair to the horizontal one (`SFB2D.forward(low, highs, g0_row, g1_row,
g0_col, g1_col)`), with no reversal of the synthesis filters -/
theorem DWTInverseM_axes (mode : Mode) (c0 c1 r0 r1 : List R) (yl : List (Img R)) (h : List (List (Img R))) :
    DWTInverseM mode [c0, c1, r0, r1] yl [some h] = DWTInverse_step mode c0 c1 r0 r1 yl (some h) := by
  simp [DWTInverseM, wave4, DWTInverse]

/-- witness that the axes matter: with different column and row filters, exchanging
them changes the result on a concrete integer image (mode zero) -/
example :
    DWTForwardM .zero 1 [[1, 1], [1, -1], [1, 2], [2, -1]] [([[1, 2], [3, 5]] : Img Int)]
      ≠ DWTForwardM .zero 1 [[1, 2], [2, -1], [1, 1], [1, -1]] [([[1, 2], [3, 5]] : Img Int)] := by
  decide

end WV.C14
