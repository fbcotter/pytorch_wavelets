/-
  C15 — calls are pure: the part that is logic.

  The only process-wide mutable state the library keeps is `COEFF_CACHE`.  Theorems:
  * invariant: every cached entry is the file's table — under every history of calls and under
    every interleaving of the atomic steps (lookup / read file / store) of any number of threads;
  * refinement to the pure specification: under the invariant every call returns
    `specOut files name keys`, a function of its arguments and the files only — independent of
    the history, of other calls and of the schedule.
  That the transforms themselves neither mutate their arguments nor depend on history is
  definitional in a functional model; on the source it rests on two facts read from the code (no `forward` assigns to
  `self`, no function writes into a parameter: `C10Z.forward_keeps_no_state_gen`, `C10Z.writes_into_parameters_gen`) and
  on the real code it is checked by the trace oracle (byte-wise argument snapshots, outputs compared with isolated
  reference calls, threads).
  Thread scheduling inside PyTorch and the GIL are runtime the model cannot exhibit (partial).
-/
import WaveletsVerif.Model.Cache
namespace WV.C15
open WV.Cache

/-- every cached entry is what the file holds -/
def Inv (files : Files) (s : State) : Prop := ∀ n t, lookup s n = some t → lookup files n = some t

theorem inv_init (files : Files) : Inv files [] := by
  intro n t h; simp [lookup] at h

theorem lookup_cons {β : Type} (n k : String) (t : β) (s : List (String × β)) :
    lookup ((n, t) :: s) k = if n == k then some t else lookup s k := by
  unfold lookup
  simp only [List.find?_cons]
  cases h : (n == k) <;> simp

theorem inv_store (files : Files) (s : State) (n : String) (t : Table) (hi : Inv files s)
    (hf : lookup files n = some t) : Inv files ((n, t) :: s) := by
  intro k u h
  rw [lookup_cons] at h
  by_cases hk : (n == k) = true
  · simp only [hk, if_true, Option.some.injEq] at h
    have : n = k := by simpa using hk
    subst this; subst h; exact hf
  · simp only [hk] at h
    exact hi k u (by simpa using h)

/-- one call preserves the invariant and returns the pure specification's answer -/
theorem load_spec (files : Files) (s : State) (n : String) (ks : List String) (hi : Inv files s) :
    Inv files (load files s n ks).1 ∧ (load files s n ks).2 = specOut files n ks := by
  unfold load specOut
  cases hs : lookup s n with
  | some t =>
    have := hi n t hs
    simp [this, hi]
  | none =>
    cases hf : lookup files n with
    | none => simp [hi]
    | some t => exact ⟨inv_store files s n t hi hf, by simp⟩

/-- every history: invariant preserved, and each output is the specification's, i.e. the result of a
call does not depend on what was called before -/
theorem run_spec (files : Files) (h : List (String × List String)) (s : State) (hi : Inv files s) :
    Inv files (run files s h).1 ∧ (run files s h).2 = h.map (fun c => specOut files c.1 c.2) := by
  induction h generalizing s with
  | nil => simp [run, hi]
  | cons c rest ih =>
    obtain ⟨n, ks⟩ := c
    have h1 := load_spec files s n ks hi
    simp only [run]
    have h2 := ih (load files s n ks).1 h1.1
    exact ⟨h2.1, by simp [h1.2, h2.2]⟩

/-- thread-local consistency: whatever a thread has read or concluded agrees with the files -/
def TOk (files : Files) (th : Thread) : Prop :=
  match th.pc with
  | .start => True
  | .read => True
  | .store t => lookup files th.name = some t
  | .done o => o = specOut files th.name th.keys

/-- one atomic step of any thread preserves the cache invariant and the thread's consistency -/
theorem tstep_ok (files : Files) (s : State) (th : Thread) (hi : Inv files s) (ht : TOk files th) :
    Inv files (tstep files s th).1 ∧ TOk files (tstep files s th).2 ∧
      (tstep files s th).2.name = th.name ∧ (tstep files s th).2.keys = th.keys := by
  unfold tstep
  cases hp : th.pc with
  | start =>
    cases hs : lookup s th.name with
    | some t =>
      have := hi th.name t hs
      simp [TOk, specOut, this, hi]
    | none => simp [TOk, hi]
  | read =>
    cases hf : lookup files th.name with
    | none => simp [TOk, specOut, hf, hi]
    | some t => simp [TOk, hf, hi]
  | store t =>
    have hf : lookup files th.name = some t := by simpa [TOk, hp] using ht
    exact ⟨inv_store files s th.name t hi hf, by simp [TOk, specOut, hf], rfl, rfl⟩
  | done o =>
    have : o = specOut files th.name th.keys := by simpa [TOk, hp] using ht
    simp [TOk, this, hi]

/-- every interleaving of the atomic steps of any number of threads: the cache invariant holds
throughout and every finished thread holds exactly the specification's answer for its own
arguments — concurrent callers cannot influence each other's results -/
theorem sched_ok (files : Files) (schedule : List Nat) (s : State) (ths : List Thread)
    (hi : Inv files s) (ht : ∀ th ∈ ths, TOk files th) :
    Inv files (sched files s ths schedule).1 ∧ ∀ th ∈ (sched files s ths schedule).2, TOk files th := by
  induction schedule generalizing s ths with
  | nil => exact ⟨hi, ht⟩
  | cons i rest ih =>
    simp only [sched]
    cases hth : ths[i]? with
    | none => exact ih s ths hi ht
    | some th =>
      have hmem : th ∈ ths := List.mem_of_getElem? hth
      have h1 := tstep_ok files s th hi (ht th hmem)
      apply ih _ _ h1.1
      intro u hu
      rcases List.mem_or_eq_of_mem_set hu with h | h
      · exact ht u h
      · rw [h]; exact h1.2.1

/-- a concrete history from the empty cache (`inv_init`) with a repeated, an unknown and a bad-key call: the outputs of `run` -/
example :
    (run [("qshift_a", [("h0a", 1), ("h0b", 2)])] []
      [("qshift_a", ["h0a"]), ("nope", ["h0a"]), ("qshift_a", ["h0a", "zz"]), ("qshift_a", ["h0b", "h0a"])]).2
    = [.ok [1], .ioError, .valueError, .ok [2, 1]] := by decide

end WV.C15
