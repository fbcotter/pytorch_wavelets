/-
  C07 — the transforms are linear and act per (batch, channel) slice.  This file: `afb1d` (lowlevel.py),
  one analysis step along one axis, in every padding mode, and the calculus the other C07 files use.

  * Linearity.  `Lin F` says that `F : List R → List R` commutes with `lincomb a b x y = a·x + b·y` on equally
    long lists and that its output length depends on the input length only.  Every step of `afb1d` (gather
    through an index vector, zero padding, Python slices, `torch.roll`, strided correlation, the fold-back of
    mode periodization) is `Lin`, `Lin` is closed under composition, append and case splits on the length,
    and the model's `afb1dOne` is "guard on the lengths, then such a composite" (`GuardedLin`): it maps
    `a·x + b·y` to `a·T x + b·T y` and raises iff it raises on `x` (`afb1dOne_linear`).
  * Per channel.  The grouped convolution with the code's weight `cat([h0,h1]*C)`, `groups=C`, applies the
    same pair of one-channel operators to every channel: output channel `2c+b` is filter `b` applied to
    input channel `c`, whatever `C` is (`afb1dT_per_channel`, `afb1dT_total`; the list fact behind it is
    `grouped_pair_eq` of Lemmas/Lift.lean).
-/
import WaveletsVerif.Lemmas.Lift
namespace WV.C07
open Finset WV
variable {R : Type} [CommRing R]

def lincomb (a b : R) (x y : List R) : List R := tab x.length fun i => a * getN x i + b * getN y i

@[simp] theorem lincomb_length (a b : R) (x y : List R) : (lincomb a b x y).length = x.length := by
  simp [lincomb]

theorem getN_lincomb (a b : R) (x y : List R) (hxy : x.length = y.length) (i : Nat) :
    getN (lincomb a b x y) i = a * getN x i + b * getN y i := by
  unfold lincomb
  rw [getN_tab]
  split
  · rfl
  · rename_i hlt
    rw [getN_of_le x i (by omega), getN_of_le y i (by omega)]; ring

theorem getZ_lincomb (a b : R) (x y : List R) (hxy : x.length = y.length) (t : Int) :
    getZ (lincomb a b x y) t = a * getZ x t + b * getZ y t := by
  unfold getZ
  split
  · exact getN_lincomb a b x y hxy _
  · ring

theorem sumN_lincomb (n : Nat) (a b : R) (f g : Nat → R) :
    sumN n (fun k => a * f k + b * g k) = a * sumN n f + b * sumN n g := by
  rw [sumN_eq, sumN_eq, sumN_eq, Finset.sum_add_distrib, Finset.mul_sum, Finset.mul_sum]

theorem sumN_getZ_lincomb (a b : R) (x y : List R) (hxy : x.length = y.length) (n : Nat) (c : Nat → R) (t : Nat → Int) :
    sumN n (fun j => c j * getZ (lincomb a b x y) (t j))
      = a * sumN n (fun j => c j * getZ x (t j)) + b * sumN n (fun j => c j * getZ y (t j)) := by
  rw [← sumN_lincomb]
  congr 1; funext j
  rw [getZ_lincomb a b x y hxy]; ring

/-- `afb1d` on a stack of `C` channels: the result has `2C` channels, channel `2c` is the low-pass
filter applied to input channel `c` alone, channel `2c+1` the high-pass filter applied to input
channel `c` alone — the same two one-channel operators for every `c` and every `C`. -/
theorem afb1dT_per_channel (ax : Axis) (mode : Mode) (w0 w1 : List R) (x y : List (Img R))
    (h : afb1dT ax mode w0 w1 x = some y) :
    y.length = 2 * x.length ∧ ∀ c < x.length,
      alongO ax (afb1dOne mode w0) (x.getD c []) = some (y.getD (2*c) []) ∧
      alongO ax (afb1dOne mode w1) (x.getD c []) = some (y.getD (2*c+1) []) := by
  unfold afb1dT at h
  have hm := mapM_id_some _ _ h
  rw [grouped_pair_eq] at hm
  have hlen : y.length = 2 * x.length := by
    have := congrArg List.length hm
    rw [length_tab, List.length_map] at this
    exact this.symm
  refine ⟨hlen, ?_⟩
  intro c hc
  have elem : ∀ o < 2 * x.length,
      alongO ax (afb1dOne mode (if o % 2 = 0 then w0 else w1)) (x.getD (o / 2) []) = some (y.getD o []) := by
    intro o ho
    have e1 := congrArg (fun l => l.getD o none) hm
    simp only [getD_tab, ho, if_true] at e1
    exact e1.trans (getD_map_lt some y o (by omega) [] none)
  obtain ⟨⟨a1, a2, a3⟩, b1, b2, b3⟩ := interleave_index c x.length hc
  have e0 := elem (2*c) a1
  have e1 := elem (2*c+1) b1
  rw [if_pos a2, a3] at e0
  rw [if_neg (by rw [b2]; exact one_ne_zero), b3] at e1
  exact ⟨e0, e1⟩

/-- constructive form of the per-channel statement, for every channel count `C`: if the two one-channel
operators return on every channel, `afb1d` on the stack returns exactly their results interleaved
(`[lo₀, hi₀, lo₁, hi₁, …]`) — nothing else enters an output channel. -/
theorem afb1dT_total (ax : Axis) (mode : Mode) (w0 w1 : List R) (x : List (Img R)) (g0 g1 : Img R → Img R)
    (h : ∀ c < x.length, alongO ax (afb1dOne mode w0) (x.getD c []) = some (g0 (x.getD c [])) ∧
                         alongO ax (afb1dOne mode w1) (x.getD c []) = some (g1 (x.getD c []))) :
    afb1dT ax mode w0 w1 x
      = some (tab (2 * x.length) fun o => if o % 2 = 0 then g0 (x.getD (o/2) []) else g1 (x.getD (o/2) [])) := by
  exact grouped_pair_total (fun w ch => alongO ax (afb1dOne mode w) ch) w0 w1 x g0 g1 h

/-- `F` is linear on lists: it maps `a·x + b·y` to `a·F x + b·F y` for equally long `x, y`, and its output
length depends on the input length only -/
def Lin (F : List R → List R) : Prop :=
  ∀ (a b : R) (x y : List R), x.length = y.length →
    F (lincomb a b x y) = lincomb a b (F x) (F y) ∧ (F x).length = (F y).length

theorem Lin.comp {F G : List R → List R} (hF : Lin F) (hG : Lin G) : Lin (fun x => F (G x)) := by
  intro a b x y hxy
  obtain ⟨g1, g2⟩ := hG a b x y hxy
  obtain ⟨f1, f2⟩ := hF a b (G x) (G y) g2
  exact ⟨by show F (G (lincomb a b x y)) = lincomb a b (F (G x)) (F (G y)); rw [g1, f1], f2⟩

theorem Lin.of_tab {F : List R → List R} (len : Nat → Nat) (φ : List R → Nat → R) (hF : ∀ x, F x = tab (len x.length) (φ x))
    (hφ : ∀ (a b : R) (x y : List R), x.length = y.length → ∀ i, φ (lincomb a b x y) i = a * φ x i + b * φ y i) : Lin F := by
  intro a b x y hxy
  have hl : (F x).length = (F y).length := by rw [hF, hF, length_tab, length_tab, hxy]
  refine ⟨?_, hl⟩
  apply list_ext_getN
  · rw [hF, length_tab, lincomb_length, lincomb_length, hF, length_tab]
  · intro i _
    rw [getN_lincomb a b _ _ hl, hF, hF x, hF y, getN_tab, getN_tab, getN_tab, lincomb_length, ← hxy]
    split
    · exact hφ a b x y hxy i
    · ring

theorem lin_corr (w : List R) (s d : Nat) : Lin (fun x : List R => corr w x s d) := by
  refine Lin.of_tab (fun n => corrLen n w.length s d) _ (fun _ => rfl) ?_
  intro a b x y hxy k
  rw [← sumN_lincomb]
  congr 1; funext j
  rw [getN_lincomb a b x y hxy]; ring

theorem corr_linear (w x y : List R) (a b : R) (s d : Nat) (hxy : x.length = y.length) :
    corr w (lincomb a b x y) s d = lincomb a b (corr w x s d) (corr w y s d) := by
  exact (lin_corr w s d a b x y hxy).1

theorem lin_padIdx (idx : Int → Int → Int) (l r : Nat) : Lin (fun x : List R => padIdx idx x l r) := by
  refine Lin.of_tab (fun n => l + n + r) (fun x i => getZ x (idx x.length ((i:Int) - l))) (fun _ => rfl) ?_
  intro a b x y hxy i
  rw [lincomb_length, getZ_lincomb a b x y hxy, hxy]

/-- gathering through an index vector (symmetric / reflect / periodic padding) is linear -/
theorem padIdx_linear (idx : Int → Int → Int) (x y : List R) (a b : R) (l r : Nat) (hxy : x.length = y.length) :
    padIdx idx (lincomb a b x y) l r = lincomb a b (padIdx idx x l r) (padIdx idx y l r) := by
  exact (lin_padIdx idx l r a b x y hxy).1

theorem lin_zeroPad (l r : Nat) : Lin (fun x : List R => zeroPad x l r) := lin_padIdx (fun _ i => i) l r

theorem lin_take (n : Nat) : Lin (fun x : List R => x.take n) := by
  intro a b x y hxy
  refine ⟨?_, by simp [hxy]⟩
  apply list_ext_getN
  · simp [hxy]
  · intro i hi
    simp at hi
    rw [getN_take _ _ _ hi.1, getN_lincomb a b x y hxy, getN_lincomb a b _ _ (by simp [hxy]), getN_take _ _ _ hi.1, getN_take _ _ _ hi.1]

theorem lin_drop (n : Nat) : Lin (fun x : List R => x.drop n) := by
  intro a b x y hxy
  refine ⟨?_, by simp [hxy]⟩
  apply list_ext_getN
  · simp [hxy]
  · intro i _
    rw [getN_drop, getN_lincomb a b x y hxy, getN_lincomb a b _ _ (by simp [hxy]), getN_drop, getN_drop]

theorem Lin.append {F G : List R → List R} (hF : Lin F) (hG : Lin G) : Lin (fun x => F x ++ G x) := by
  intro a b x y hxy
  obtain ⟨f1, f2⟩ := hF a b x y hxy
  obtain ⟨g1, g2⟩ := hG a b x y hxy
  refine ⟨?_, by simp [f2, g2]⟩
  simp only [f1, g1]
  apply list_ext_getN
  · simp [f2, g2]
  · intro i _
    rw [getN_append, getN_lincomb a b (F x ++ G x) (F y ++ G y) (by simp [f2, g2]), getN_append, getN_append, lincomb_length, f2]
    split
    · rw [getN_lincomb a b _ _ f2]
    · rw [getN_lincomb a b _ _ g2]

theorem Lin.ite_len {F G : List R → List R} (c : Nat → Prop) [DecidablePred c] (hF : Lin F) (hG : Lin G) :
    Lin (fun x => if c x.length then F x else G x) := by
  intro a b x y hxy
  simp only [lincomb_length, hxy]
  by_cases hc : c y.length
  · simp only [hc, if_true]; exact hF a b x y hxy
  · simp only [hc, if_false]; exact hG a b x y hxy

theorem Lin.dep {P : Type} (p : Nat → P) (F : P → List R → List R) (hF : ∀ q, Lin (F q)) :
    Lin (fun x => F (p x.length) x) := by
  intro a b x y hxy
  simp only [lincomb_length, hxy]
  exact hF (p y.length) a b x y hxy

theorem lin_dropLast : Lin (fun r : List R => r.take (r.length - 1)) :=
  Lin.dep (fun n => n - 1) (fun q x => x.take q) (fun q => lin_take q)

theorem lin_id : Lin (fun x : List R => x) := fun _ _ _ _ hxy => ⟨rfl, hxy⟩

theorem lin_foldAdd (p q : Nat) : Lin (fun x : List R => foldAdd x p q) := by
  refine Lin.of_tab (fun n => n) _ (fun _ => rfl) ?_
  intro a b x y hxy i
  rw [getN_lincomb a b x y hxy, getN_lincomb a b x y hxy]
  split <;> ring

theorem lin_const_ite (c : Prop) [Decidable c] {F G : List R → List R} (hF : Lin F) (hG : Lin G) :
    Lin (fun x => if c then F x else G x) := by
  by_cases hc : c
  · simp only [hc, if_true]; exact hF
  · simp only [hc, if_false]; exact hG

/-- an operator of the shape "guard on the length, then a linear map" -/
def GuardedLin (T : List R → Option (List R)) : Prop :=
  ∃ (g : Nat → Bool) (F : List R → List R), Lin F ∧ ∀ x, T x = if g x.length then some (F x) else none

theorem GuardedLin.linear {T : List R → Option (List R)} (hT : GuardedLin T) (a b : R) (x y : List R)
    (hxy : x.length = y.length) :
    T (lincomb a b x y) = (T x).bind fun u => (T y).bind fun v => some (lincomb a b u v) := by
  obtain ⟨g, F, hF, hT⟩ := hT
  rw [hT, hT x, hT y, lincomb_length, ← hxy]
  by_cases hg : g x.length
  · simp only [hg, if_true, Option.bind_some]
    rw [(hF a b x y hxy).1]
  · simp [hg]

theorem lin_sliceFrom (p : Int) : Lin (fun x : List R => sliceFrom x p) := by
  unfold sliceFrom
  exact Lin.dep (fun n => pyBound n p) (fun q x => x.drop q) (fun q => lin_drop q)

theorem lin_sliceTo (p : Int) : Lin (fun x : List R => sliceTo x p) := by
  unfold sliceTo
  exact Lin.dep (fun n => pyBound n p) (fun q x => x.take q) (fun q => lin_take q)

theorem lin_slice (p q : Int) : Lin (fun x : List R => slice x p q) := by
  unfold slice
  exact Lin.dep (fun n => (pyBound n q, pyBound n p)) (fun pq x => (x.take pq.1).drop pq.2)
    (fun pq => (lin_drop pq.2).comp (lin_take pq.1))

/-- `r ↦ r ++ r[-1:]` (repeat the last sample) -/
theorem lin_appendLast : Lin (fun r : List R => r ++ sliceFrom r (-1)) := Lin.append lin_id (lin_sliceFrom (-1))

/-- `torch.roll` by any shift: the split point depends on the length only -/
theorem lin_rollPy (k : Int) : Lin (fun x : List R => rollPy x k) := by
  unfold rollPy
  exact Lin.append
    (Lin.dep (fun n => -(if k < 0 then (n:Int) + k else k)) (fun p x => sliceFrom x p) lin_sliceFrom)
    (Lin.dep (fun n => -(if k < 0 then (n:Int) + k else k)) (fun p x => sliceTo x p) lin_sliceTo)

/-- the way the model writes a guarded operator: `none` on the refused lengths -/
theorem GuardedLin.of_not {T : List R → Option (List R)} (bad : Nat → Prop) [DecidablePred bad] {F : List R → List R} (hF : Lin F)
    (hT : ∀ x, T x = if bad x.length then none else some (F x)) : GuardedLin T := by
  refine ⟨fun n => !(decide (bad n)), F, hF, fun x => ?_⟩
  rw [hT]
  by_cases h : bad x.length <;> simp [h]

theorem GuardedLin.of_not_and {T : List R → Option (List R)} (bad ok : Nat → Prop) [DecidablePred bad] [DecidablePred ok]
    {F : List R → List R} (hF : Lin F)
    (hT : ∀ x, T x = if bad x.length then none else if ok x.length then some (F x) else none) : GuardedLin T := by
  refine ⟨fun n => !(decide (bad n)) && decide (ok n), F, hF, fun x => ?_⟩
  rw [hT]
  by_cases h : bad x.length <;> by_cases h2 : ok x.length <;> simp [h, h2]

theorem GuardedLin.of_none {T : List R → Option (List R)} (hT : ∀ x, T x = none) : GuardedLin T :=
  ⟨fun _ => false, fun x => x, lin_id, fun x => by rw [hT]; rfl⟩

/-- the index-vector modes: gather through `idx` with the pad `p = 2 (⌊(N + L − 1)/2⌋ − 1) + L − N`, then correlate -/
theorem lin_afbIdx (w : List R) (idx : Int → Int → Int) :
    Lin (fun x : List R => corr w (padIdx idx x ((2 * (dwtCoeffLen x.length w.length - 1) + w.length - x.length)/2)
      ((2 * (dwtCoeffLen x.length w.length - 1) + w.length - x.length + 1)/2)) 2 1) :=
  Lin.dep (fun n => 2 * (dwtCoeffLen n w.length - 1) + w.length - n)
    (fun p x => corr w (padIdx idx x (p/2) ((p+1)/2)) 2 1)
    (fun p => (lin_corr w 2 1).comp (lin_padIdx idx (p/2) ((p+1)/2)))

/-- each `(fun _ => rfl)` below is a check by unfolding: the model's `afb1dOne` in that mode is, definitionally,
the guard followed by the composite of linear steps given just before it -/
theorem afb1dOne_guardedLin (m : Mode) (w : List R) : GuardedLin (afb1dOne m w) := by
  cases m with
  | zero =>
    exact GuardedLin.of_not (fun n => w.length < 2 ∨ n < 1)
      (Lin.dep (fun n => 2 * (dwtCoeffLen n w.length - 1) + w.length - n)
        (fun p x => corr w (zeroPad (if p % 2 = 1 then zeroPad x 0 1 else x) (p/2) (p/2)) 2 1)
        (fun p => (lin_corr w 2 1).comp ((lin_zeroPad (p/2) (p/2)).comp (lin_const_ite _ (lin_zeroPad 0 1) lin_id))))
      (fun _ => rfl)
  | symmetric => exact GuardedLin.of_not (fun n => w.length < 2 ∨ n < 1) (lin_afbIdx w symIdx) (fun _ => rfl)
  | periodic => exact GuardedLin.of_not (fun n => w.length < 2 ∨ n < 1) (lin_afbIdx w perIdx) (fun _ => rfl)
  | reflect =>
    exact GuardedLin.of_not_and (fun n => w.length < 2 ∨ n < 1)
      (fun n => (2 * (dwtCoeffLen n w.length - 1) + w.length - n)/2 < n ∧ (2 * (dwtCoeffLen n w.length - 1) + w.length - n + 1)/2 < n)
      (lin_afbIdx w reflIdx) (fun _ => rfl)
  | periodization =>
    -- repeat the last sample of an odd-length signal, roll, correlate with full zero padding, fold the tail back, crop
    have hG : Lin (fun x1 : List R =>
        (foldAdd (corr w (zeroPad (rollPy x1 (-((w.length/2 : Nat) : Int))) (w.length-1) (w.length-1)) 2 1) (w.length/2) (x1.length/2)).take (x1.length/2)) :=
      Lin.dep (fun n => n / 2)
        (fun N2 x1 => (foldAdd (corr w (zeroPad (rollPy x1 (-((w.length/2 : Nat) : Int))) (w.length-1) (w.length-1)) 2 1) (w.length/2) N2).take N2)
        (fun N2 => (lin_take N2).comp ((lin_foldAdd (w.length/2) N2).comp ((lin_corr w 2 1).comp ((lin_zeroPad _ _).comp (lin_rollPy _)))))
    have hpre : Lin (fun x : List R => if x.length % 2 = 1 then x ++ sliceFrom x (-1) else x) :=
      Lin.ite_len (fun n => n % 2 = 1) lin_appendLast lin_id
    exact GuardedLin.of_not (fun n => w.length < 2 ∨ n < 1) (hG.comp hpre) (fun _ => rfl)
  | _ =>
    refine GuardedLin.of_none (fun x => ?_)
    unfold afb1dOne
    by_cases hg : w.length < 2 ∨ x.length < 1 <;> simp [hg]

/-- `afb1d` is linear in every padding mode (zero, symmetric, reflect, periodic, periodization), for every
filter buffer, signal length and pair of scalars; whether it raises depends on the lengths only. -/
theorem afb1dOne_linear (m : Mode) (w x y : List R) (a b : R) (hxy : x.length = y.length) :
    afb1dOne m w (lincomb a b x y)
      = (afb1dOne m w x).bind fun u => (afb1dOne m w y).bind fun v => some (lincomb a b u v) :=
  (afb1dOne_guardedLin m w).linear a b x y hxy

/-! In the index-vector modes the linear map is explicit; mode `symmetric` as the instance. -/

/-- the value `afb1d` computes in mode `symmetric` for one filter -/
def afbSymVal (w x : List R) : List R :=
  let p := 2 * (dwtCoeffLen x.length w.length - 1) + w.length - x.length
  corr w (padIdx symIdx x (p/2) ((p+1)/2)) 2 1

theorem afb1dOne_symmetric_val (w x : List R) (hL : 2 ≤ w.length) (hN : 1 ≤ x.length) :
    afb1dOne .symmetric w x = some (afbSymVal w x) := by
  have g1 : ¬ (w.length < 2 ∨ x.length < 1) := by omega
  simp only [afb1dOne, afbSymVal, g1, if_false]

/-- for every size `≥ 1` and filter of length `≥ 2`: `T(a·x + b·y) = a·T(x) + b·T(y)`, and the call does not raise -/
theorem afb1dOne_symmetric_linear (w x y : List R) (a b : R) (hL : 2 ≤ w.length) (hN : 1 ≤ x.length)
    (hxy : x.length = y.length) :
    afb1dOne .symmetric w (lincomb a b x y) = some (lincomb a b (afbSymVal w x) (afbSymVal w y)) := by
  rw [afb1dOne_linear _ _ _ _ _ _ hxy, afb1dOne_symmetric_val w x hL hN, afb1dOne_symmetric_val w y hL (hxy ▸ hN)]
  rfl

end WV.C07
