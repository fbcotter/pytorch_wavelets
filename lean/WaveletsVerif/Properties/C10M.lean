/-
  C10 / C07 / C14 — the 2-D synthesis on ANY number of channels.  One level: `SFB2D.forward` on stacks of `C` low-pass
  images and `C` triples of band-pass images returns, channel by channel, PyWavelets' `idwt2` of that channel with
  (column wavelet, row wavelet).  J levels: `DWTInverse` on a stack (`None` levels, the un-pad decided by the channels'
  common shape) returns, channel by channel, PyWavelets' `waverec2` of that channel alone
  (`DWTInverse_multi_eq_waverec2`).  Padded modes (zero / symmetric / reflect / periodic), every band size and all filter
  lengths that fit, under the shape invariant `CompatM`.
-/
import WaveletsVerif.Properties.C10
import WaveletsVerif.Properties.C07M
namespace WV.C10M
open WV WV.C10 WV.C07M
variable {R : Type} [CommRing R]

theorem SFB2D_forward_multi (m : Mode) (hm : ModeS m) (gc0 gc1 gr0 gr1 : List R)
    (hLc : 2 ≤ gc0.length) (hgc : gc1.length = gc0.length) (hLr : 2 ≤ gr0.length) (hgr : gr1.length = gr0.length)
    (lows : List (Img R)) (highs : List (List (Img R))) (hlen : highs.length = lows.length) (h w : Nat) (hh : 1 ≤ h) (hw : 1 ≤ w)
    (hs : ∀ c < lows.length, ((lows.getD c []).length = h ∧ (lows.getD c []).width = w) ∧
      ∀ k < 3, (((highs.getD c []).getD k []).length = h ∧ ((highs.getD c []).getD k []).width = w))
    (hfitc : 2 * (gc0.length - 2) + 1 ≤ 2 * (h - 1) + gc0.length)
    (hfitr : 2 * (gr0.length - 2) + 1 ≤ 2 * (w - 1) + gr0.length) :
    SFB2D_forward m gr0 gr1 gc0 gc1 lows highs
      = some (tab lows.length fun c => Spec.idwt2 m gc0 gc1 gr0 gr1 (lows.getD c []) ((highs.getD c []).getD 0 [])
          ((highs.getD c []).getD 1 []) ((highs.getD c []).getD 2 [])) := by
  have hS := synthOK_padded (R := R) m hm
  have key : ∀ (a b : Img R), (a.length = h ∧ a.width = w) → (b.length = h ∧ b.width = w) →
      sfb1dImg .H m gc0 gc1 a b = some (tr (Spec.zip2 (Spec.idwt m gc0 gc1) (tr a) (tr b))) := by
    intro a b sa sb
    exact sfb1dImg_H hS gc0 gc1 hLc hgc a b (by omega) (by omega) (by omega) (by rw [sa.1]; exact hfitc)
  rw [SFB2D_forward_channels m gr0 gr1 gc0 gc1 lows highs hlen
    (fun a b => tr (Spec.zip2 (Spec.idwt m gc0 gc1) (tr a) (tr b))) (fun lo hi => Spec.zip2 (Spec.idwt m gr0 gr1) lo hi)
    (fun c hc => key _ _ (hs c hc).1 ((hs c hc).2 0 (by omega)))
    (fun c hc => key _ _ ((hs c hc).2 1 (by omega)) ((hs c hc).2 2 (by omega)))
    (fun c hc => sfb1dImg_W_cols hS gc0 gc1 gr0 gr1 hLr hgr _ _ _ _ h w hw (hs c hc).1 ((hs c hc).2 1 (by omega)) hfitr)]
  rfl

/-- shapes of a level on a stack: all channels share one approximation shape `(A, B)` (the band shape `(h, w)` or one more per
axis), and every channel's three bands have shape `(h, w)` -/
def StepOKM (gc0 gr0 : List R) (as : List (Img R)) (d : Option (List (List (Img R)))) : Prop :=
  ∃ h w A B : Nat, 1 ≤ h ∧ 1 ≤ w ∧ (A = h ∨ A = h + 1) ∧ (B = w ∨ B = w + 1) ∧
    2 * (gc0.length - 2) + 1 ≤ 2 * (h - 1) + gc0.length ∧ 2 * (gr0.length - 2) + 1 ≤ 2 * (w - 1) + gr0.length ∧
    1 ≤ as.length ∧ (∀ c < as.length, Shape (as.getD c []) A B) ∧
    match d with
    | some v => v.length = as.length ∧ ∀ c < as.length, ∃ cH cV cD, v.getD c [] = [cH, cV, cD] ∧ Shape cH h w ∧ Shape cV h w ∧ Shape cD h w
    | none => A = h ∧ B = w

/-- the specification's level step on a stack: channel by channel -/
def stepM (m : Mode) (gc0 gc1 gr0 gr1 : List R) (as : List (Img R)) (d : Option (List (List (Img R)))) : List (Img R) :=
  tab as.length fun c => stepS2 m gc0 gc1 gr0 gr1 (as.getD c []) (d.map fun v => v.getD c [])

theorem step_eqM (m : Mode) (hm : ModeS m) (gc0 gc1 gr0 gr1 : List R)
    (hLc : 2 ≤ gc0.length) (hgc : gc1.length = gc0.length) (hLr : 2 ≤ gr0.length) (hgr : gr1.length = gr0.length)
    (as : List (Img R)) (d : Option (List (List (Img R)))) (hok : StepOKM gc0 gr0 as d) :
    DWTInverse_step m gc0 gc1 gr0 gr1 as d = some (stepM m gc0 gc1 gr0 gr1 as d) := by
  obtain ⟨h, w, A, B, hh, hw, hA, hB, hfc, hfr, hC, hsa, hd⟩ := hok
  have hband : ∀ {cH cV cD : Img R} (k : Nat), k < 3 → Shape cH h w → Shape cV h w → Shape cD h w →
      Shape (([cH, cV, cD] : List (Img R)).getD k []) h w := by
    intro cH cV cD k hk sH sV sD
    have hk3 : k = 0 ∨ k = 1 ∨ k = 2 := by omega
    rcases hk3 with rfl | rfl | rfl
    · exact sH
    · exact sV
    · exact sD
  cases d with
  | some v =>
    obtain ⟨hvl, hv⟩ := hd
    obtain ⟨cH0, cV0, cD0, e0, sH0, _, _⟩ := hv 0 (by omega)
    rw [DWTInverse_step_some m gc0 gc1 gr0 gr1 as v h w A B hh hA hB hC hsa (by rw [e0]; exact sH0)]
    have hl : (tab as.length fun c => unpad (as.getD c []) h w).length = as.length := length_tab _ _
    rw [SFB2D_forward_multi m hm gc0 gc1 gr0 gr1 hLc hgc hLr hgr _ v (by rw [hl]; exact hvl) h w hh hw (by
      intro c hc
      rw [hl] at hc
      rw [getD_tab, if_pos hc]
      obtain ⟨cH, cV, cD, e, sH, sV, sD⟩ := hv c hc
      refine ⟨unpad_shape _ h w hh (by rw [(hsa c hc).1]; exact hA) (by rw [(hsa c hc).2]; exact hB), ?_⟩
      intro k hk
      rw [e]
      exact hband k hk sH sV sD) hfc hfr]
    rw [hl]
    refine congrArg some ?_
    unfold stepM
    apply tab_ext rfl; intro c hc
    rw [getD_tab, if_pos hc]
    obtain ⟨cH, cV, cD, e, sH, sV, sD⟩ := hv c hc
    rw [Option.map_some, e, stepS2_some m gc0 gc1 gr0 gr1 _ cH cV cD h w sH]
    rfl
  | none =>
    obtain ⟨hAh, hBw⟩ := hd
    subst hAh hBw
    have sz := izero_shape (R := R) A B hh
    rw [DWTInverse_step_none m gc0 gc1 gr0 gr1 as A B hh hC (hsa 0 (by omega))]
    have hgz : ∀ c < as.length, (as.map fun _ => ([izero A B, izero A B, izero A B] : List (Img R))).getD c [] = [izero A B, izero A B, izero A B] :=
      fun c hc => getD_map_lt _ as c hc [] []
    rw [SFB2D_forward_multi m hm gc0 gc1 gr0 gr1 hLc hgc hLr hgr as _ (by simp) A B hh hw (by
      intro c hc
      refine ⟨hsa c hc, ?_⟩
      intro k hk
      rw [hgz c hc]
      exact hband k hk sz sz sz) hfc hfr]
    refine congrArg some ?_
    unfold stepM
    apply tab_ext rfl; intro c hc
    rw [hgz c hc, Option.map_none, stepS2_none m gc0 gc1 gr0 gr1 _ A B hh (hsa c hc)]
    rfl

def CompatM (m : Mode) (gc0 gc1 gr0 gr1 : List R) : List (Img R) → List (Option (List (List (Img R)))) → Prop
  | _, [] => True
  | as, d :: rest => StepOKM gc0 gr0 as d ∧ CompatM m gc0 gc1 gr0 gr1 (stepM m gc0 gc1 gr0 gr1 as d) rest

/-- the model of `DWTInverse` on a stack of `C` channels is the channel-wise level step, folded coarse to fine -/
theorem DWTInverse_multi (m : Mode) (hm : ModeS m) (gc0 gc1 gr0 gr1 : List R)
    (hLc : 2 ≤ gc0.length) (hgc : gc1.length = gc0.length) (hLr : 2 ≤ gr0.length) (hgr : gr1.length = gr0.length)
    (as : List (Img R)) (ds : List (Option (List (List (Img R))))) (hc : CompatM m gc0 gc1 gr0 gr1 as ds.reverse) :
    DWTInverse m gc0 gc1 gr0 gr1 as ds = some (ds.reverse.foldl (stepM m gc0 gc1 gr0 gr1) as) := by
  unfold DWTInverse
  have := foldlM_sim (fun ll h => DWTInverse_step m gc0 gc1 gr0 gr1 ll h) (stepM m gc0 gc1 gr0 gr1) id id
    (CompatM m gc0 gc1 gr0 gr1)
    (fun as d _ hc => ⟨step_eqM m hm gc0 gc1 gr0 gr1 hLc hgc hLr hgr as d hc.1, hc.2⟩) ds.reverse as hc
  rwa [List.map_id] at this

theorem stepM_length (m : Mode) (gc0 gc1 gr0 gr1 : List R) (as : List (Img R)) (d : Option (List (List (Img R)))) :
    (stepM m gc0 gc1 gr0 gr1 as d).length = as.length :=
  length_tab _ _

theorem getD_stepM (m : Mode) (gc0 gc1 gr0 gr1 : List R) (as : List (Img R)) (d : Option (List (List (Img R))))
    (c : Nat) (hc : c < as.length) :
    (stepM m gc0 gc1 gr0 gr1 as d).getD c [] = stepS2 m gc0 gc1 gr0 gr1 (as.getD c []) (d.map fun v => v.getD c []) := by
  unfold stepM
  rw [getD_tab, if_pos hc]

theorem foldl_stepM_length (m : Mode) (gc0 gc1 gr0 gr1 : List R) (rs : List (Option (List (List (Img R))))) :
    ∀ as : List (Img R), (rs.foldl (stepM m gc0 gc1 gr0 gr1) as).length = as.length := by
  induction rs with
  | nil => intro as; rfl
  | cons d rest ih => intro as; rw [List.foldl_cons, ih, stepM_length]

theorem foldl_stepM_channel (m : Mode) (gc0 gc1 gr0 gr1 : List R) (rs : List (Option (List (List (Img R))))) :
    ∀ (as : List (Img R)) (c : Nat), c < as.length →
      (rs.foldl (stepM m gc0 gc1 gr0 gr1) as).getD c []
        = (rs.map fun d => d.map fun v => v.getD c []).foldl (stepS2 m gc0 gc1 gr0 gr1) (as.getD c []) := by
  induction rs with
  | nil => intro as c hc; rfl
  | cons d rest ih =>
    intro as c hc
    rw [List.foldl_cons, List.map_cons, List.foldl_cons,
      ih (stepM m gc0 gc1 gr0 gr1 as d) c (by rw [stepM_length]; exact hc), getD_stepM m gc0 gc1 gr0 gr1 as d c hc]

/-- every channel of the result is PyWavelets' `waverec2` of that channel alone -/
theorem DWTInverse_multi_eq_waverec2 (m : Mode) (hm : ModeS m) (gc0 gc1 gr0 gr1 : List R)
    (hLc : 2 ≤ gc0.length) (hgc : gc1.length = gc0.length) (hLr : 2 ≤ gr0.length) (hgr : gr1.length = gr0.length)
    (as : List (Img R)) (ds : List (Option (List (List (Img R))))) (hc : CompatM m gc0 gc1 gr0 gr1 as ds.reverse) :
    ∃ ys, DWTInverse m gc0 gc1 gr0 gr1 as ds = some ys ∧ ys.length = as.length ∧
      ∀ c < as.length, ys.getD c [] = Spec.waverec2 m gc0 gc1 gr0 gr1 (as.getD c []) (ds.map fun d => d.map fun v => v.getD c []) := by
  refine ⟨_, DWTInverse_multi m hm gc0 gc1 gr0 gr1 hLc hgc hLr hgr as ds hc,
    foldl_stepM_length m gc0 gc1 gr0 gr1 ds.reverse as, ?_⟩
  intro c hcl
  rw [foldl_stepM_channel m gc0 gc1 gr0 gr1 ds.reverse as c hcl, waverec2_eq_foldl, List.map_reverse]

/-- non-vacuity of `CompatM` (hypothesis `hc` of `DWTInverse_multi_eq_waverec2`; mode zero): a concrete one-level integer
pyramid on TWO channels (2×2 bands, Haar-like integer filters) is compatible -/
example : CompatM (R := Int) .zero [1, 1] [1, -1] [1, 1] [1, -1] [[[1, 2], [3, 4]], [[0, 1], [1, 0]]]
    [some [[[[1, 0], [0, 1]], [[2, 0], [0, 2]], [[0, 1], [1, 0]]], [[[1, 1], [0, 1]], [[2, 1], [0, 2]], [[0, 1], [1, 1]]]]] := by
  refine ⟨⟨2, 2, 2, 2, by decide, by decide, Or.inl rfl, Or.inl rfl, by decide, by decide, by decide, ?_, by decide, ?_⟩, trivial⟩
  · intro c hc
    have : c = 0 ∨ c = 1 := by simp at hc; omega
    rcases this with rfl | rfl <;> exact ⟨rfl, rfl⟩
  · intro c hc
    have : c = 0 ∨ c = 1 := by simp at hc; omega
    rcases this with rfl | rfl <;> exact ⟨_, _, _, rfl, ⟨rfl, rfl⟩, ⟨rfl, rfl⟩, ⟨rfl, rfl⟩⟩

end WV.C10M
