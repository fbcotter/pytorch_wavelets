/-
  C02 — perfect reconstruction through the WHOLE 2-D pyramid, every number of levels.

  One level: `idwt2(dwt2(x))` has `x` in its top-left `H × W` corner and at most one extra row and one extra column
  (`level2d_pr`, from `level2d_pr_of`) — column pairs are reconstructed first (`C02.pr_padded` on every column), then row
  pairs.  The un-pad rule of `waverec2` removes exactly the extra row / column before the next finer synthesis (`unpad_topleft`), so
  `waverec2(wavedec2(x))` has `x` in its top-left corner for every J (`pyramid2d_pr`); the pyramid of an image has the
  shapes `DWTInverse` accepts (second half of `pyramid2d_pr`), which gives the statement for the implementation models of
  `DWTForward` / `DWTInverse` on a one-channel input (`DWT2D_roundtrip`), per-axis wavelets included.  Modes zero / symmetric / periodic, every
  bank with `PRBank`, every non-empty image size.
-/
import WaveletsVerif.Properties.C02J
import WaveletsVerif.Properties.C05D
namespace WV.C02K
open Finset WV WV.C04 WV.C05D WV.C02
variable {R : Type} [CommRing R]

/-- `TopLeft y x H W`: `y` is `(H or H+1) × (W or W+1)` and carries `x` in its top-left `H × W` block -/
def TopLeft (y x : Img R) (H W : Nat) : Prop :=
  ∃ Hf Wf, Rect y Hf Wf ∧ (Hf = H ∨ Hf = H + 1) ∧ (Wf = W ∨ Wf = W + 1) ∧ ∀ i < H, ∀ j < W, get2 y i j = get2 x i j

theorem tr_zip2_tr (F : List R → List R → List R) (a b : Img R) (K W n : Nat) (ha : Rect a K W) (hb : Rect b K W)
    (hK : 1 ≤ K) (hW : 1 ≤ W) (hF : ∀ u v : List R, u.length = K → (F u v).length = n) :
    tr (Spec.zip2 F (tr a) (tr b)) = colzip F n W a b := by
  have hwa : Img.width a = W := rect_width _ _ _ ha hK
  have hwb : Img.width b = W := rect_width _ _ _ hb hK
  have e : Spec.zip2 F (tr a) (tr b) = tab W fun j => F (col a j) (col b j) := by
    unfold Spec.zip2
    rw [tr_length, hwa]
    apply tab_ext rfl; intro j hj
    rw [tr_getD a j (by rw [hwa]; exact hj), tr_getD b j (by rw [hwb]; exact hj)]
  rw [e, tr_tab_cols W n hW _ (fun j _ => hF _ _ (by simp [col, ha.1]))]
  rfl

theorem zip2_eq_rowzip (F : List R → List R → List R) (a b : Img R) (H K n : Nat) (ha : Rect a H K)
    (hF : ∀ u v : List R, u.length = K → (F u v).length = n) :
    Spec.zip2 F a b = rowzip F H n a b := by
  unfold Spec.zip2 rowzip tab2
  rw [ha.1]
  apply tab_ext rfl; intro i hi
  rw [tab_getN _ n (hF _ _ (row_length a H K ha i hi))]

/-- one level in two dimensions from one dimension, in any mode: if along each axis the analysis bands have lengths
`K`, `K'`, the synthesis returns `Hf ∈ {H, H+1}` resp. `Wf ∈ {W, W+1}` samples and reproduces every sample of a signal of
length `H` resp. `W`, then `idwt2(dwt2(x))` carries `x` in its top-left corner — column pairs are reconstructed first, on
every column, then row pairs -/
theorem level2d_pr_of (m : Mode) (hc0 hc1 gc0 gc1 hr0 hr1 gr0 gr1 : List R) (hhc : hc1.length = hc0.length)
    (hhr : hr1.length = hr0.length) (x : Img R) (H W K K' Hf Wf : Nat) (hx : Rect x H W) (hH : 1 ≤ H)
    (hK : 1 ≤ K) (hKw : 1 ≤ K')
    (lc : ∀ h c : List R, h.length = hc0.length → c.length = H → (Spec.dwt m h c).length = K)
    (lr : ∀ h c : List R, h.length = hr0.length → c.length = W → (Spec.dwt m h c).length = K')
    (lic : ∀ u v : List R, u.length = K → (Spec.idwt m gc0 gc1 u v).length = Hf)
    (lir : ∀ u v : List R, u.length = K' → (Spec.idwt m gr0 gr1 u v).length = Wf)
    (hHf : Hf = H ∨ Hf = H + 1) (hWf : Wf = W ∨ Wf = W + 1)
    (prc : ∀ c : List R, c.length = H → ∀ i < H,
      getN (Spec.idwt m gc0 gc1 (Spec.dwt m hc0 c) (Spec.dwt m hc1 c)) i = getN c i)
    (prr : ∀ c : List R, c.length = W → ∀ j < W,
      getN (Spec.idwt m gr0 gr1 (Spec.dwt m hr0 c) (Spec.dwt m hr1 c)) j = getN c j) :
    let d := Spec.dwt2 m hc0 hc1 hr0 hr1 x
    Rect d.1 K K' ∧ Rect d.2.1 K K' ∧ Rect d.2.2.1 K K' ∧ Rect d.2.2.2 K K' ∧
    TopLeft (Spec.idwt2 m gc0 gc1 gr0 gr1 d.1 d.2.1 d.2.2.1 d.2.2.2) x H W := by
  intro d
  set lo := alongW (Spec.dwt m hr0) x with hlo
  set hi := alongW (Spec.dwt m hr1) x with hhi
  have rlo : Rect lo H K' := alongW_rect_of_length _ x H W K' hx fun c hc => lr hr0 c rfl hc
  have rhi : Rect hi H K' := alongW_rect_of_length _ x H W K' hx fun c hc => lr hr1 c hhr hc
  have hd : d = (alongH (Spec.dwt m hc0) lo, alongH (Spec.dwt m hc1) lo, alongH (Spec.dwt m hc0) hi, alongH (Spec.dwt m hc1) hi) := rfl
  have rb : ∀ (h : List R) (y : Img R), h.length = hc0.length → Rect y H K' → Rect (alongH (Spec.dwt m h) y) K K' :=
    fun h y hh hy => alongH_rect_of_length _ y H K K' hy hH hKw fun c hc => lc h c hh hc
  have rA := rb hc0 lo rfl rlo
  have rH := rb hc1 lo hhc rlo
  have rV := rb hc0 hi rfl rhi
  have rD := rb hc1 hi hhc rhi
  refine ⟨by rw [hd]; exact rA, by rw [hd]; exact rH, by rw [hd]; exact rV, by rw [hd]; exact rD, ?_⟩
  rw [hd]
  simp only
  have e1 := tr_zip2_tr (Spec.idwt m gc0 gc1) _ _ K K' Hf rA rH hK hKw lic
  have e2 := tr_zip2_tr (Spec.idwt m gc0 gc1) _ _ K K' Hf rV rD hK hKw lic
  have hspec : Spec.idwt2 m gc0 gc1 gr0 gr1 (alongH (Spec.dwt m hc0) lo) (alongH (Spec.dwt m hc1) lo)
        (alongH (Spec.dwt m hc0) hi) (alongH (Spec.dwt m hc1) hi)
      = rowzip (Spec.idwt m gr0 gr1) Hf Wf
          (colzip (Spec.idwt m gc0 gc1) Hf K' (alongH (Spec.dwt m hc0) lo) (alongH (Spec.dwt m hc1) lo))
          (colzip (Spec.idwt m gc0 gc1) Hf K' (alongH (Spec.dwt m hc0) hi) (alongH (Spec.dwt m hc1) hi)) := by
    unfold Spec.idwt2
    simp only
    rw [e1, e2]
    exact zip2_eq_rowzip _ _ _ Hf K' Wf (colzip_rect _ _ _ _ _) lir
  rw [hspec]
  refine ⟨Hf, Wf, rowzip_rect _ _ _ _ _, hHf, hWf, ?_⟩
  intro i hi' j hj
  have hiHf : i < Hf := by omega
  have hjWf : j < Wf := by omega
  unfold rowzip
  rw [get2_tab2 _ _ _ _ _ hiHf hjWf]
  -- row i of the column synthesis is row i of the row-filtered image
  have hrow : ∀ (y : Img R), Rect y H K' →
      (colzip (Spec.idwt m gc0 gc1) Hf K' (alongH (Spec.dwt m hc0) y) (alongH (Spec.dwt m hc1) y)).getD i [] = y.getD i [] := by
    intro y hy
    unfold colzip
    rw [getD_tab2_row _ _ _ i hiHf]
    have hyl := row_length y H K' hy i hi'
    apply list_ext_getN
    · rw [length_tab, hyl]
    · intro j' hj'
      rw [length_tab] at hj'
      rw [getN_tab, if_pos hj', col_alongH _ H K' K (fun c hc => lc hc0 c rfl hc) y hy hH j' hj',
        col_alongH _ H K' K (fun c hc => lc hc1 c hhc hc) y hy hH j' hj']
      have hcl : (col y j').length = H := by simp [col, hy.1]
      rw [prc (col y j') hcl i hi']
      unfold col get2
      rw [getN_tab, hy.1, if_pos hi']; rfl
  rw [hrow lo rlo, hrow hi rhi, hlo, hhi, row_alongW _ x i (by rw [hx.1]; exact hi'),
    row_alongW _ x i (by rw [hx.1]; exact hi')]
  have hxl := row_length x H W hx i hi'
  rw [prr (x.getD i []) hxl j hj]
  rfl

section onelevel
variable (m : Mode) (hm : m = .zero ∨ m = .symmetric ∨ m = .periodic)
  (hc0 hc1 gc0 gc1 : List R) (hLc : 2 ≤ hc0.length) (hhc : hc1.length = hc0.length) (hgc0 : gc0.length = hc0.length)
  (hgc1 : gc1.length = hc0.length) (hprc : PRBank hc0 hc1 gc0 gc1)
  (hr0 hr1 gr0 gr1 : List R) (hLr : 2 ≤ hr0.length) (hhr : hr1.length = hr0.length) (hgr0 : gr0.length = hr0.length)
  (hgr1 : gr1.length = hr0.length) (hprr : PRBank hr0 hr1 gr0 gr1)

include hm hLc hhc hgc0 hgc1 hprc hLr hhr hgr0 hgr1 hprr in
/-- one level in two dimensions: `idwt2(dwt2(x))` carries `x` in its top-left corner and is at most one row and one
column larger; the four bands all have the shape `⌊(H+Lc−1)/2⌋ × ⌊(W+Lr−1)/2⌋` -/
theorem level2d_pr (x : Img R) (H W : Nat) (hx : Rect x H W) (hH : 1 ≤ H) (hW : 1 ≤ W) :
    let d := Spec.dwt2 m hc0 hc1 hr0 hr1 x
    Rect d.1 (dwtCoeffLen H hc0.length) (dwtCoeffLen W hr0.length) ∧
    Rect d.2.1 (dwtCoeffLen H hc0.length) (dwtCoeffLen W hr0.length) ∧
    Rect d.2.2.1 (dwtCoeffLen H hc0.length) (dwtCoeffLen W hr0.length) ∧
    Rect d.2.2.2 (dwtCoeffLen H hc0.length) (dwtCoeffLen W hr0.length) ∧
    TopLeft (Spec.idwt2 m gc0 gc1 gr0 gr1 d.1 d.2.1 d.2.2.1 d.2.2.2) x H W := by
  intro d
  have hmp : m ≠ .periodization := by rcases hm with rfl | rfl | rfl <;> decide
  exact level2d_pr_of m hc0 hc1 gc0 gc1 hr0 hr1 gr0 gr1 hhc hhr x H W _ _
    (2 * dwtCoeffLen H hc0.length + 2 - gc0.length) (2 * dwtCoeffLen W hr0.length + 2 - gr0.length) hx hH
    (bandLen_pos H hc0.length hLc hH) (bandLen_pos W hr0.length hLr hW)
    (fun h c hh hc => by rw [C01.dwt_length m hm, hc, hh]) (fun h c hh hc => by rw [C01.dwt_length m hm, hc, hh])
    (fun u v hu => by rw [C10.idwt_length_all, if_neg hmp, hu]) (fun u v hu => by rw [C10.idwt_length_all, if_neg hmp, hu])
    (by rw [hgc0]; exact unpad_length H hc0.length hLc hH) (by rw [hgr0]; exact unpad_length W hr0.length hLr hW)
    (fun c hc i hi => pr_padded m hmp hc0 hc1 gc0 gc1 c hLc hhc hgc0 hgc1 hprc i (by rw [hc]; exact hi))
    (fun c hc j hj => pr_padded m hmp hr0 hr1 gr0 gr1 c hLr hhr hgr0 hgr1 hprr j (by rw [hc]; exact hj))

end onelevel

/-! ### the un-pad rule removes exactly the extra row / column -/

/-- what `waverec2` does to a reconstructed approximation before the next synthesis -/
def unpad2 (a : Img R) (K K' : Nat) : Img R :=
  let a1 : Img R := if a.length = K + 1 then a.take (a.length - 1) else a
  if Img.width a1 = K' + 1 then a1.map (fun r => r.take (r.length - 1)) else a1

theorem unpad_topleft (y cA : Img R) (K K' : Nat) (hK : 1 ≤ K) (hK' : 1 ≤ K') (hcA : Rect cA K K') (h : TopLeft y cA K K') :
    unpad2 y K K' = cA := by
  obtain ⟨Hf, Wf, ry, hH, hW, hpix⟩ := h
  unfold unpad2
  set a1 : Img R := if y.length = K + 1 then y.take (y.length - 1) else y with ha1
  have r1 : Rect a1 K Wf := by
    rw [ha1]
    by_cases hc : y.length = K + 1
    · rw [if_pos hc]
      refine ⟨by rw [List.length_take]; omega, fun r hr => ry.2 r (List.mem_of_mem_take hr)⟩
    · rw [if_neg hc]
      have : Hf = K := by rw [ry.1] at hc; omega
      rw [← this]; exact ry
  have p1 : ∀ i < K, ∀ j, get2 a1 i j = get2 y i j := by
    intro i hi j
    rw [ha1]
    by_cases hc : y.length = K + 1
    · rw [if_pos hc, hc]; exact get2_take y _ i j (by omega)
    · rw [if_neg hc]
  have hw1 : Img.width a1 = Wf := rect_width _ _ _ r1 hK
  simp only [hw1]
  by_cases hc : Wf = K' + 1
  · rw [if_pos hc]
    apply rect_ext _ _ K K' ⟨by rw [List.length_map]; exact r1.1, ?_⟩ hcA
    · intro i hi j hj
      rw [get2_map_take a1 i j (fun r hr => by rw [r1.2 r hr, hc]; omega), p1 i hi j]
      exact hpix i hi j hj
    · intro r hr
      obtain ⟨r0, hr0, rfl⟩ := List.mem_map.mp hr
      rw [List.length_take, r1.2 r0 hr0, hc]; omega
  · rw [if_neg hc]
    have : Wf = K' := by omega
    apply rect_ext _ _ K K' (by rw [← this]; exact r1) hcA
    intro i hi j hj
    rw [p1 i hi j]; exact hpix i hi j hj

omit [CommRing R] in
theorem unpad2_eq (a : Img R) (K K' : Nat) : unpad2 a K K' = C10.unpad a K K' := rfl

/-- the un-pad rule hands exactly `cA` to the synthesis when the reconstruction so far carries `cA` in its top-left corner -/
theorem stepS2_of_topleft (m : Mode) (gc0 gc1 gr0 gr1 : List R) (Rc cA cH cV cD : Img R) (K K' : Nat) (hK : 1 ≤ K)
    (hK' : 1 ≤ K') (rA : Rect cA K K') (rH : Rect cH K K') (h : TopLeft Rc cA K K') :
    C10.stepS2 m gc0 gc1 gr0 gr1 Rc (some [cH, cV, cD]) = Spec.idwt2 m gc0 gc1 gr0 gr1 cA cH cV cD := by
  rw [C10.stepS2_some m gc0 gc1 gr0 gr1 Rc cH cV cD K K' ⟨rH.1, rect_width _ _ _ rH hK⟩, ← unpad2_eq,
    unpad_topleft Rc cA K K' hK hK' rA h]

theorem wavedec2_succ (m : Mode) (hc0 hc1 hr0 hr1 : List R) (J : Nat) (x : Img R) :
    Spec.wavedec2 m hc0 hc1 hr0 hr1 (J+1) x
      = ((Spec.wavedec2 m hc0 hc1 hr0 hr1 J (Spec.dwt2 m hc0 hc1 hr0 hr1 x).1).1,
         [(Spec.dwt2 m hc0 hc1 hr0 hr1 x).2.1, (Spec.dwt2 m hc0 hc1 hr0 hr1 x).2.2.1, (Spec.dwt2 m hc0 hc1 hr0 hr1 x).2.2.2]
           :: (Spec.wavedec2 m hc0 hc1 hr0 hr1 J (Spec.dwt2 m hc0 hc1 hr0 hr1 x).1).2) := rfl

theorem waverec2_wavedec2_succ (m : Mode) (hc0 hc1 hr0 hr1 gc0 gc1 gr0 gr1 : List R) (J : Nat) (x : Img R) :
    Spec.waverec2 m gc0 gc1 gr0 gr1 (Spec.wavedec2 m hc0 hc1 hr0 hr1 (J+1) x).1
        ((Spec.wavedec2 m hc0 hc1 hr0 hr1 (J+1) x).2.map some)
      = C10.stepS2 m gc0 gc1 gr0 gr1
          (Spec.waverec2 m gc0 gc1 gr0 gr1 (Spec.wavedec2 m hc0 hc1 hr0 hr1 J (Spec.dwt2 m hc0 hc1 hr0 hr1 x).1).1
            ((Spec.wavedec2 m hc0 hc1 hr0 hr1 J (Spec.dwt2 m hc0 hc1 hr0 hr1 x).1).2.map some))
          (some [(Spec.dwt2 m hc0 hc1 hr0 hr1 x).2.1, (Spec.dwt2 m hc0 hc1 hr0 hr1 x).2.2.1,
            (Spec.dwt2 m hc0 hc1 hr0 hr1 x).2.2.2]) := by
  rw [wavedec2_succ]
  simp only [List.map_cons]
  rw [C10.waverec2_eq_foldl, List.reverse_cons, List.foldl_append, ← C10.waverec2_eq_foldl, List.foldl_cons, List.foldl_nil]

/-- the 2-D pyramid in any mode, from one level: if `idwt2(dwt2(x))` carries `x` in its top-left corner and the four
bands of an `H × W` image are `Kc H × Kr W`, then `waverec2(wavedec2(x))` carries `x` in its top-left corner for every J -/
theorem pyramid2d_topleft_of (m : Mode) (hc0 hc1 gc0 gc1 hr0 hr1 gr0 gr1 : List R) (Kc Kr : Nat → Nat)
    (hKc : ∀ H, 1 ≤ H → 1 ≤ Kc H) (hKr : ∀ W, 1 ≤ W → 1 ≤ Kr W)
    (hlev : ∀ (x : Img R) (H W : Nat), Rect x H W → 1 ≤ H → 1 ≤ W →
      let d := Spec.dwt2 m hc0 hc1 hr0 hr1 x
      Rect d.1 (Kc H) (Kr W) ∧ Rect d.2.1 (Kc H) (Kr W) ∧ Rect d.2.2.1 (Kc H) (Kr W) ∧ Rect d.2.2.2 (Kc H) (Kr W) ∧
      TopLeft (Spec.idwt2 m gc0 gc1 gr0 gr1 d.1 d.2.1 d.2.2.1 d.2.2.2) x H W) :
    ∀ (J : Nat) (x : Img R) (H W : Nat), Rect x H W → 1 ≤ H → 1 ≤ W →
    TopLeft (Spec.waverec2 m gc0 gc1 gr0 gr1 (Spec.wavedec2 m hc0 hc1 hr0 hr1 J x).1
      ((Spec.wavedec2 m hc0 hc1 hr0 hr1 J x).2.map some)) x H W := by
  intro J
  induction J with
  | zero =>
    intro x H W hx hH hW
    exact ⟨H, W, hx, Or.inl rfl, Or.inl rfl, fun i _ j _ => rfl⟩
  | succ J ih =>
    intro x H W hx hH hW
    obtain ⟨rA, rH, _, _, htl⟩ := hlev x H W hx hH hW
    rw [waverec2_wavedec2_succ, stepS2_of_topleft m gc0 gc1 gr0 gr1 _ _ _ _ _ (Kc H) (Kr W) (hKc H hH) (hKr W hW) rA rH
      (ih _ (Kc H) (Kr W) rA (hKc H hH) (hKr W hW))]
    exact htl

/-- admissibility of the pyramid of an image, from one level: `C02J.compat_wavedec_of` in two dimensions -/
theorem compat_wavedec2_of (m : Mode) (hc0 hc1 hr0 hr1 gc0 gc1 gr0 gr1 : List R) (OK : Img R → Option (List (Img R)) → Prop)
    (C : Img R → List (Option (List (Img R))) → Prop) (hnil : ∀ a, C a [])
    (hcons : ∀ a d rest, C a (d :: rest) ↔ OK a d ∧ C (C10.stepS2 m gc0 gc1 gr0 gr1 a d) rest) (P : Nat → Img R → Prop)
    (hP : ∀ J x, P (J+1) x → P J (Spec.dwt2 m hc0 hc1 hr0 hr1 x).1 ∧
      OK (Spec.waverec2 m gc0 gc1 gr0 gr1 (Spec.wavedec2 m hc0 hc1 hr0 hr1 J (Spec.dwt2 m hc0 hc1 hr0 hr1 x).1).1
          ((Spec.wavedec2 m hc0 hc1 hr0 hr1 J (Spec.dwt2 m hc0 hc1 hr0 hr1 x).1).2.map some))
        (some [(Spec.dwt2 m hc0 hc1 hr0 hr1 x).2.1, (Spec.dwt2 m hc0 hc1 hr0 hr1 x).2.2.1,
          (Spec.dwt2 m hc0 hc1 hr0 hr1 x).2.2.2])) :
    ∀ (J : Nat) (x : Img R), P J x →
      C (Spec.wavedec2 m hc0 hc1 hr0 hr1 J x).1 ((Spec.wavedec2 m hc0 hc1 hr0 hr1 J x).2.map some).reverse := by
  intro J
  induction J with
  | zero => intro x _; exact hnil _
  | succ J ih =>
    intro x hx
    obtain ⟨hnext, hok⟩ := hP J x hx
    rw [wavedec2_succ]
    simp only [List.map_cons, List.reverse_cons]
    apply compat_append (C10.stepS2 m gc0 gc1 gr0 gr1) OK C hcons _ _ _ (ih _ hnext)
    rw [← C10.waverec2_eq_foldl]
    exact (hcons _ _ _).mpr ⟨hok, hnil _⟩

section pyramid
variable (m : Mode) (hm : m = .zero ∨ m = .symmetric ∨ m = .periodic)
  (hc0 hc1 gc0 gc1 : List R) (hLc : 2 ≤ hc0.length) (hhc : hc1.length = hc0.length) (hgc0 : gc0.length = hc0.length)
  (hgc1 : gc1.length = hc0.length) (hprc : PRBank hc0 hc1 gc0 gc1)
  (hr0 hr1 gr0 gr1 : List R) (hLr : 2 ≤ hr0.length) (hhr : hr1.length = hr0.length) (hgr0 : gr0.length = hr0.length)
  (hgr1 : gr1.length = hr0.length) (hprr : PRBank hr0 hr1 gr0 gr1)

include hm hLc hhc hgc0 hgc1 hprc hLr hhr hgr0 hgr1 hprr in
/-- `waverec2(wavedec2(x))` carries `x` in its top-left corner, for every J, and the pyramid has the shapes the
inverse accepts -/
theorem pyramid2d_pr : ∀ (J : Nat) (x : Img R) (H W : Nat), Rect x H W → 1 ≤ H → 1 ≤ W →
    TopLeft (Spec.waverec2 m gc0 gc1 gr0 gr1 (Spec.wavedec2 m hc0 hc1 hr0 hr1 J x).1
      ((Spec.wavedec2 m hc0 hc1 hr0 hr1 J x).2.map some)) x H W ∧
    C10.Compat2 m gc0 gc1 gr0 gr1 (Spec.wavedec2 m hc0 hc1 hr0 hr1 J x).1
      ((Spec.wavedec2 m hc0 hc1 hr0 hr1 J x).2.map some).reverse := by
  have hlev := level2d_pr m hm hc0 hc1 gc0 gc1 hLc hhc hgc0 hgc1 hprc hr0 hr1 gr0 gr1 hLr hhr hgr0 hgr1 hprr
  have hKc : ∀ H, 1 ≤ H → 1 ≤ dwtCoeffLen H hc0.length := fun H hH => bandLen_pos H hc0.length hLc hH
  have hKr : ∀ W, 1 ≤ W → 1 ≤ dwtCoeffLen W hr0.length := fun W hW => bandLen_pos W hr0.length hLr hW
  have htl := pyramid2d_topleft_of m hc0 hc1 gc0 gc1 hr0 hr1 gr0 gr1 (fun H => dwtCoeffLen H hc0.length)
    (fun W => dwtCoeffLen W hr0.length) hKc hKr hlev
  intro J x H W hx hH hW
  refine ⟨htl J x H W hx hH hW, ?_⟩
  apply compat_wavedec2_of m hc0 hc1 hr0 hr1 gc0 gc1 gr0 gr1 (C10.StepOK2 gc0 gr0) (C10.Compat2 m gc0 gc1 gr0 gr1)
    (fun _ => trivial) (fun _ _ _ => Iff.rfl) (fun _ x => ∃ H W, Rect x H W ∧ 1 ≤ H ∧ 1 ≤ W) _ J x ⟨H, W, hx, hH, hW⟩
  intro J x ⟨H, W, hx, hH, hW⟩
  obtain ⟨rA, rH, rV, rD, _⟩ := hlev x H W hx hH hW
  have hK := hKc H hH
  have hKw := hKr W hW
  refine ⟨⟨_, _, rA, hK, hKw⟩, ?_⟩
  obtain ⟨Hf, Wf, rR, hHf, hWf, _⟩ := htl J _ _ _ rA hK hKw
  refine ⟨_, _, hK, hKw, by rw [rR.1]; exact hHf, by rw [rect_width _ _ _ rR (by omega)]; exact hWf, ?_, ?_, ?_⟩
  · rw [hgc0]; exact dwtCoeffLen_fits H hc0.length hLc hH
  · rw [hgr0]; exact dwtCoeffLen_fits W hr0.length hLr hW
  · exact ⟨_, _, _, rfl, ⟨rH.1, rect_width _ _ _ rH hK⟩, ⟨rV.1, rect_width _ _ _ rV hK⟩, ⟨rD.1, rect_width _ _ _ rD hK⟩⟩

include hm hLc hhc hgc0 hgc1 hprc hLr hhr hgr0 hgr1 hprr in
/-- J-level 2-D perfect reconstruction of the implementation models: `DWTInverse(DWTForward(x))` returns, and its
result carries `x` in its top-left corner with at most one extra row and column (as PyWavelets) — one channel `[x]`, every J, every non-empty
image size, per-axis wavelets, every pair of banks with `PRBank`, modes zero / symmetric / periodic -/
theorem DWT2D_roundtrip (J : Nat) (x : Img R) (H W : Nat) (hx : Rect x H W) (hH : 1 ≤ H) (hW : 1 ≤ W) :
    ∃ yl yh y, DWTForwardM m J [hc0, hc1, hr0, hr1] [x] = some (yl, yh) ∧
      DWTInverse m gc0 gc1 gr0 gr1 yl (yh.map some) = some [y] ∧ TopLeft y x H W := by
  have hf := C01.DWTForward_eq_wavedec2 m hm hc0 hc1 hr0 hr1 hLc (by omega) hLr (by omega) J x
    (C01.nonEmpty_of_rect x H W hx hH hW)
  obtain ⟨p1, p2⟩ := pyramid2d_pr m hm hc0 hc1 gc0 gc1 hLc hhc hgc0 hgc1 hprc hr0 hr1 gr0 gr1 hLr hhr hgr0 hgr1 hprr J x H W hx hH hW
  have hi := C10.DWTInverse_eq_waverec2 m (C10.modeS_of hm) gc0 gc1 gr0 gr1 (by omega) (by omega) (by omega) (by omega)
    (Spec.wavedec2 m hc0 hc1 hr0 hr1 J x).1 ((Spec.wavedec2 m hc0 hc1 hr0 hr1 J x).2.map some) p2
  refine ⟨_, _, _, hf, ?_, p1⟩
  rw [map_some_map]
  exact hi

end pyramid

end WV.C02K
