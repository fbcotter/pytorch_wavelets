/-
  C16 — dtype is preserved and float32 results are float32-accurate.

  * dtype propagation (abstract interpretation `Model/Dtype.lean`, tied to the code by an
    exhaustive grid correspondence): on every transform path the result has the input's dtype
    whenever the module's buffers have it, whatever the process default dtype is, and the call
    raises exactly when they differ;
  * numerics over ℝ: every output sample of a linear transform is a fixed dot product, so
    `|Σ a_j x_j| ≤ (Σ|a_j|)·max|x|` — the operator's gain (largest absolute row sum) bounds the
    output, and a composition's gain is at most the product of gains; the float32-vs-float64
    deviation measured on the real code is compared against `c·eps32·(gain·max|x| + bias)`.
  Rounding itself (IEEE arithmetic, summation order) and memory layout (strides) are runtime:
  they are measured on the real code, not proved (partial).
-/
import WaveletsVerif.Model.Dtype
import Mathlib.Algebra.Order.BigOperators.Group.Finset
import Mathlib.Algebra.Order.AbsoluteValue.Basic
import Mathlib.Tactic.Linarith
import Mathlib.Tactic.Ring
import Mathlib.Algebra.BigOperators.Ring.Finset
import Mathlib.Algebra.Order.Field.Basic
import Mathlib.Data.Real.Basic
namespace WV.C16
open WV.Dtype Finset

/-- every path is two or three convolutions with the buffers: it returns the input's dtype when the buffers have it and
raises otherwise -/
theorem run_eq (p : Path) (x buf dflt : DT) : run p x buf dflt = if x = buf then some x else none := by
  cases p <;> cases x <;> cases buf <;> rfl

/-- matching dtypes: the result has the dtype of the input, on every path, for every default dtype -/
theorem dtype_preserved (p : Path) (d dflt : DT) : run p d d dflt = some d := by
  rw [run_eq, if_pos rfl]

/-- mismatching dtypes raise on every path (never a silently converted result) -/
theorem dtype_mismatch_raises (p : Path) (x buf dflt : DT) (h : x ≠ buf) : run p x buf dflt = none := by
  rw [run_eq, if_neg h]

/-- the result never depends on the process-wide default dtype -/
theorem default_dtype_irrelevant (p : Path) (x buf d1 d2 : DT) : run p x buf d1 = run p x buf d2 := by
  rw [run_eq, run_eq]

/-- one output sample: `|Σ_j a_j x_j| ≤ (Σ_j |a_j|) · M` whenever `|x_j| ≤ M` -/
theorem abs_dot_le (n : Nat) (a x : Nat → ℝ) (M : ℝ) (hx : ∀ j < n, |x j| ≤ M) :
    |∑ j ∈ range n, a j * x j| ≤ (∑ j ∈ range n, |a j|) * M := by
  calc |∑ j ∈ range n, a j * x j| ≤ ∑ j ∈ range n, |a j * x j| := Finset.abs_sum_le_sum_abs _ _
    _ = ∑ j ∈ range n, |a j| * |x j| := by simp [abs_mul]
    _ ≤ ∑ j ∈ range n, |a j| * M := by
        apply Finset.sum_le_sum
        intro j hj
        exact mul_le_mul_of_nonneg_left (hx j (by simpa using hj)) (abs_nonneg _)
    _ = (∑ j ∈ range n, |a j|) * M := by rw [Finset.sum_mul]

/-- gains compose: if every row of `A` has absolute sum `≤ gA` and every `x_j` is itself a dot product
with row sums `≤ gB` of inputs bounded by `M`, the composition is bounded by `gA·gB·M` -/
theorem gain_compose (n m : Nat) (a : Nat → ℝ) (b : Nat → Nat → ℝ) (x : Nat → ℝ) (M gA gB : ℝ)
    (hA : ∑ j ∈ range n, |a j| ≤ gA) (hB : ∀ j < n, ∑ k ∈ range m, |b j k| ≤ gB) (hM : 0 ≤ M)
    (hgB : 0 ≤ gB) (hx : ∀ k < m, |x k| ≤ M) :
    |∑ j ∈ range n, a j * (∑ k ∈ range m, b j k * x k)| ≤ gA * gB * M := by
  have h1 : ∀ j < n, |∑ k ∈ range m, b j k * x k| ≤ gB * M := by
    intro j hj
    calc |∑ k ∈ range m, b j k * x k| ≤ (∑ k ∈ range m, |b j k|) * M := abs_dot_le m (b j) x M hx
      _ ≤ gB * M := mul_le_mul_of_nonneg_right (hB j hj) hM
  calc |∑ j ∈ range n, a j * (∑ k ∈ range m, b j k * x k)|
      ≤ (∑ j ∈ range n, |a j|) * (gB * M) := abs_dot_le n a _ (gB * M) h1
    _ ≤ gA * (gB * M) := mul_le_mul_of_nonneg_right hA (mul_nonneg hgB hM)
    _ = gA * gB * M := by ring

end WV.C16
