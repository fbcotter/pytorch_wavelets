/-
  C19 — the non-separable SYNTHESIS bank equals the separable one in periodization mode, every band size and every filter
  lengths ≥ 2 (filters longer than the reconstruction included).  One channel.

  `sfb2d_nonsep` adds four 2-D transposed convolutions with the kernels `np.outer(gc, gr)`, folds the wrap-around rows and
  columns, crops and rolls both axes; `SFB2D.forward` (= `sfb2d`) synthesises the columns of the two band pairs (transposed
  convolution, fold, crop, roll) and then the rows.  With `A g = roll ∘ crop ∘ fold ∘ convTranspose g` (gather-linear, hence
  additive) both are `Σ_k alongW (A gr_k) (alongH (A gc_k) band_k)` over the four bands.  The summation argument (`nonsep_synth_gen`) is
  stated for any gather-linear post-operators along the two axes, not only for this `A`; C19S uses it for the padded modes.
-/
import WaveletsVerif.Properties.C19P
import WaveletsVerif.Lemmas.ConvT2
namespace WV.C19Q
open Finset WV WV.C04 WV.C04Q WV.C03P WV.GLA WV.C19N WV.C19P WV.C05D
variable {R : Type} [CommRing R]

theorem GL.add {F : List R → List R} {n m : Nat} (hF : GL F n m) (a b : List R) (ha : a.length = n) (hb : b.length = n) :
    F (vadd a b) = vadd (F a) (F b) := by
  exact GL.map_vadd hF a b ha hb

theorem convT2Full_outer_sep (gc gr : List R) (band : Img R) (Kh Kw : Nat) (hb : Rect band Kh Kw) (hKh : 1 ≤ Kh) (hKw : 1 ≤ Kw)
    (hLy : 1 ≤ gc.length) (hLx : 1 ≤ gr.length) :
    convT2Full (outer gc gr) band = alongH (fun c => convTFull gc c) (alongW (fun c => convTFull gr c) band) := by
  exact convT2Full_outer_axes gc gr band Kh Kw hb hKh hLy hLx

/-- roll ∘ crop ∘ wrap-around fold of a full transposed convolution for `n` coefficients and filter length `L` -/
def Qp (L n : Nat) (y : List R) : List R := rollPy ((foldAdd y (L-2) (2*n)).take (2*n)) (1 - ((L/2 : Nat) : Int))

/-- one filter's share of the synthesis -/
def Aq (g : List R) (n : Nat) (c : List R) : List R := Qp g.length n (convTFull g c)

/-- the `2K` reconstructed samples fit inside the full transposed convolution of `K` coefficients with `L ≥ 2` taps -/
theorem full_fits (K L : Nat) (hK : 1 ≤ K) (hL : 2 ≤ L) : 2 * K ≤ 2 * (K - 1) + L ∧ 1 ≤ 2 * (K - 1) + L ∧ 1 ≤ 2 * K := by
  omega

theorem GL_Qp (L n : Nat) (hL : 2 ≤ L) (hn : 1 ≤ n) : GL (Qp (R := R) L n) (2*(n-1) + L) (2*n) := by
  have g1 := GL_foldAdd (R := R) (L-2) (2*n) (2*(n-1) + L)
  obtain ⟨hc, hm, hp⟩ := full_fits n L hn hL
  have g2 := GL_take (R := R) (2*n) (2*(n-1) + L) hc hm
  have g3 := GL_rollPy (R := R) (1 - ((L/2 : Nat) : Int)) (2*n) hp
  exact GL.congr (GL.comp g3 (GL.comp g2 g1)) (fun _ _ => rfl)

theorem GL_Aq (g : List R) (n : Nat) (hL : 2 ≤ g.length) (hn : 1 ≤ n) : GL (Aq g n) n (2*n) :=
  GL.congr (GL.comp (GL_Qp g.length n hL hn) (GL_convTFull g n)) (fun _ _ => rfl)

/-- the model's 1-D periodization synthesis of a pair of bands -/
def Sp (g0 g1 lo hi : List R) : List R := vadd (Aq g0 lo.length lo) (Aq g1 lo.length hi)

theorem sfb1dCh_per (g0 g1 lo hi : List R) (hL : 2 ≤ g0.length) (hg : g1.length = g0.length) (hn : 1 ≤ lo.length)
    (hh : hi.length = lo.length) : sfb1dCh .periodization g0 g1 lo hi = some (Sp g0 g1 lo hi) := by
  have hguard : ¬ (g0.length < 2 ∨ g1.length ≠ g0.length ∨ lo.length < 1 ∨ hi.length ≠ lo.length) := by omega
  simp only [sfb1dCh, hguard, if_false]
  refine congrArg some ?_
  have gQ := GL_Qp (R := R) g0.length lo.length hL hn
  have l0 : (convTFull g0 lo).length = 2*(lo.length-1) + g0.length := by simp [convTFull]
  have l1 : (convTFull g1 hi).length = 2*(lo.length-1) + g0.length := by simp [convTFull, hh, hg]
  have := GL.add gQ (convTFull g0 lo) (convTFull g1 hi) l0 l1
  unfold Sp Aq
  rw [hg, ← this]
  rfl

theorem Sp_length (g0 g1 lo hi : List R) (hL : 2 ≤ g0.length) (hn : 1 ≤ lo.length) : (Sp g0 g1 lo hi).length = 2 * lo.length := by
  unfold Sp vadd
  rw [length_tab, GL.length (GL_Aq g0 lo.length hL hn) lo rfl]

section synth
variable (gr0 gr1 gc0 gc1 : List R) (hLr : 2 ≤ gr0.length) (hgr : gr1.length = gr0.length)
    (hLc : 2 ≤ gc0.length) (hgc : gc1.length = gc0.length) (Kh Kw : Nat) (hKh : 1 ≤ Kh) (hKw : 1 ≤ Kw)

/-- the separable periodization synthesis: columns of the two band pairs, then rows -/
def synth2P (ll lh hl hh : Img R) : Img R :=
  rowzip (Sp gr0 gr1) (2*Kh) (2*Kw) (colzip (Sp gc0 gc1) (2*Kh) Kw ll lh) (colzip (Sp gc0 gc1) (2*Kh) Kw hl hh)

include hLr hgr hLc hgc hKh hKw in
theorem SFB2D_forward_per_val (ll lh hl hh : Img R) (r1 : Rect ll Kh Kw) (r2 : Rect lh Kh Kw) (r3 : Rect hl Kh Kw) (r4 : Rect hh Kh Kw) :
    SFB2D_forward .periodization gr0 gr1 gc0 gc1 [ll] [[lh, hl, hh]] = some [synth2P gr0 gr1 gc0 gc1 Kh Kw ll lh hl hh] := by
  have hH := fun (a b : Img R) (ra : Rect a Kh Kw) (rb : Rect b Kh Kw) =>
    sfb1dImg_H_colzip .periodization gc0 gc1 (Sp gc0 gc1) Kh (2*Kh)
      (fun a b ha hb => sfb1dCh_per gc0 gc1 a b hLc hgc (by omega) (by omega))
      (fun a b ha => by rw [Sp_length gc0 gc1 a b hLc (by omega), ha]) a b Kw ra rb hKh hKw
  have hW := fun (a b : Img R) (ra : Rect a (2*Kh) Kw) (rb : Rect b (2*Kh) Kw) =>
    sfb1dImg_W_rowzip .periodization gr0 gr1 (Sp gr0 gr1) Kw (2*Kw)
      (fun a b ha hb => sfb1dCh_per gr0 gr1 a b hLr hgr (by omega) (by omega))
      (fun a b ha => by rw [Sp_length gr0 gr1 a b hLr (by omega), ha]) a b (2*Kh) ra rb
  unfold SFB2D_forward
  simp only [List.map_cons, List.map_nil, List.getD_cons_zero, List.getD_cons_succ]
  rw [sfb1dT_single, sfb1dT_single, hH ll lh r1 r2, hH hl hh r3 r4]
  simp only [Option.map_some, Option.bind_eq_bind, Option.bind_some]
  rw [sfb1dT_single, hW _ _ (colzip_rect _ _ _ _ _) (colzip_rect _ _ _ _ _)]
  rfl

/-- what `sfb2d_nonsep` does to the sum of the four transposed convolutions: fold rows, fold columns, crop, roll rows, roll
columns -/
def postQ (Ly Lx : Nat) (full : Img R) : Img R :=
  (rollPy ((((tab full.length fun k => if k < Ly-2 then vadd (full.getD k []) (full.getD (2*Kh + k) []) else full.getD k []).map
      fun r => foldAdd r (Lx-2) (2*Kw)).take (2*Kh)).map fun r => r.take (2*Kw)) (1 - ((Ly/2 : Nat) : Int))).map
    fun r => rollPy r (1 - ((Lx/2 : Nat) : Int))

include hKh hKw in
theorem postQ_eq (Ly Lx : Nat) (hLy : 2 ≤ Ly) (hLx : 2 ≤ Lx) (full : Img R) (rf : Rect full (2*(Kh-1) + Ly) (2*(Kw-1) + Lx)) :
    postQ Kh Kw Ly Lx full = alongW (Qp Lx Kw) (alongH (Qp Ly Kh) full) := by
  obtain ⟨cH, mH, nH⟩ := full_fits Kh Ly hKh hLy
  obtain ⟨cW, mW, nW⟩ := full_fits Kw Lx hKw hLx
  have gtfH := GL.comp (GL_take (R := R) (2*Kh) (2*(Kh-1) + Ly) cH mH) (GL_foldAdd (Ly-2) (2*Kh) _)
  have gtfW := GL.comp (GL_take (R := R) (2*Kw) (2*(Kw-1) + Lx) cW mW) (GL_foldAdd (Lx-2) (2*Kw) _)
  have grH := GL_rollPy (R := R) (1 - ((Ly/2 : Nat) : Int)) (2*Kh) nH
  have r1 := GL_alongH_rect gtfH _ _ rf mH mW
  have e : postQ Kh Kw Ly Lx full
      = alongW (fun r => rollPy r (1 - ((Lx/2 : Nat) : Int)))
          (rollPy (foldCropImg (Ly-2) (2*Kh) (Lx-2) (2*Kw) full) (1 - ((Ly/2 : Nat) : Int))) := rfl
  -- the roll of the rows goes past the column fold and crop
  rw [e, foldCropImg_eq _ _ _ _ full _ _ rf mH mW cH nH,
    rollRows_eq _ _ _ (GL_alongW_rect gtfW _ _ r1) nH nW,
    alongH_alongW_comm _ _ _ _ _ _ grH gtfW _ r1 nH mW nH nW, alongW_comp,
    alongH_comp _ _ _ _ _ _ _ rf mH mW nH (fun c hc => GL.length gtfH c hc) (fun c hc => GL.length grH c hc)]
  rfl

include hLr hgr hLc hgc hKh hKw in
theorem sfb2dNonsep_per_val (dense : Bool) (ll lh hl hh : Img R) (r1 : Rect ll Kh Kw) :
    sfb2dNonsepCh .periodization dense gc0 gc1 gr0 gr1 [ll, lh, hl, hh]
      = some (postQ Kh Kw gc0.length gr0.length
          (iadd (iadd (iadd (iadd (izero (2*(Kh-1)+gc0.length) (2*(Kw-1)+gr0.length)) (convT2Full (outer gc0 gr0) ll))
          (convT2Full (outer gc1 gr0) lh)) (convT2Full (outer gc0 gr1) hl)) (convT2Full (outer gc1 gr1) hh))) := by
  have hllw : ll.width = Kw := rect_width ll Kh Kw r1 hKh
  have hguard : ¬ (gc0.length < 2 ∨ gr0.length < 2 ∨ gc1.length ≠ gc0.length ∨ gr1.length ≠ gr0.length ∨ Kh < 1 ∨ Kw < 1 ∨
      ([ll, lh, hl, hh] : List (Img R)).length ≠ 4) := by simp; omega
  have hr4 : List.range 4 = [0, 1, 2, 3] := by decide
  simp only [sfb2dNonsepCh, List.getD_cons_zero, r1.1, hllw, hguard, if_false, hr4, List.foldl_cons, List.foldl_nil,
    List.getD_cons_succ, foldAddInPlaceRows, foldAddInPlaceCols, Option.bind_eq_bind, Option.bind_some]
  rfl

include hKh hKw in
/-- one band's share: fold, crop and roll of its 2-D transposed convolution is its separable synthesis share -/
theorem share_eq (gc gr : List R) (hLy : 2 ≤ gc.length) (hLx : 2 ≤ gr.length) (band : Img R) (rb : Rect band Kh Kw) :
    alongW (Qp gr.length Kw) (alongH (Qp gc.length Kh) (convT2Full (outer gc gr) band))
      = alongW (Aq gr Kw) (alongH (Aq gc Kh) band) := by
  exact share_gen gc gr (by omega) (by omega) Kh Kw (2*Kh) hKh hKw (by omega) _ _ (GL_Qp gc.length Kh hLy hKh) band rb

include hLr hgr hLc hgc hKh hKw in
/-- `sfb2d_nonsep` = `sfb2d` in periodization mode: the model of the non-separable synthesis equals the separable
column-then-row synthesis for every band size and every filter lengths ≥ 2 -/
theorem sfb2d_nonsep_per_eq_sep (dense : Bool) (ll lh hl hh : Img R) (r1 : Rect ll Kh Kw) (r2 : Rect lh Kh Kw) (r3 : Rect hl Kh Kw)
    (r4 : Rect hh Kh Kw) :
    sfb2dNonsepCh .periodization dense gc0 gc1 gr0 gr1 [ll, lh, hl, hh] = some (synth2P gr0 gr1 gc0 gc1 Kh Kw ll lh hl hh) := by
  have hS : ∀ (g0 g1 : List R) (K : Nat), g1.length = g0.length → ∀ a b : List R, a.length = K → b.length = K →
      Sp g0 g1 a b = vadd (Qp g0.length K (convTFull g0 a)) (Qp g0.length K (convTFull g1 b)) := by
    intro g0 g1 K hg a b ha _
    unfold Sp Aq
    rw [ha, hg]
  rw [sfb2dNonsep_per_val gr0 gr1 gc0 gc1 hLr hgr hLc hgc Kh Kw hKh hKw dense ll lh hl hh r1,
    postQ_eq Kh Kw hKh hKw gc0.length gr0.length hLc hLr _
      (sum4_rect gr0 gr1 gc0 gc1 (by omega) hgr (by omega) hgc Kh Kw hKh ll lh hl hh r1 r2 r3 r4)]
  exact congrArg some (nonsep_synth_gen gr0 gr1 gc0 gc1 (by omega) hgr (by omega) hgc Kh Kw hKh ll lh hl hh r1 r2 r3 r4 hKw
    (2*Kh) (2*Kw) (by omega) _ _ (GL_Qp gc0.length Kh hLc hKh) (GL_Qp gr0.length Kw hLr hKw) _ _
    (hS gc0 gc1 Kh hgc) (hS gr0 gr1 Kw hgr))

include hLr hgr hLc hgc hKh hKw in
/-- C19, synthesis, periodization: the same image is what the model of the autograd Function `SFB2D.forward` returns -/
theorem sfb2d_nonsep_per_eq_SFB2D (dense : Bool) (ll lh hl hh : Img R) (r1 : Rect ll Kh Kw) (r2 : Rect lh Kh Kw) (r3 : Rect hl Kh Kw)
    (r4 : Rect hh Kh Kw) :
    ∃ y, sfb2dNonsepCh .periodization dense gc0 gc1 gr0 gr1 [ll, lh, hl, hh] = some y ∧
      SFB2D_forward .periodization gr0 gr1 gc0 gc1 [ll] [[lh, hl, hh]] = some [y] :=
  ⟨_, sfb2d_nonsep_per_eq_sep gr0 gr1 gc0 gc1 hLr hgr hLc hgc Kh Kw hKh hKw dense ll lh hl hh r1 r2 r3 r4,
    SFB2D_forward_per_val gr0 gr1 gc0 gc1 hLr hgr hLc hgc Kh Kw hKh hKw ll lh hl hh r1 r2 r3 r4⟩

end synth

/-- non-vacuity of `sfb2d_nonsep_per_eq_SFB2D`: 1 × 2 coefficient bands with 6-tap column filters (longer than the 2-row
reconstruction) and 2-tap row filters, `dense = false`, are an instance of its hypotheses, and on it both models evaluate to the
same numbers -/
example : (sfb2dNonsepCh .periodization false [1, 2, -1, 3, 1, -2] [2, -1, 0, 1, 1, 3] [1, 1] [1, -1]
      ([[[1, 2]], [[3, -1]], [[0, 4]], [[2, 5]]] : List (Img Int))).map (fun y => [y])
    = SFB2D_forward .periodization [1, 1] [1, -1] [1, 2, -1, 3, 1, -2] [2, -1, 0, 1, 1, 3] [[[1, 2]]] [[[[3, -1]], [[0, 4]], [[2, 5]]]] := by
  decide +kernel

end WV.C19Q
