/-
  C01 / C07 / C14 — the 2-D analysis on ANY number of channels.

  `AFB2D.forward` on a stack of `C` images returns, channel by channel, PyWavelets' `dwt2` of that channel with
  (column wavelet, row wavelet) (`AFB2D_forward_multi`), and the J-level module `DWTForward` returns, channel by channel,
  `wavedec2` of that channel — for every `C`, every `J`, every non-empty image size, all filter lengths ≥ 2, in the modes
  zero / symmetric / periodic (`DWTForward_multi`).  This is the per-(batch, channel)-slice statement of C07 for the whole
  multi-level 2-D transform, and the 4-tuple statement of C14 for channel stacks.
-/
import WaveletsVerif.Properties.C01
import WaveletsVerif.Properties.C07M
namespace WV.C01M
open WV WV.C01 WV.C07M
variable {R : Type} [CommRing R]

/-- one level on `C` channels: every channel gets its own `dwt2` -/
theorem AFB2D_forward_multi (mode : Mode) (hm : ModeOK (R := R) mode) (c0 c1 r0 r1 : List R)
    (hc0 : 2 ≤ c0.length) (hc1 : 2 ≤ c1.length) (hr0 : 2 ≤ r0.length) (hr1 : 2 ≤ r1.length)
    (xs : List (Img R)) (hx : ∀ x ∈ xs, NonEmptyImg x) :
    AFB2D_forward mode r0.reverse r1.reverse c0.reverse c1.reverse xs
      = some (xs.map fun x => (Spec.dwt2 mode c0 c1 r0 r1 x).1,
              xs.map fun x => [(Spec.dwt2 mode c0 c1 r0 r1 x).2.1, (Spec.dwt2 mode c0 c1 r0 r1 x).2.2.1,
                               (Spec.dwt2 mode c0 c1 r0 r1 x).2.2.2]) := by
  rw [AFB2D_forward_channels mode r0.reverse r1.reverse c0.reverse c1.reverse xs
    (Spec.rowsMap (Spec.dwt mode r0)) (Spec.rowsMap (Spec.dwt mode r1)) (Spec.colsMap (Spec.dwt mode c0)) (Spec.colsMap (Spec.dwt mode c1))
    (fun c hc => ⟨alongO_W_total mode hm r0 hr0 _ (hx _ (getD_mem xs c [] hc)).2, alongO_W_total mode hm r1 hr1 _ (hx _ (getD_mem xs c [] hc)).2⟩)
    (fun c hc y hy => by
      have hyl : 1 ≤ y.length := by
        rcases hy with rfl | rfl <;> (simp [Spec.rowsMap]; exact (hx _ (getD_mem xs c [] hc)).1)
      exact ⟨alongO_H_total mode hm c0 hc0 y hyl, alongO_H_total mode hm c1 hc1 y hyl⟩)]
  rw [map_eq_tab xs _ [], map_eq_tab xs _ []]
  rfl

/-- the J-level 2-D transform on ANY number of channels acts channel by channel: every channel of every band is
`wavedec2` of that channel alone, for every J -/
theorem DWTForward_multi (mode : Mode) (hm : mode = .zero ∨ mode = .symmetric ∨ mode = .periodic)
    (c0 c1 r0 r1 : List R) (hc0 : 2 ≤ c0.length) (hc1 : 2 ≤ c1.length) (hr0 : 2 ≤ r0.length) (hr1 : 2 ≤ r1.length)
    (J : Nat) (xs : List (Img R)) (hx : ∀ x ∈ xs, NonEmptyImg x) :
    DWTForwardM mode J [c0, c1, r0, r1] xs
      = some (xs.map (fun x => (Spec.wavedec2 mode c0 c1 r0 r1 J x).1),
              (List.range J).map fun j => xs.map fun x => (Spec.wavedec2 mode c0 c1 r0 r1 J x).2.getD j []) := by
  simp only [DWTForwardM, wave4, Option.bind_eq_bind, Option.bind_some]
  induction J generalizing xs with
  | zero => simp [DWTForward, Spec.wavedec2]
  | succ J ih =>
    simp only [DWTForward]
    rw [AFB2D_forward_multi mode (modeOK_of mode hm) c0 c1 r0 r1 hc0 hc1 hr0 hr1 xs hx]
    simp only [Option.bind_eq_bind, Option.bind_some]
    have hx' : ∀ y ∈ xs.map (fun x => (Spec.dwt2 mode c0 c1 r0 r1 x).1), NonEmptyImg y := by
      intro y hy
      simp only [List.mem_map] at hy
      obtain ⟨a, ha, rfl⟩ := hy
      simp only [Spec.dwt2]
      exact dwt2_cA_nonempty mode (dwt_length mode hm) c0 r0 hc0 hr0 a (hx a ha)
    rw [ih _ hx']
    simp only [Option.bind_some, Spec.wavedec2, List.map_map, Function.comp_def]
    congr 2
    rw [List.range_succ_eq_map]
    simp only [List.map_cons, List.map_map, Function.comp_def, Spec.dwt2, List.getD_cons_zero, List.getD_cons_succ]

end WV.C01M
