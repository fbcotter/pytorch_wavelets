/-
  C05 — two dimensions, periodization: `AFB2D.backward` is the adjoint of `AFB2D.forward` on every image, odd sizes
  included.

  In periodization mode an odd-length axis is extended by repeating its last sample, so the backward pass has to add the
  gradient of the repeated sample to the last one (`foldCrop`); in two dimensions the code synthesises the columns of the
  two band pairs, then the rows, and folds / crops ONCE per axis at the very end (`foldCrop2`).  Folding rows commutes
  with the row-wise synthesis because the synthesis is additive in the pair of bands (`idwt_per_add`,
  `rowzip_colzip_fold`); with the one-dimensional adjointness (C05.pair_per_adjoint) lifted along both axes
  (`C05D.pair2_adjoint`) this gives `AFB2D_per_adjoint` on one channel for every `H, W ≥ 1` and even filter lengths
  `L ≤ size + size % 2` per axis (the complement of the recorded short-level finding).
-/
import WaveletsVerif.Properties.C05D
namespace WV.C05P
open Finset WV WV.C04 WV.C06 WV.C05D
variable {R : Type} [CommRing R]

/-- `Ap h x` = PyWavelets' periodized `dwt` of `x` for the one filter `h` (`Spec.dwt`); it is the value `afb1d` computes in
periodization mode with the buffer `h.reverse`, for even `L ≤ N + N % 2` (`afb1dOne_per_pair`) -/
abbrev Ap (h : List R) : List R → List R := Spec.dwt .periodization h
/-- `Ip g0 g1 a b` = PyWavelets' periodized `idwt` (`Spec.idwt`); it is the value `sfb1d` computes in periodization mode with the
buffers `(g0, g1)` when `L − 2 ≤ 2n` (`C10.sfb1dCh_per_eq_idwt_partial`) -/
abbrev Ip (g0 g1 : List R) : List R → List R → List R := Spec.idwt .periodization g0 g1

theorem afb1dOne_per_pair (h0 h1 : List R) (hL : 2 ≤ h0.length) (hLe : h0.length % 2 = 0) (hh1 : h1.length = h0.length) (N : Nat)
    (hN : 1 ≤ N) (hLN : h0.length ≤ N + N % 2) (c : List R) (hc : c.length = N) :
    afb1dOne .periodization h0.reverse c = some (Ap h0 c) ∧ afb1dOne .periodization h1.reverse c = some (Ap h1 c) := by
  subst hc
  exact ⟨C01.afb1dOne_per_eq_dwt_partial_all h0 c hLe hL hN hLN,
    C01.afb1dOne_per_eq_dwt_partial_all h1 c (by omega) (by omega) hN (by omega)⟩

theorem rect_Ap_band (wc wr : List R) (x : Img R) (H W : Nat) (hx : Rect x H W) (hH : 1 ≤ H) (hW : 1 ≤ W) :
    Rect (alongH (Ap wc) (alongW (Ap wr) x)) ((H + H % 2) / 2) ((W + W % 2) / 2) :=
  alongH_rect_of_length (Ap wc) _ H _ _
    (alongW_rect_of_length (Ap wr) x H W _ hx (fun c hc => by rw [length_dwt_per, hc])) hH (by omega) (fun c hc => by rw [length_dwt_per, hc])

/-- `Bp h0 h1 N a b` = what `AFB1D.backward` returns in periodization mode on one channel for the cotangents `(a, b)`: `sfb1d` with
the analysis buffers `(h0.reverse, h1.reverse)`, then the fold of the repeated sample's gradient and the crop to the saved input
length `N` (`foldCrop`) -/
def Bp (h0 h1 : List R) (N : Nat) (a b : List R) : List R := foldCrop .periodization N (Ip h0.reverse h1.reverse a b)

theorem adjP1 (h0 h1 : List R) (hL : 2 ≤ h0.length) (hLe : h0.length % 2 = 0) (hh1 : h1.length = h0.length) (N : Nat) (hN : 1 ≤ N)
    (hLN : h0.length ≤ N + N % 2) (c a b : List R) (hc : c.length = N) (ha : a.length = (N + N % 2) / 2) (hb : b.length = (N + N % 2) / 2) :
    (∑ k ∈ range ((N + N % 2) / 2), getN (Ap h0 c) k * getN a k) + (∑ k ∈ range ((N + N % 2) / 2), getN (Ap h1 c) k * getN b k)
      = ∑ i ∈ range N, getN c i * getN (Bp h0 h1 N a b) i :=
  C05.pair_per_adjoint h0 h1 hL hLe hh1 N _ (halfUp_pos N hN) ((two_mul_halfUp N).imp Eq.symm Eq.symm) c a b hc ha

/-- `AFB1D` in periodization: the analysis pair and the folded, cropped synthesis with the same buffers -/
theorem pairAdj_per (h0 h1 : List R) (hL : 2 ≤ h0.length) (hLe : h0.length % 2 = 0) (hh1 : h1.length = h0.length) (N : Nat) (hN : 1 ≤ N)
    (hLN : h0.length ≤ N + N % 2) : PairAdj (Ap h0) (Ap h1) (Bp h0 h1 N) N ((N + N % 2) / 2) where
  len0 := fun c hc => by rw [length_dwt_per, hc]
  len1 := fun c hc => by rw [length_dwt_per, hc]
  adj := adjP1 h0 h1 hL hLe hh1 N hN hLN

theorem idwt_per_add (g0 g1 a a' b b' : List R) (ha : a'.length = a.length) (hb : b.length = a.length) (hb' : b'.length = a.length) :
    Ip g0 g1 (vadd a a') (vadd b b') = vadd (Ip g0 g1 a b) (Ip g0 g1 a' b') := by
  have hla : (vadd a a').length = a.length := by simp [vadd]
  apply list_ext_getN
  · rw [length_idwt_per, hla]; simp [vadd, length_idwt_per]
  · intro u hu
    rw [length_idwt_per, hla] at hu
    rw [getN_vadd _ _ _ (by rw [length_idwt_per]; exact hu)]
    unfold Ip Spec.idwt
    simp only [hla, ha]
    rw [getN_tab, getN_tab, getN_tab, if_pos hu, if_pos hu, if_pos hu]
    simp only [sumN_eq]
    rw [← Finset.sum_add_distrib]
    apply Finset.sum_congr rfl; intro r _
    by_cases hout : (((u:Int) + ((g0.length/2 : Nat):Int) - 1) % ((2 * a.length : Nat):Int) + (r:Int) * ((2 * a.length : Nat):Int) < 0 ∨
        ((2 * a.length + g0.length - 2 : Nat):Int) ≤ ((u:Int) + ((g0.length/2 : Nat):Int) - 1) % ((2 * a.length : Nat):Int) + (r:Int) * ((2 * a.length : Nat):Int))
    · simp only [hout, if_true]; ring
    · simp only [hout, if_false]
      rw [← Finset.sum_add_distrib]
      apply Finset.sum_congr rfl; intro k hk
      have hk' : k < a.length := by simpa using hk
      rw [getN_vadd _ _ _ hk', getN_vadd _ _ _ (by omega)]
      ring

section adjoint2d
variable (wr0 wr1 wc0 wc1 : List R) (hLr : 2 ≤ wr0.length) (hLre : wr0.length % 2 = 0) (hwr : wr1.length = wr0.length)
    (hLc : 2 ≤ wc0.length) (hLce : wc0.length % 2 = 0) (hwc : wc1.length = wc0.length) (H W : Nat) (hH : 1 ≤ H) (hW : 1 ≤ W)
    (hfH : wc0.length ≤ H + H % 2) (hfW : wr0.length ≤ W + W % 2)

include hLr hLre hwr hLc hLce hwc hH hW hfH hfW in
/-- the forward pass on one channel in periodization (`w·` are the analysis filters; the module's buffers are their reverses) -/
theorem AFB2D_forward_val (x : Img R) (hx : Rect x H W) :
    AFB2D_forward .periodization wr0.reverse wr1.reverse wc0.reverse wc1.reverse [x]
      = some ([alongH (Ap wc0) (alongW (Ap wr0) x)],
              [[alongH (Ap wc1) (alongW (Ap wr0) x), alongH (Ap wc0) (alongW (Ap wr1) x), alongH (Ap wc1) (alongW (Ap wr1) x)]]) :=
  AFB2D_forward_one .periodization _ _ _ _ (Ap wr0) (Ap wr1) (Ap wc0) (Ap wc1) x H W hx
    (afb1dOne_per_pair wr0 wr1 hLr hLre hwr W hW hfW) (afb1dOne_per_pair wc0 wc1 hLc hLce hwc H hH hfH)

/-- the un-folded synthesis of the four cotangent bands -/
def dxFullP (gll glh ghl ghh : Img R) : Img R :=
  let Kh := (H + H % 2) / 2
  let Kw := (W + W % 2) / 2
  rowzip (Ip wr0.reverse wr1.reverse) (2 * Kh) (2 * Kw)
    (colzip (Ip wc0.reverse wc1.reverse) (2 * Kh) Kw gll glh) (colzip (Ip wc0.reverse wc1.reverse) (2 * Kh) Kw ghl ghh)

theorem sfb_per_val (w0 w1 : List R) (hL : 2 ≤ w0.length) (hw : w1.length = w0.length) (K : Nat) (hK : 1 ≤ K) (hfit : w0.length ≤ 2 * K)
    (a b : List R) (ha : a.length = K) (hb : b.length = K) :
    sfb1dCh .periodization w0.reverse w1.reverse a b = some (Ip w0.reverse w1.reverse a b) :=
  C10.sfb1dCh_per_eq_idwt_partial w0.reverse w1.reverse a b (by simpa using hL) (by simp [hw]) (by omega) (by rw [hb, ha])
    (by simp; rw [ha]; omega)

theorem synthVal_per (w0 w1 : List R) (hL : 2 ≤ w0.length) (hw : w1.length = w0.length) (K : Nat) (hK : 1 ≤ K) (hfit : w0.length ≤ 2 * K) :
    SynthVal .periodization w0.reverse w1.reverse (Ip w0.reverse w1.reverse) K (2 * K) where
  val := sfb_per_val w0 w1 hL hw K hK hfit
  len := fun a b ha => by rw [length_idwt_per, ha]

include hLr hwr hLc hwc hH hW hfH hfW in
/-- the backward pass on one channel: column synthesis of (ll, lh) and of (hl, hh), row synthesis, one fold + crop per axis at the end -/
theorem AFB2D_backward_val (gll glh ghl ghh : Img R)
    (r1 : Rect gll ((H + H % 2) / 2) ((W + W % 2) / 2)) (r2 : Rect glh ((H + H % 2) / 2) ((W + W % 2) / 2))
    (r3 : Rect ghl ((H + H % 2) / 2) ((W + W % 2) / 2)) (r4 : Rect ghh ((H + H % 2) / 2) ((W + W % 2) / 2)) :
    AFB2D_backward .periodization wr0.reverse wr1.reverse wc0.reverse wc1.reverse H W [gll] [[glh, ghl, ghh]]
      = some [foldCrop2 .periodization H W (dxFullP wr0 wr1 wc0 wc1 H W gll glh ghl ghh)] := by
  have hKh := halfUp_pos H hH
  have hKw := halfUp_pos W hW
  rw [AFB2D_backward_eq_SFB2D_forward, SFB2D_forward_one .periodization _ _ _ _ (Ip wr0.reverse wr1.reverse)
    (Ip wc0.reverse wc1.reverse) _ _ _ _ (synthVal_per wc0 wc1 hLc hwc _ hKh (by omega)) (synthVal_per wr0 wr1 hLr hwr _ hKw (by omega))
    gll glh ghl ghh r1 r2 r3 r4 hKh hKw]
  rfl

/-- a row of the column-wise backward value: the row of the un-folded synthesis, plus the extra row when the height is odd
and this is the last row -/
theorem colzip_Bp_row (w0 w1 : List R) (N K Kw : Nat) (hK : N ≤ 2 * K) (a b : Img R) (ra : Rect a K Kw)
    (i : Nat) (hi : i < N) :
    (colzip (Bp w0 w1 N) N Kw a b).getD i []
      = if N < 2 * K ∧ i + 1 = N then
          vadd ((colzip (Ip w0.reverse w1.reverse) (2 * K) Kw a b).getD i []) ((colzip (Ip w0.reverse w1.reverse) (2 * K) Kw a b).getD N [])
        else (colzip (Ip w0.reverse w1.reverse) (2 * K) Kw a b).getD i [] := by
  unfold colzip
  rw [getD_tab2_row _ _ _ i hi, getD_tab2_row _ _ _ i (by omega)]
  have hlen : ∀ j, (Ip w0.reverse w1.reverse (col a j) (col b j)).length = 2 * K := fun j => by rw [length_idwt_per]; simp [col, ra.1]
  by_cases hc : N < 2 * K ∧ i + 1 = N
  · rw [if_pos hc, getD_tab2_row _ _ _ N hc.1]
    apply list_ext_getN
    · simp [vadd]
    · intro j hj
      have hj' : j < Kw := by simpa using hj
      rw [getN_vadd _ _ _ (by simpa using hj'), getN_tab, getN_tab, getN_tab, if_pos hj', if_pos hj', if_pos hj']
      unfold Bp
      rw [getN_foldCrop_per N _ i hi, hlen, if_pos hc]
  · rw [if_neg hc]
    apply tab_ext rfl; intro j _
    unfold Bp
    rw [getN_foldCrop_per N _ i hi, hlen, if_neg hc]

/-- folding commutes with the separable synthesis: the fold of the columns adds the extra row to the last one, and the row
synthesis is additive in the pair of bands, so synthesising the folded rows gives the folded synthesis -/
theorem rowzip_colzip_fold (w0r w1r w0c w1c : List R) (H W Kh Kw : Nat) (hHf : 2 * Kh = H ∨ 2 * Kh = H + 1)
    (hWf : 2 * Kw = W ∨ 2 * Kw = W + 1) (hKh : 1 ≤ Kh) (hKw : 1 ≤ Kw) (a b a' b' : Img R) (ra : Rect a Kh Kw)
    (ra' : Rect a' Kh Kw) :
    rowzip (Bp w0r w1r W) H W (colzip (Bp w0c w1c H) H Kw a b) (colzip (Bp w0c w1c H) H Kw a' b')
      = foldCrop2 .periodization H W (rowzip (Ip w0r.reverse w1r.reverse) (2 * Kh) (2 * Kw)
          (colzip (Ip w0c.reverse w1c.reverse) (2 * Kh) Kw a b) (colzip (Ip w0c.reverse w1c.reverse) (2 * Kh) Kw a' b')) := by
  rw [foldCrop2_val .periodization _ (2 * Kh) (2 * Kw) H W (rowzip_rect _ _ _ _ _) (by omega) (by omega)
    (fun c hc => foldCrop_per_length H c (by rw [hc]; exact hHf)) (fun c hc => foldCrop_per_length W c (by rw [hc]; exact hWf))]
  unfold rowzip
  apply tab2_congr; intro i hi j hj
  have hB : ∀ a b : List R, Bp w0r w1r W a b = foldCrop .periodization W (Ip w0r.reverse w1r.reverse a b) := fun _ _ => rfl
  rw [hB]
  refine congrArg (fun d => getN (foldCrop .periodization W d) j) ?_
  -- the row of the column-folded synthesis is the row synthesis of the folded rows
  rw [colzip_Bp_row w0c w1c H Kh Kw (by omega) a b ra i hi, colzip_Bp_row w0c w1c H Kh Kw (by omega) a' b' ra' i hi]
  set P := colzip (Ip w0c.reverse w1c.reverse) (2 * Kh) Kw a b with hP
  set Q := colzip (Ip w0c.reverse w1c.reverse) (2 * Kh) Kw a' b' with hQ
  have lP : ∀ t < 2 * Kh, (P.getD t []).length = Kw := fun t ht => row_length P _ _ (colzip_rect _ _ _ _ _) t ht
  have lQ : ∀ t < 2 * Kh, (Q.getD t []).length = Kw := fun t ht => row_length Q _ _ (colzip_rect _ _ _ _ _) t ht
  have hpix : ∀ j' < 2 * Kw, getN (tab (2 * Kw) fun j' => getN (foldCrop .periodization H (col (tab2 (2 * Kh) (2 * Kw) fun i j =>
        getN (Ip w0r.reverse w1r.reverse (P.getD i []) (Q.getD i [])) j) j')) i) j'
      = if H < 2 * Kh ∧ i + 1 = H then getN (Ip w0r.reverse w1r.reverse (P.getD i []) (Q.getD i [])) j'
          + getN (Ip w0r.reverse w1r.reverse (P.getD H []) (Q.getD H [])) j'
        else getN (Ip w0r.reverse w1r.reverse (P.getD i []) (Q.getD i [])) j' := by
    intro j' hj2
    rw [getN_tab, if_pos hj2, col_tab2 _ _ _ j' hj2, getN_foldCrop_per H _ i hi, length_tab, getN_tab,
      if_pos (show i < 2 * Kh by omega), getN_tab]
    by_cases hc : H < 2 * Kh ∧ i + 1 = H
    · rw [if_pos hc, if_pos hc, if_pos hc.1]
    · rw [if_neg hc, if_neg hc]
  by_cases hc : H < 2 * Kh ∧ i + 1 = H
  · rw [if_pos hc, if_pos hc, idwt_per_add _ _ _ _ _ _ (by rw [lP i (by omega), lP H hc.1]) (by rw [lP i (by omega), lQ i (by omega)])
      (by rw [lP i (by omega), lQ H hc.1])]
    apply list_ext_getN
    · simp only [vadd, length_tab, length_idwt_per, lP i (by omega)]
    · intro j' hj'
      have hj2 : j' < 2 * Kw := by simpa only [vadd, length_tab, length_idwt_per, lP i (by omega)] using hj'
      rw [hpix j' hj2, if_pos hc, getN_vadd _ _ _ (by rw [length_idwt_per, lP i (by omega)]; exact hj2)]
  · rw [if_neg hc, if_neg hc]
    apply list_ext_getN
    · simp only [length_tab, length_idwt_per, lP i (by omega)]
    · intro j' hj'
      have hj2 : j' < 2 * Kw := by simpa only [length_idwt_per, lP i (by omega)] using hj'
      rw [hpix j' hj2, if_neg hc]

include hLr hLre hwr hLc hLce hwc hH hW hfH hfW in
theorem AFB2D_per_adjoint_val (x gll glh ghl ghh : Img R) (hx : Rect x H W)
    (r1 : Rect gll ((H + H % 2) / 2) ((W + W % 2) / 2)) (r2 : Rect glh ((H + H % 2) / 2) ((W + W % 2) / 2))
    (r3 : Rect ghl ((H + H % 2) / 2) ((W + W % 2) / 2)) (r4 : Rect ghh ((H + H % 2) / 2) ((W + W % 2) / 2)) :
    dot2 ((H + H % 2) / 2) ((W + W % 2) / 2) (alongH (Ap wc0) (alongW (Ap wr0) x)) gll
        + dot2 ((H + H % 2) / 2) ((W + W % 2) / 2) (alongH (Ap wc1) (alongW (Ap wr0) x)) glh
        + dot2 ((H + H % 2) / 2) ((W + W % 2) / 2) (alongH (Ap wc0) (alongW (Ap wr1) x)) ghl
        + dot2 ((H + H % 2) / 2) ((W + W % 2) / 2) (alongH (Ap wc1) (alongW (Ap wr1) x)) ghh
      = dot2 H W x (foldCrop2 .periodization H W (dxFullP wr0 wr1 wc0 wc1 H W gll glh ghl ghh)) := by
  rw [pair2_adjoint (Ap wr0) (Ap wr1) (Ap wc0) (Ap wc1) (Bp wr0 wr1 W) (Bp wc0 wc1 H) H W _ _
    (pairAdj_per wc0 wc1 hLc hLce hwc H hH hfH) (pairAdj_per wr0 wr1 hLr hLre hwr W hW hfW) x gll glh ghl ghh hx r1 r2 r3 r4 hH
    (halfUp_pos W hW)]
  exact congrArg (dot2 H W x) (rowzip_colzip_fold wr0 wr1 wc0 wc1 H W _ _ (two_mul_halfUp H) (two_mul_halfUp W)
    (halfUp_pos H hH) (halfUp_pos W hW) gll glh ghl ghh r1 r3)

include hLr hLre hwr hLc hLce hwc hH hW hfH hfW in
/-- `AFB2D.backward` is the adjoint of `AFB2D.forward` in periodization mode, one channel, every image size (odd sizes
included: the gradient of the repeated last row / column is folded back) and even filter lengths `L ≤ size + size % 2`:
`⟨ll,gll⟩ + ⟨lh,glh⟩ + ⟨hl,ghl⟩ + ⟨hh,ghh⟩ = ⟨x, backward(gll, glh, ghl, ghh)⟩` -/
theorem AFB2D_per_adjoint (x gll glh ghl ghh : Img R) (hx : Rect x H W)
    (r1 : Rect gll ((H + H % 2) / 2) ((W + W % 2) / 2)) (r2 : Rect glh ((H + H % 2) / 2) ((W + W % 2) / 2))
    (r3 : Rect ghl ((H + H % 2) / 2) ((W + W % 2) / 2)) (r4 : Rect ghh ((H + H % 2) / 2) ((W + W % 2) / 2)) :
    ∃ ll lh hl hh dx, AFB2D_forward .periodization wr0.reverse wr1.reverse wc0.reverse wc1.reverse [x] = some ([ll], [[lh, hl, hh]]) ∧
      AFB2D_backward .periodization wr0.reverse wr1.reverse wc0.reverse wc1.reverse H W [gll] [[glh, ghl, ghh]] = some [dx] ∧
      dot2 ((H + H % 2) / 2) ((W + W % 2) / 2) ll gll + dot2 ((H + H % 2) / 2) ((W + W % 2) / 2) lh glh
        + dot2 ((H + H % 2) / 2) ((W + W % 2) / 2) hl ghl + dot2 ((H + H % 2) / 2) ((W + W % 2) / 2) hh ghh
        = dot2 H W x dx :=
  ⟨_, _, _, _, _, AFB2D_forward_val wr0 wr1 wc0 wc1 hLr hLre hwr hLc hLce hwc H W hH hW hfH hfW x hx,
    AFB2D_backward_val wr0 wr1 wc0 wc1 hLr hwr hLc hwc H W hH hW hfH hfW gll glh ghl ghh r1 r2 r3 r4,
    AFB2D_per_adjoint_val wr0 wr1 wc0 wc1 hLr hLre hwr hLc hLce hwc H W hH hW hfH hfW x gll glh ghl ghh hx r1 r2 r3 r4⟩

end adjoint2d

end WV.C05P

namespace WV.C05P
open WV WV.C04 WV.C06 WV.C05D
/-- the hypotheses of `AFB2D_per_adjoint` are satisfiable at an odd size: the theorem instantiated with the two-tap filters
`[1, 1]`, `[1, -1]` on a 3 × 5 image of integers and 2 × 3 cotangent bands -/
example : ∃ ll lh hl hh dx,
    AFB2D_forward .periodization ([1, 1] : List Int).reverse ([1, -1] : List Int).reverse ([1, 1] : List Int).reverse ([1, -1] : List Int).reverse
        [[[1, 2, 3, 4, 5], [6, 7, 8, 9, 10], [11, 12, 13, 14, 15]]] = some ([ll], [[lh, hl, hh]]) ∧
    AFB2D_backward .periodization ([1, 1] : List Int).reverse ([1, -1] : List Int).reverse ([1, 1] : List Int).reverse ([1, -1] : List Int).reverse 3 5
        [[[1, 0, 2], [0, 3, 1]]] [[[[1, 1, 0], [2, 0, 1]], [[0, 1, 1], [1, 1, 1]], [[3, 0, 0], [0, 0, 2]]]] = some [dx] ∧
    dot2 ((3 + 3 % 2) / 2) ((5 + 5 % 2) / 2) ll [[1, 0, 2], [0, 3, 1]] + dot2 ((3 + 3 % 2) / 2) ((5 + 5 % 2) / 2) lh [[1, 1, 0], [2, 0, 1]]
      + dot2 ((3 + 3 % 2) / 2) ((5 + 5 % 2) / 2) hl [[0, 1, 1], [1, 1, 1]] + dot2 ((3 + 3 % 2) / 2) ((5 + 5 % 2) / 2) hh [[3, 0, 0], [0, 0, 2]]
      = dot2 3 5 [[1, 2, 3, 4, 5], [6, 7, 8, 9, 10], [11, 12, 13, 14, 15]] dx :=
  AFB2D_per_adjoint ([1, 1] : List Int) [1, -1] [1, 1] [1, -1] (by decide) (by decide) (by decide) (by decide) (by decide) (by decide) 3 5 (by decide) (by decide)
    (by decide) (by decide) [[1, 2, 3, 4, 5], [6, 7, 8, 9, 10], [11, 12, 13, 14, 15]] [[1, 0, 2], [0, 3, 1]] [[1, 1, 0], [2, 0, 1]] [[0, 1, 1], [1, 1, 1]]
    [[3, 0, 0], [0, 0, 2]] (by simp [Rect]) (by simp [Rect]) (by simp [Rect]) (by simp [Rect]) (by simp [Rect])
end WV.C05P
