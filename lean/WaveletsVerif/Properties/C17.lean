/-
  C17 — orthogonal wavelets with periodization give an orthogonal transform.

  * In exactly C17's regime (every level even and at least the filter length) the code's
    periodization branch IS the circular filter bank `y_k = Σ_j h_j x[(2k + L/2 − j) mod N]`
    (`per_refines_circular`, an instance of `C01.afb1dOne_per_eq_dwt_partial`).
  * For every two-tap orthonormal bank (Haar and its rotations) over any commutative ring the
    circular bank preserves energy exactly, for every even length `N ≥ 2` (`isometry_two_tap`).
  * For every even filter length and every even signal length `N ≥ 2` (`N < L` included), PyWavelets'
    periodization synthesis with the reversed filters is the transpose of the analysis, for all
    filter values (`per_synthesis_is_transpose`, which is `WV.per_synthesis_is_transpose` of
    Lemmas/Circ.lean); with an orthonormal bank the analysis is therefore an isometry
    (`isometry`: `⟨Ax, Ax⟩ = ⟨x, SAx⟩ = ⟨x, x⟩`).
  * Where the code equals those formulas (first item) the same holds for the models of `afb1d`
    and `sfb1d` (`impl_isometry`, `impl_transpose`).
-/
import WaveletsVerif.Properties.C01
import WaveletsVerif.Properties.C05
import WaveletsVerif.Properties.C02
namespace WV.C17
open Finset WV
variable {R : Type} [CommRing R]

/-- the code's periodization branch is the circular two-band bank whenever `N` is even and `≥ L` -/
theorem per_refines_circular (h x : List R) (hLe : h.length % 2 = 0) (hL : 2 ≤ h.length)
    (hNe : x.length % 2 = 0) (hLN : h.length ≤ x.length) :
    afb1dOne .periodization h.reverse x = some (Spec.dwt .periodization h x) :=
  C01.afb1dOne_per_eq_dwt_partial h x hLe hL hNe hLN

/-- energy `Σ x_i²` -/
def energy (x : List R) : R := ∑ i ∈ range x.length, getN x i * getN x i

theorem dwt_per_length (h x : List R) (hNe : x.length % 2 = 0) : (Spec.dwt .periodization h x).length = x.length / 2 := by
  rw [length_dwt_per, hNe, Nat.add_zero]

/-- two-tap orthonormal banks `h0 = (a, b)`, `h1 = (b, −a)`, `a² + b² = 1` (Haar: `a = b = 1/√2`):
the circular bank preserves energy exactly, `‖x‖² = ‖lo‖² + ‖hi‖²`, for every even length `N ≥ 2`. -/
theorem isometry_two_tap (a b : R) (hab : a*a + b*b = 1) (x : List R) (hx : x.length % 2 = 0) (hn : 2 ≤ x.length) :
    energy (Spec.dwt .periodization [a, b] x) + energy (Spec.dwt .periodization [b, -a] x) = energy x := by
  have hodd : ¬ (x.length % 2 = 1) := by omega
  unfold energy Spec.dwt
  simp only [hodd, if_false, length_tab, List.length_cons, List.length_nil]
  have e : x.length = 2 * (x.length / 2) := by omega
  conv_rhs => rw [e, sum_range_two_mul]
  rw [← Finset.sum_add_distrib]
  apply Finset.sum_congr rfl; intro k hk
  have hk' : k < x.length / 2 := by simpa using hk
  rw [getN_tab, getN_tab]
  simp only [hk', if_true]
  have s1 : ∀ (c d : R), (sumN (0+1+1) fun j => getN [c, d] j * getZ x ((2*(k:Int) + (((0+1+1)/2 : Nat):Int) - j) % (x.length : Int)))
      = c * getN x (2*k+1) + d * getN x (2*k) := by
    intro c d
    have hk1 : 2*k + 1 < x.length := by omega
    simp only [sumN]
    rw [getZ_emod_of_lt x _ (2*k+1) hk1 (by push_cast; ring),
      getZ_emod_of_lt x _ (2*k) (Nat.lt_of_succ_lt hk1) (by push_cast; ring)]
    simp [getN]
  rw [s1 a b, s1 b (-a)]
  calc (a * getN x (2*k+1) + b * getN x (2*k)) * (a * getN x (2*k+1) + b * getN x (2*k))
        + (b * getN x (2*k+1) + -a * getN x (2*k)) * (b * getN x (2*k+1) + -a * getN x (2*k))
      = (a*a + b*b) * (getN x (2*k) * getN x (2*k) + getN x (2*k+1) * getN x (2*k+1)) := by ring
    _ = getN x (2*k) * getN x (2*k) + getN x (2*k+1) * getN x (2*k+1) := by rw [hab]; ring

/-- The inverse is the transpose (any even filter length, any even signal length `2n ≥ 2`, no condition on the
filter values): PyWavelets' periodization synthesis with the REVERSED analysis filters is the adjoint of the
periodization analysis, `⟨x, S(lo,hi)⟩ = ⟨A₀x, lo⟩ + ⟨A₁x, hi⟩` for all `x, lo, hi`. -/
theorem per_synthesis_is_transpose (h0 h1 x lo hi : List R) (n : Nat) (hn : 1 ≤ n) (hx : x.length = 2 * n)
    (hlo : lo.length = n) (hL : 2 ≤ h0.length) (hLe : h0.length % 2 = 0) (hh1 : h1.length = h0.length) :
    ∑ u ∈ range (2*n), getN x u * getN (Spec.idwt .periodization h0.reverse h1.reverse lo hi) u
      = ∑ k ∈ range n, getN lo k * getN (Spec.dwt .periodization h0 x) k
        + ∑ k ∈ range n, getN hi k * getN (Spec.dwt .periodization h1 x) k :=
  WV.per_synthesis_is_transpose h0 h1 x lo hi n hn hx hlo hL hLe hh1

/-- Energy preservation for every orthonormal bank (any even filter length `L ≥ 2`, any even signal length
`N ≥ 2`, including `N < L`): if the bank is orthonormal — `PRBank` with the synthesis filters the reversed
analysis filters, i.e. `Σ_a h_a h_{a+2m} = δ_m` and the cross terms vanish — then the circular two-band
analysis is an isometry, `‖A₀x‖² + ‖A₁x‖² = ‖x‖²`.  Proof: `⟨Ax, Ax⟩ = ⟨x, AᵀAx⟩ = ⟨x, SAx⟩ = ⟨x, x⟩` by
`per_synthesis_is_transpose` and `C02.pr_periodization_even`. -/
theorem isometry (h0 h1 x : List R) (hL : 2 ≤ h0.length) (hLe : h0.length % 2 = 0) (hh1 : h1.length = h0.length)
    (horth : PRBank h0 h1 h0.reverse h1.reverse) (hNe : x.length % 2 = 0) (hN : 2 ≤ x.length) :
    energy (Spec.dwt .periodization h0 x) + energy (Spec.dwt .periodization h1 x) = energy x := by
  set n := x.length / 2 with hn
  have hx : x.length = 2 * n := by omega
  have hlen : ∀ h : List R, (Spec.dwt .periodization h x).length = n := fun h => dwt_per_length h x hNe
  have ht := per_synthesis_is_transpose h0 h1 x (Spec.dwt .periodization h0 x) (Spec.dwt .periodization h1 x) n
    (by omega) hx (hlen h0) hL hLe hh1
  unfold energy
  rw [hlen h0, hlen h1, ← ht, hx]
  apply Finset.sum_congr rfl; intro u hu
  have hu' : u < x.length := by rw [hx]; simpa using hu
  rw [C02.pr_periodization_even h0 h1 h0.reverse h1.reverse x hL hLe hh1 (by simp) (by simp [hh1]) horth hNe hN u hu']

/-- Implementation-level isometry: in the C17 regime (even `N ≥ L`) the model of `lowlevel.afb1d` in
periodization mode returns bands whose energies add up to the energy of the input, for every orthonormal bank. -/
theorem impl_isometry (h0 h1 x : List R) (hL : 2 ≤ h0.length) (hLe : h0.length % 2 = 0) (hh1 : h1.length = h0.length)
    (horth : PRBank h0 h1 h0.reverse h1.reverse) (hNe : x.length % 2 = 0) (hLN : h0.length ≤ x.length) :
    ∃ lo hi, afb1dOne .periodization h0.reverse x = some lo ∧ afb1dOne .periodization h1.reverse x = some hi ∧
      energy lo + energy hi = energy x :=
  ⟨_, _, per_refines_circular h0 x hLe hL hNe hLN,
    per_refines_circular h1 x (by rw [hh1]; exact hLe) (by rw [hh1]; exact hL) hNe (by rw [hh1]; exact hLN),
    isometry h0 h1 x hL hLe hh1 horth hNe (Nat.le_trans hL hLN)⟩

/-- Implementation-level "inverse = transpose": in the same regime the models of `sfb1d` (with the reversed
filters) and of `afb1d` are mutual transposes, hence `SFB1D` is the exact backward pass of `AFB1D`. -/
theorem impl_transpose (h0 h1 x lo hi : List R) (hL : 2 ≤ h0.length) (hLe : h0.length % 2 = 0)
    (hh1 : h1.length = h0.length) (hNe : x.length % 2 = 0) (hLN : h0.length ≤ x.length)
    (hlo : lo.length = x.length / 2) (hhi : hi.length = x.length / 2) :
    ∃ a0 a1 y, afb1dOne .periodization h0.reverse x = some a0 ∧ afb1dOne .periodization h1.reverse x = some a1 ∧
      sfb1dCh .periodization h0.reverse h1.reverse lo hi = some y ∧
      ∑ u ∈ range x.length, getN x u * getN y u
        = ∑ k ∈ range (x.length / 2), getN lo k * getN a0 k + ∑ k ∈ range (x.length / 2), getN hi k * getN a1 k := by
  have hx : x.length = 2 * (x.length / 2) := by omega
  have hn1 : 1 ≤ x.length / 2 := by omega
  have hr0 : h0.reverse.length = h0.length := List.length_reverse
  have hr1 : h1.reverse.length = h0.length := by rw [List.length_reverse, hh1]
  refine ⟨_, _, _, per_refines_circular h0 x hLe hL hNe hLN,
    per_refines_circular h1 x (by rw [hh1]; exact hLe) (by rw [hh1]; exact hL) hNe (by rw [hh1]; exact hLN),
    C10.sfb1dCh_per_eq_idwt_partial h0.reverse h1.reverse lo hi (by rw [hr0]; exact hL) (by rw [hr1, hr0])
      (by rw [hlo]; exact hn1) (by rw [hhi, hlo]) (by rw [hr0, hlo, ← hx]; omega), ?_⟩
  have := per_synthesis_is_transpose h0 h1 x lo hi (x.length / 2) hn1 hx hlo hL hLe hh1
  rw [← hx] at this
  exact this

/-- orthonormality is satisfiable beyond two taps: the integer bank `h0 = (0,1,0,0)`, `h1 = (0,0,1,0)`
(a delayed lazy wavelet) is orthonormal -/
example : PRBank ([0, 1, 0, 0] : List Int) [0, 0, 1, 0] ([0, 1, 0, 0] : List Int).reverse ([0, 0, 1, 0] : List Int).reverse := by
  unfold PRBank
  decide

/-- the hypothesis `a*a + b*b = 1` of `isometry_two_tap` holds over ℤ for `a = 1, b = 0` -/
example : (1:Int)*1 + 0*0 = 1 := by decide

end WV.C17
