/-
  C06 — back-propagation through the whole J-level forward DTCWT is the exact adjoint, on dyadic image sizes.

  `DTCWTForward` applies `FWD_J1` to the image and then `FWD_J2PLUS` level after level to the low-pass; autograd therefore runs
  `FWD_J2PLUS.backward` from the coarsest level to the finest and `FWD_J1.backward` last, each with the gradient of the low-pass
  that the coarser levels produced (`DTCWTForwardBackward`: the chain rule over the module's level loop with the library's
  hand-written backward at every level).  On images whose sides are multiples of `2^J` no level pads its input (the edge
  extensions of odd / non-multiple-of-4 sizes are `torch.cat`s differentiated by PyTorch itself), one level is the adjoint of one
  level (`C06.fwdJ1_backward_adjoint_rect`, `C06Q.fwdJ2_backward_adjoint_rect`), and by induction over the levels
  `⟨DTCWTForward x, P⟩ = ⟨x, backward(P)⟩` for every J and every cotangent pyramid `P` (all levels kept, no intermediate scales).
  One channel, symmetric mode; the filters are those of the one-level theorems (`C04P.mkF`: level-1 filters symmetric of odd
  length, q-shift filters of even length ≥ 2 with tree a the reverse of tree b).
-/
import WaveletsVerif.Properties.C06Q
import WaveletsVerif.Properties.C04P
namespace WV.C06J
open Finset WV WV.C04 WV.C06 WV.C06Q WV.C04P
variable {R : Type} [CommRing R]

/-- the chain rule over levels `2 … J` of `DTCWTForward`: `FWD_J2PLUS.backward` from the coarsest level to the finest;
`dhs` are the band cotangents of those levels, finest first, `gl` the cotangent of the final low-pass -/
def loopBackward (s : R) (f : FwdFilters R) : List (List (Cplx R)) → Img R → Option (Img R)
  | [], gl => some gl
  | dh :: rest, gl => do
    let g ← loopBackward s f rest gl
    FWD_J2PLUS_backward s f.h0a f.h1a f.h0b f.h1b g (some dh)

/-- … and `FWD_J1.backward` last; `rc1` is the band size the Function reads at level 1 -/
def DTCWTForwardBackward (s : R) (f : FwdFilters R) (rc1 : Nat × Nat) (dhs : List (List (Cplx R))) (gl : Img R) : Option (Img R) :=
  match dhs with
  | [] => none
  | dh1 :: rest => do
    let g ← loopBackward s f rest gl
    FWD_J1_backward s true f.h0o f.h1o rc1 g (some dh1)

/-- `n` further levels fit without padding: the low-pass handed to each of them has sides that are multiples of 4 -/
def Dy : Nat → Nat → Nat → Prop
  | 0, _, _ => True
  | n+1, a, b => a % 2 = 0 ∧ b % 2 = 0 ∧ 1 ≤ a / 2 ∧ 1 ≤ b / 2 ∧ Dy n (a / 2) (b / 2)

def cot (A B : Nat → Nat → Nat → R) (a b : Nat) : List (Cplx R) := (List.range 6).map fun k => (tab2 a b (A k), tab2 a b (B k))

def bdot (a b : Nat) (hs dh : List (Cplx R)) : R :=
  ∑ k ∈ range 6, (dot2 a b (hs.getD k ([], [])).1 (dh.getD k ([], [])).1 + dot2 a b (hs.getD k ([], [])).2 (dh.getD k ([], [])).2)

/-- the band cotangents of levels `lvl, lvl+1, …` (`n` of them) below a low-pass of size `2a × 2b` -/
def cots (A B : Nat → Nat → Nat → Nat → R) : Nat → Nat → Nat → Nat → List (List (Cplx R))
  | 0, _, _, _ => []
  | n+1, lvl, a, b => cot (A lvl) (B lvl) (a / 2) (b / 2) :: cots A B n (lvl + 1) (a / 2) (b / 2)

def loopDot (A B : Nat → Nat → Nat → Nat → R) : Nat → Nat → Nat → Nat → List (Option (List (Cplx R))) → R
  | n+1, lvl, a, b, h :: hs => bdot (a / 2) (b / 2) (h.getD []) (cot (A lvl) (B lvl) (a / 2) (b / 2)) + loopDot A B n (lvl + 1) (a / 2) (b / 2) hs
  | _, _, _, _, _ => 0

theorem extendMult4_id (x : Img R) (H W : Nat) (hx : Rect x H W) (hH : 1 ≤ H) (h4 : H % 4 = 0) (w4 : W % 4 = 0) : extendMult4 x = x := by
  unfold extendMult4
  have hw := rect_width x H W hx hH
  simp only [hx.1, h4, ne_eq, not_true_eq_false, if_false, hw, w4]

section
variable (s : R) (h0o h1o h0 h1 : List R) (hh0o : h0o.length % 2 = 1) (hh1o : h1o.length % 2 = 1) (hs0 : Symm h0o) (hs1 : Symm h1o)
    (hm0 : h0.length % 2 = 0) (hm0' : 2 ≤ h0.length) (hm1 : h1.length % 2 = 0) (hm1' : 2 ≤ h1.length)
    (A B : Nat → Nat → Nat → Nat → R)

include hm0 hm0' hm1 hm1' in
/-- one level ≥ 2 on a `4H × 4W` input: the outputs do not depend on the cotangent, so they are named once, and the backward pass is
the adjoint for every cotangent `dl` of the low-pass -/
theorem level2_adjoint (x : Img R) (H W : Nat) (hH : 1 ≤ H) (hW : 1 ≤ W) (hx : Rect x (4*H) (4*W)) (a b : Nat → Nat → Nat → R) :
    ∃ ll hs, fwdJ2 s (mkF h0o h1o h0 h1).h0a (mkF h0o h1o h0 h1).h1a (mkF h0o h1o h0 h1).h0b (mkF h0o h1o h0 h1).h1b false x
        = some (ll, some hs) ∧ Rect ll (2*H) (2*W) ∧
      ∀ dl, Rect dl (2*H) (2*W) → ∃ y,
        FWD_J2PLUS_backward s (mkF h0o h1o h0 h1).h0a (mkF h0o h1o h0 h1).h1a (mkF h0o h1o h0 h1).h0b (mkF h0o h1o h0 h1).h1b dl
          (some (cot a b H W)) = some y ∧ Rect y (4*H) (4*W) ∧
        dot2 (2*H) (2*W) ll dl + bdot H W hs (cot a b H W) = dot2 (4*H) (4*W) x y := by
  have key := fun dl hdl => fwdJ2_backward_adjoint_rect s h0 h1 hm0 hm0' hm1 hm1' x dl H W hH hW hx hdl a b
  obtain ⟨ll, hs, _, hF, _, _, rll, _⟩ := key (tab2 (2*H) (2*W) fun _ _ => 0) (tab2_rect _ _ _)
  refine ⟨ll, hs, hF, rll, ?_⟩
  intro dl hdl
  obtain ⟨ll', hs', y, hF', hB, ry, _, hid⟩ := key dl hdl
  rw [hF] at hF'
  simp only [Option.some.injEq, Prod.mk.injEq] at hF'
  rw [hF'.1, hF'.2]
  exact ⟨y, hB, ry, hid⟩

include hm0 hm0' hm1 hm1' in
/-- levels `2 … J`: the chain of `FWD_J2PLUS.backward` is the adjoint of the level loop -/
theorem loop_adjoint : ∀ (n lvl : Nat) (incl : List Bool) (low gl : Img R) (a b : Nat), 1 ≤ a → 1 ≤ b → Rect low (2*a) (2*b) → Dy n a b →
    Rect gl (2 * (a / 2 ^ n)) (2 * (b / 2 ^ n)) →
    ∃ lowF hsl scs y, dtcwtFwdLoop s (mkF h0o h1o h0 h1) (List.replicate n false) incl low = some (lowF, hsl, scs) ∧
      loopBackward s (mkF h0o h1o h0 h1) (cots A B n lvl a b) gl = some y ∧ Rect y (2*a) (2*b) ∧
      dot2 (2 * (a / 2 ^ n)) (2 * (b / 2 ^ n)) lowF gl + loopDot A B n lvl a b hsl = dot2 (2*a) (2*b) low y := by
  intro n
  induction n with
  | zero =>
    intro lvl incl low gl a b _ _ hx _ hg
    rw [Nat.pow_zero, Nat.div_one, Nat.div_one] at hg ⊢
    exact ⟨low, [], [], gl, rfl, rfl, hg, add_zero _⟩
  | succ n ih =>
    intro lvl incl low gl a b ha hb hx hd hg
    obtain ⟨ha2, hb2, ha1, hb1, hdr⟩ := hd
    have e4a := two_mul_of_even ha2
    have e4b := two_mul_of_even hb2
    have hx4 : Rect low (4 * (a / 2)) (4 * (b / 2)) := by rw [← e4a, ← e4b]; exact hx
    have hext : extendMult4 low = low :=
      extendMult4_id low (2*a) (2*b) hx (Nat.mul_pos (by decide) ha) (two_mul_mod_four ha2) (two_mul_mod_four hb2)
    rw [div_two_pow_succ a, div_two_pow_succ b] at hg ⊢
    obtain ⟨ll, hs, hF, rll, hbw⟩ := level2_adjoint s h0o h1o h0 h1 hm0 hm0' hm1 hm1' low (a / 2) (b / 2) ha1 hb1 hx4 (A lvl) (B lvl)
    -- the coarser levels on this level's low-pass, then this level with the gradient they produced
    obtain ⟨lowF, hsl, scs, y', hfr, hbr, ry', hdr'⟩ := ih (lvl + 1) (incl.drop 1) ll gl (a / 2) (b / 2) ha1 hb1 rll hdr hg
    obtain ⟨y, hB, ry, hid⟩ := hbw y' ry'
    refine ⟨lowF, some hs :: hsl, (if incl.headD false then some ll else none) :: scs, y, ?_, ?_, by rw [e4a, e4b]; exact ry, ?_⟩
    · simp only [List.replicate_succ, dtcwtFwdLoop, hext, hF, Option.bind_eq_bind, Option.bind_some, hfr]
    · simp only [cots, loopBackward, hbr, Option.bind_eq_bind, Option.bind_some]
      exact hB
    · rw [e4a, e4b, ← hid, ← hdr']
      simp only [loopDot, Option.getD_some]
      ring

theorem extendEven_id (x : Img R) (H W : Nat) (hx : Rect x H W) (hH : 1 ≤ H) (h2 : H % 2 = 0) (w2 : W % 2 = 0) : extendEven x = x := by
  unfold extendEven
  have hw := rect_width x H W hx hH
  simp only [hx.1, h2, ne_eq, not_true_eq_false, if_false, hw, w2]

include hh0o hh1o hs0 hs1 in
/-- level 1 on a `2H × 2W` input, in the same form -/
theorem level1_adjoint (x : Img R) (H W : Nat) (hH : 1 ≤ H) (hW : 1 ≤ W) (hx : Rect x (2*H) (2*W)) (a b : Nat → Nat → Nat → R) :
    ∃ low hs, fwdJ1 s true (mkF h0o h1o h0 h1).h0o (mkF h0o h1o h0 h1).h1o false x = (low, some hs) ∧ Rect low (2*H) (2*W) ∧
      ∀ dl, Rect dl (2*H) (2*W) → ∃ y,
        FWD_J1_backward s true (mkF h0o h1o h0 h1).h0o (mkF h0o h1o h0 h1).h1o (H, W) dl (some (cot a b H W)) = some y ∧
        Rect y (2*H) (2*W) ∧ dot2 (2*H) (2*W) low dl + bdot H W hs (cot a b H W) = dot2 (2*H) (2*W) x y := by
  have key := fun dl hdl => fwdJ1_backward_adjoint_rect s h0o h1o hh0o hh1o hs0 hs1 x dl H W hH hW hx hdl a b
  obtain ⟨hs, _, hF, _⟩ := key x hx
  refine ⟨_, hs, eq_pair_of_snd hF, (fwdJ1_shape s h0o h1o hh0o hh1o x H W hH hW hx).1, ?_⟩
  intro dl hdl
  obtain ⟨hs', y, hF', hB, ry, hid⟩ := key dl hdl
  rw [hF] at hF'
  rw [Option.some.inj hF']
  exact ⟨y, hB, ry, hid⟩

include hh0o hh1o hs0 hs1 hm0 hm0' hm1 hm1' in
/-- back-propagation through the whole J-level forward DTCWT is the adjoint of the transform (one channel, symmetric mode,
all levels kept, sides multiples of `2^J`: `x` is `2a × 2b` with `Dy n a b`, `J = n + 1`): for every cotangent `gl` of the final
low-pass and every band cotangents `A lvl k`, `B lvl k` (real and imaginary parts of band `k` of level `lvl + 1`),
`⟨low_J, gl⟩ + Σ_levels Σ_k ⟨band, cotangent⟩ = ⟨x, backward(gl, cotangents)⟩` -/
theorem DTCWT_backward_adjoint (n : Nat) (incl : List Bool) (x gl : Img R) (a b : Nat) (ha : 1 ≤ a) (hb : 1 ≤ b)
    (hx : Rect x (2*a) (2*b)) (hd : Dy n a b) (hg : Rect gl (2 * (a / 2 ^ n)) (2 * (b / 2 ^ n))) :
    ∃ lowF h1s hsl scs y,
      DTCWTForward s true (mkF h0o h1o h0 h1) (List.replicate (n+1) false) incl x = some (lowF, some h1s :: hsl, scs) ∧
      DTCWTForwardBackward s (mkF h0o h1o h0 h1) (a, b) (cot (A 0) (B 0) a b :: cots A B n 1 a b) gl = some y ∧
      Rect y (2*a) (2*b) ∧
      dot2 (2 * (a / 2 ^ n)) (2 * (b / 2 ^ n)) lowF gl + bdot a b h1s (cot (A 0) (B 0) a b) + loopDot A B n 1 a b hsl
        = dot2 (2*a) (2*b) x y := by
  have hee : extendEven x = x :=
    extendEven_id x (2*a) (2*b) hx (Nat.mul_pos (by decide) ha) (Nat.mul_mod_right 2 a) (Nat.mul_mod_right 2 b)
  obtain ⟨low1, h1s, hF1, rlow1, hbw⟩ := level1_adjoint s h0o h1o h0 h1 hh0o hh1o hs0 hs1 x a b ha hb hx (A 0) (B 0)
  -- the coarser levels on the level-1 low-pass, then level 1 with the gradient they produced
  obtain ⟨lowF, hsl, scs, y', hfr, hbr, ry', hdr⟩ := loop_adjoint s h0o h1o h0 h1 hm0 hm0' hm1 hm1' A B n 1 (incl.drop 1) low1 gl a b ha hb
    rlow1 hd hg
  obtain ⟨y, hB, ry, hid⟩ := hbw y' ry'
  refine ⟨lowF, h1s, hsl, (if incl.headD false then some low1 else none) :: scs, y, ?_, ?_, ry, ?_⟩
  · simp only [List.replicate_succ, DTCWTForward, hee, hF1, Option.bind_eq_bind, hfr, Option.bind_some]
  · simp only [DTCWTForwardBackward, hbr, Option.bind_eq_bind, Option.bind_some]
    exact hB
  · rw [← hid, ← hdr]
    ring

end

/-- the size hypothesis `Dy` of `DTCWT_backward_adjoint` is satisfiable: a 16 × 8 image (`a = 8`, `b = 4`) admits two further levels (`J = 3`) -/
example : Dy 2 8 4 := by
  refine ⟨by decide, by decide, by decide, by decide, ?_⟩
  exact ⟨by decide, by decide, by decide, by decide, trivial⟩

end WV.C06J
