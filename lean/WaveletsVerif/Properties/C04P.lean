/-
  C04 — perfect reconstruction of the WHOLE pyramid, for every number of levels ≥ 1 and every image size ≥ 1 × 1
  (`mode='symmetric'`).

  `DTCWTForward` extends odd-sized images by a repeated row / column, filters level 1 without decimation, and at
  each level ≥ 2 first pads the low-pass to a multiple of 4 with a repeated border (`extendMult4`); `DTCWTInverse`
  crops `[1:-1]` whenever the low-pass it receives is larger than twice the band of the level it is about to
  synthesise (`cropToHighs`).  Here the level theorems (`C04.level1_pr`, `C04Q.level2_pr_full`) are composed
  through those loops:

      DTCWTInverse(DTCWTForward(x)) = extendEven x      (`dtcwt_pr`)

  for every `J ≥ 1` (no level in `skip_hps`) and every image with at least one row and column — odd sizes, sizes that
  are not multiples of 4 at any level, images far smaller than the filters — given the level-1 hypotheses (symmetric
  odd filters, `PR1`), the q-shift hypotheses (`PRq`, tree a = reverse of tree b, synthesis filters of even length ≥ 2,
  analysis filters of length ≥ 1) and `2s² = 1`.
-/
import WaveletsVerif.Properties.C04Q
namespace WV.C04P
open Finset WV WV.C04 WV.C04Q
variable {R : Type} [CommRing R]

/-! ### shapes of the two extensions -/

theorem extendEven_rows_rect (x : Img R) (H W : Nat) (hx : Rect x H W) (hH : 1 ≤ H) :
    Rect (if H % 2 ≠ 0 then x ++ sliceFrom x (-1) else x) (H + H % 2) W := by
  split
  · refine ⟨by rw [List.length_append, sliceFrom_neg_one_length x (by rw [hx.1]; exact hH), hx.1]; omega, ?_⟩
    intro r hr
    rcases List.mem_append.mp hr with h | h
    · exact hx.2 r h
    · exact hx.2 r (sliceFrom_neg_one_mem x r h)
  · rw [show H % 2 = 0 by omega]
    exact hx

theorem extendEven_eq (x : Img R) (H W : Nat) (hx : Rect x H W) (hH : 1 ≤ H) :
    extendEven x = (if H % 2 ≠ 0 then x ++ sliceFrom x (-1) else x).map fun r => if W % 2 ≠ 0 then r ++ sliceFrom r (-1) else r :=
  rows_then_cols (fun n => n % 2 ≠ 0) (fun n => n % 2 ≠ 0) (fun x => x ++ sliceFrom x (-1)) (fun r => r ++ sliceFrom r (-1)) x H W hx.1
    (rect_width _ _ _ (extendEven_rows_rect x H W hx hH) (by omega))

theorem extendEven_rect (x : Img R) (H W : Nat) (hx : Rect x H W) (hH : 1 ≤ H) (hW : 1 ≤ W) :
    Rect (extendEven x) (H + H % 2) (W + W % 2) := by
  rw [extendEven_eq x H W hx hH]
  refine alongW_rect_of_length _ _ _ W _ (extendEven_rows_rect x H W hx hH) ?_
  intro r hr
  split
  · rw [List.length_append, sliceFrom_neg_one_length r (by rw [hr]; exact hW), hr]
    omega
  · omega

/-- the border-repeating extension: `head ++ x ++ last` -/
def ext1 {α : Type} (x : List α) : List α := slice x 0 1 ++ x ++ sliceFrom x (-1)

omit [CommRing R] in
theorem ext1_length {α : Type} (x : List α) (h : 1 ≤ x.length) : (ext1 x).length = x.length + 2 := by
  unfold ext1
  rw [List.length_append, List.length_append, slice_zero_one x h, sliceFrom_neg_one_length x (by omega), List.length_take]
  omega

omit [CommRing R] in
theorem ext1_mem {α : Type} (x : List α) (h : 1 ≤ x.length) (r : α) (hr : r ∈ ext1 x) : r ∈ x := by
  unfold ext1 at hr
  rw [slice_zero_one x h] at hr
  rcases List.mem_append.mp hr with h1 | h1
  · rcases List.mem_append.mp h1 with h2 | h2
    · exact List.mem_of_mem_take h2
    · exact h2
  · exact sliceFrom_neg_one_mem x r h1

omit [CommRing R] in
theorem slice_ext1 {α : Type} (x : List α) (h : 1 ≤ x.length) : slice (ext1 x) 1 (-1) = x := by
  have hl := ext1_length x h
  unfold slice
  rw [pyBound_one _ (by omega), pyBound_neg_one _ (by omega), hl]
  unfold ext1
  rw [slice_zero_one x h]
  have hk : (x.take 1).length = 1 := by rw [List.length_take]; omega
  rw [List.take_left' (l₁ := x.take 1 ++ x) (by rw [List.length_append, hk]; omega), List.drop_left' hk]

omit [CommRing R] in
/-- the crop `[1:-1]`, taken when the length is not `n`, undoes the border repeat of a list of length `n`, taken or not;
both commute with a map over the entries -/
theorem crop_ext1_map {α β : Type} (x : List α) (f : α → β) (n : Nat) (hx : x.length = n) (hn : 1 ≤ n) (p : Prop) [Decidable p] :
    (if ((if p then ext1 x else x).map f).length ≠ n then slice ((if p then ext1 x else x).map f) 1 (-1)
      else (if p then ext1 x else x).map f) = x.map f := by
  by_cases h : p
  · rw [if_pos h, if_pos (by rw [List.length_map, ext1_length x (by omega)]; omega), slice_map, slice_ext1 x (by omega)]
  · rw [if_neg h, if_neg (by rw [List.length_map]; exact not_not.mpr hx)]

theorem ext1_rows_rect (x : Img R) (H W : Nat) (hx : Rect x H W) (hH : 1 ≤ H) : Rect (ext1 x) (H + 2) W := by
  refine ⟨by rw [ext1_length x (by rw [hx.1]; exact hH), hx.1], ?_⟩
  intro r hr
  exact hx.2 r (ext1_mem x (by rw [hx.1]; exact hH) r hr)

theorem ext1_cols_rect (x : Img R) (H W : Nat) (hx : Rect x H W) (hW : 1 ≤ W) : Rect (x.map ext1) H (W + 2) :=
  alongW_rect_of_length ext1 x H W (W + 2) hx fun r hr => by rw [ext1_length r (by omega), hr]

theorem extendMult4_rows_rect (x : Img R) (H W : Nat) (hx : Rect x H W) (hH : 1 ≤ H) :
    Rect (if H % 4 ≠ 0 then ext1 x else x) (H + (if H % 4 ≠ 0 then 2 else 0)) W := by
  split
  · exact ext1_rows_rect x H W hx hH
  · exact hx

theorem extendMult4_eq (x : Img R) (H W : Nat) (hx : Rect x H W) (hH : 1 ≤ H) :
    extendMult4 x = (if H % 4 ≠ 0 then ext1 x else x).map fun r => if W % 4 ≠ 0 then ext1 r else r :=
  rows_then_cols (fun n => n % 4 ≠ 0) (fun n => n % 4 ≠ 0) ext1 ext1 x H W hx.1
    (rect_width _ _ _ (extendMult4_rows_rect x H W hx hH) (by omega))

theorem extendMult4_rect (x : Img R) (H W : Nat) (hx : Rect x H W) (hH : 1 ≤ H) (hW : 1 ≤ W) :
    Rect (extendMult4 x) (H + (if H % 4 ≠ 0 then 2 else 0)) (W + (if W % 4 ≠ 0 then 2 else 0)) := by
  rw [extendMult4_eq x H W hx hH]
  refine alongW_rect_of_length _ _ _ W _ (extendMult4_rows_rect x H W hx hH) ?_
  intro r hr
  split
  · rw [ext1_length r (by rw [hr]; exact hW), hr]
  · exact hr

theorem extendMult4_rect_even (x : Img R) (a b : Nat) (ha : 1 ≤ a) (hb : 1 ≤ b) (hx : Rect x (2*a) (2*b)) :
    Rect (extendMult4 x) (4 * ((a+1)/2)) (4 * ((b+1)/2)) := by
  have re := extendMult4_rect x (2*a) (2*b) hx (one_le_two_mul ha) (one_le_two_mul hb)
  rw [ext4_size a, ext4_size b] at re
  exact re

theorem extendEven_rect_even (x : Img R) (H W : Nat) (hx : Rect x H W) (hH : 1 ≤ H) (hW : 1 ≤ W) :
    Rect (extendEven x) (2 * ((H+1)/2)) (2 * ((W+1)/2)) := by
  have re := extendEven_rect x H W hx hH hW
  rw [ext2_size H, ext2_size W] at re
  exact re

theorem map_slice_ext1 (x : Img R) (H W : Nat) (hx : Rect x H W) (hW : 1 ≤ W) :
    (x.map ext1).map (fun r => slice r 1 (-1)) = x := by
  rw [List.map_map]
  conv_rhs => rw [← List.map_id x]
  apply List.map_congr_left
  intro r hr
  simp only [Function.comp, id]
  exact slice_ext1 r (by rw [hx.2 r hr]; exact hW)

/-- the crop of the inverse undoes the padding of the forward pass -/
theorem crop_extend (x : Img R) (a b : Nat) (ha : 1 ≤ a) (hb : 1 ≤ b) (hx : Rect x (2*a) (2*b)) :
    cropToHighs (extendMult4 x) a b = x := by
  have h2a := one_le_two_mul ha
  have h2b := one_le_two_mul hb
  rw [extendMult4_eq x (2*a) (2*b) hx h2a]
  unfold cropToHighs
  simp only []
  rw [crop_ext1_map x _ (2*a) hx.1 h2a]
  by_cases hd : (2*b) % 4 ≠ 0
  · simp only [if_pos hd]
    rw [if_pos (by rw [rect_width _ _ _ (ext1_cols_rect x _ _ hx h2b) h2a]; omega)]
    exact map_slice_ext1 x _ _ hx h2b
  · simp only [if_neg hd, List.map_id']
    rw [if_neg (not_not.mpr (rect_width _ _ _ hx h2a))]

/-- the module's filter buffers from the table filters: level 1 `h0o, h1o`; q-shift tree b `h0, h1`, tree a the reverse -/
def mkF (h0o h1o h0 h1 : List R) : FwdFilters R :=
  { h0o := prepFilt h0o, h1o := prepFilt h1o, h0a := prepFilt h0.reverse, h0b := prepFilt h0,
    h1a := prepFilt h1.reverse, h1b := prepFilt h1 }
def mkG (g0o g1o g0 g1 : List R) : InvFilters R :=
  { g0o := prepFilt g0o, g1o := prepFilt g1o, g0a := prepFilt g0.reverse, g0b := prepFilt g0,
    g1a := prepFilt g1.reverse, g1b := prepFilt g1 }

/-- what the inverse reads as `(highr.shape[h_dim], highr.shape[w_dim])` of a level -/
def bsz (o : Option (List (Cplx R))) : Nat × Nat := bandSize (o.getD [])

theorem DTCWTInverse_cons (s : R) (sym : Bool) (f : InvFilters R) (sz0 : Nat × Nat) (szs : List (Nat × Nat)) (size5 : Nat × Nat)
    (l : Img R) (o : List (Cplx R)) (rest : List (Option (List (Cplx R)))) :
    DTCWTInverse s sym f (sz0 :: szs) size5 (some l) (some o :: rest)
      = (do
          let lowJ ← (rest.zip szs).reverse.foldlM (dtcwtInvStep s f) (some l)
          match lowJ with
          | some l2 => invJ1 s sym f.g0o f.g1o size5 (some (cropToHighs l2 sz0.1 sz0.2)) (some o)
          | none => invJ1 s sym f.g0o f.g1o size5 none (some o)) := by
  unfold DTCWTInverse
  simp only [Option.isNone_some, Bool.false_eq_true, false_and, if_false]
  cases (rest.zip szs).reverse.foldlM (dtcwtInvStep s f) (some l) with
  | none => rfl
  | some lowJ => cases lowJ <;> rfl

theorem dtcwtFwdLoop_cons_of (s : R) (f : FwdFilters R) (sk : Bool) (sks incl : List Bool) (low low' : Img R)
    (h : Option (List (Cplx R))) (lowF : Img R) (hs : List (Option (List (Cplx R)))) (scs : List (Option (Img R)))
    (h1 : fwdJ2 s f.h0a f.h1a f.h0b f.h1b sk (extendMult4 low) = some (low', h))
    (h2 : dtcwtFwdLoop s f sks (incl.drop 1) low' = some (lowF, hs, scs)) :
    dtcwtFwdLoop s f (sk :: sks) incl low
      = some (lowF, h :: hs, (if incl.headD false then some low' else none) :: scs) := by
  unfold dtcwtFwdLoop
  rw [h1]
  simp only [Option.bind_eq_bind, Option.bind_some]
  rw [h2]
  simp only [Option.bind_some]

theorem DTCWTForward_cons_of (s : R) (sym : Bool) (f : FwdFilters R) (sk : Bool) (sks incl : List Bool) (x low : Img R)
    (h : Option (List (Cplx R))) (lowF : Img R) (hs : List (Option (List (Cplx R)))) (scs : List (Option (Img R)))
    (h1 : fwdJ1 s sym f.h0o f.h1o sk (extendEven x) = (low, h))
    (h2 : dtcwtFwdLoop s f sks (incl.drop 1) low = some (lowF, hs, scs)) :
    DTCWTForward s sym f (sk :: sks) incl x
      = some (lowF, h :: hs, (if incl.headD false then some low else none) :: scs) := by
  unfold DTCWTForward
  simp only []
  rw [h1]
  simp only [h2, Option.bind_eq_bind, Option.bind_some]

/-- one more (finer) level of the inverse loop: fold over the coarser levels, crop, synthesise -/
theorem invFold_cons_of (s : R) (f : InvFilters R) (o : List (Cplx R)) (sz : Nat × Nat) (hsl : List (Option (List (Cplx R))))
    (szs : List (Nat × Nat)) (lowF Z y : Img R)
    (hfold : (hsl.zip szs).reverse.foldlM (dtcwtInvStep s f) (some lowF) = some (some Z))
    (hinv : invJ2 s f.g0a f.g1a f.g0b f.g1b (some (cropToHighs Z sz.1 sz.2)) (some o) = some y) :
    ((some o :: hsl).zip (sz :: szs)).reverse.foldlM (dtcwtInvStep s f) (some lowF) = some (some y) := by
  rw [List.zip_cons_cons, foldlM_reverse_cons, hfold]
  simp only [Option.bind_some]
  unfold dtcwtInvStep
  simp only [hinv]
  rfl

section loops
variable (s : R) (hs : 2 * s * s = 1) (h0 h1 g0 g1 : List R) (hh0 : 1 ≤ h0.length) (hh1 : 1 ≤ h1.length)
  (hg0 : g0.length % 2 = 0) (hg0' : 2 ≤ g0.length) (hg1 : g1.length % 2 = 0) (hg1' : 2 ≤ g1.length)
  (hpr : PRq h0 h1 g0 g1) (h0o h1o g0o g1o : List R)

include hs hh0 hh1 hg0 hg0' hg1 hg1' hpr in
/-- levels 2…J: the inverse loop applied to the output of the forward loop returns the (possibly padded) input of
the forward loop, whose crop is the input itself — for every number of levels and every even-sized low-pass -/
theorem loop_pr : ∀ (n : Nat) (incl : List Bool) (low : Img R) (a b : Nat), 1 ≤ a → 1 ≤ b → Rect low (2*a) (2*b) →
    ∃ lowF hsl scs, dtcwtFwdLoop s (mkF h0o h1o h0 h1) (List.replicate n false) incl low = some (lowF, hsl, scs) ∧
      ∃ Z, (hsl.zip (hsl.map bsz)).reverse.foldlM (dtcwtInvStep s (mkG g0o g1o g0 g1)) (some lowF) = some (some Z) ∧
        cropToHighs Z a b = low := by
  intro n
  induction n with
  | zero =>
    intro incl low a b ha hb hx
    refine ⟨low, [], [], by simp [dtcwtFwdLoop], low, by simp, ?_⟩
    exact cropToHighs_id low a b hx.1 (rect_width _ _ _ hx (one_le_two_mul ha))
  | succ n ih =>
    intro incl low a b ha hb hx
    have re := extendMult4_rect_even low a b ha hb hx
    obtain ⟨ll, o, hf, hi, rll, hbs⟩ := level2_pr_full s hs h0 h1 g0 g1 hh0 hh1 hg0 hg0' hg1 hg1' hpr (extendMult4 low)
      ((a+1)/2) ((b+1)/2) (half_up_pos ha) (half_up_pos hb) re
    obtain ⟨lowF, hsl, scs, hloop, Z', hfold, hcrop⟩ := ih (incl.drop 1) ll ((a+1)/2) ((b+1)/2) (half_up_pos ha) (half_up_pos hb) rll
    refine ⟨lowF, some o :: hsl, (if incl.headD false then some ll else none) :: scs, ?_, extendMult4 low, ?_, ?_⟩
    · rw [List.replicate_succ]
      exact dtcwtFwdLoop_cons_of s (mkF h0o h1o h0 h1) false _ incl low ll (some o) lowF hsl scs hf hloop
    · rw [List.map_cons]
      refine invFold_cons_of s (mkG g0o g1o g0 g1) o _ hsl _ lowF Z' _ hfold ?_
      rw [show bsz (some o) = ((a+1)/2, (b+1)/2) from hbs, hcrop]
      exact hi
    · exact crop_extend low a b ha hb hx

end loops

theorem fwdJ1_shape (s : R) (h0 h1 : List R) (hh0 : h0.length % 2 = 1) (hh1 : h1.length % 2 = 1) (x : Img R) (H W : Nat)
    (hH : 1 ≤ H) (hW : 1 ≤ W) (hx : Rect x (2*H) (2*W)) :
    Rect (fwdJ1 s true (prepFilt h0) (prepFilt h1) false x).1 (2*H) (2*W) ∧
      ∃ o, (fwdJ1 s true (prepFilt h0) (prepFilt h1) false x).2 = some o ∧ bandSize o = (H, W) := by
  have h2H := one_le_two_mul hH
  have h2W := one_le_two_mul hW
  have rLo := alongW_rect h0 hh0 x _ _ hx
  rw [fwdJ1_eq s h0 h1 hh0 hh1 x (2*H) (2*W) h2H h2W hx]
  exact ⟨alongH_rect h0 hh0 _ _ _ rLo h2H h2W, _, rfl,
    bandSize_highs s _ _ _ H W hH (alongH_rect h1 hh1 _ _ _ rLo h2H h2W)⟩

/-- DTCWT perfect reconstruction, whole pyramid, implementation model: for every number of levels `J = n+1 ≥ 1`
(`skip_hps` all false, `mode='symmetric'`) and every image with at least one row and one column,
`DTCWTInverse(DTCWTForward(x)) = extendEven x` (the input, extended to even size with the original in the top-left
corner) — through the odd-size replication, the undecimated level 1, the multiple-of-4 padding of every level ≥ 2,
`q2c`/`c2q`, and the `[1:-1]` crops of the inverse.  Hypotheses on the filters only: level-1 filters symmetric of
odd length with `PR1`; q-shift bank `PRq` with tree a the time reverse of tree b, synthesis filters of even length ≥ 2,
analysis filters of length ≥ 1; `2s² = 1`.  The band sizes handed to
the inverse are the ones it reads from the tensors the forward pass returned. -/
theorem dtcwt_pr (s : R) (hs : 2 * s * s = 1)
    (h0o h1o g0o g1o : List R) (hh0o : h0o.length % 2 = 1) (hh1o : h1o.length % 2 = 1) (hg0o : g0o.length % 2 = 1)
    (hg1o : g1o.length % 2 = 1) (hs0 : Symm h0o) (hs1 : Symm h1o) (hpr1 : PR1 h0o h1o g0o g1o)
    (h0 h1 g0 g1 : List R) (hh0 : 1 ≤ h0.length) (hh1 : 1 ≤ h1.length)
    (hg0 : g0.length % 2 = 0) (hg0' : 2 ≤ g0.length) (hg1 : g1.length % 2 = 0) (hg1' : 2 ≤ g1.length)
    (hpr : PRq h0 h1 g0 g1)
    (n : Nat) (incl : List Bool) (x : Img R) (H W : Nat) (hH : 1 ≤ H) (hW : 1 ≤ W) (hx : Rect x H W) :
    ∃ lowF hsl scs,
      DTCWTForward s true (mkF h0o h1o h0 h1) (List.replicate (n+1) false) incl x = some (lowF, hsl, scs) ∧
      DTCWTInverse s true (mkG g0o g1o g0 g1) (hsl.map bsz) (bsz (hsl.headD none)) (some lowF) hsl = some (extendEven x) := by
  have rxe := extendEven_rect_even x H W hx hH hW
  set a := (H+1)/2 with ha
  set b := (W+1)/2 with hb
  have ha1 : 1 ≤ a := half_up_pos hH
  have hb1 : 1 ≤ b := half_up_pos hW
  obtain ⟨rlow, o1, ho1, hbs1⟩ := fwdJ1_shape s h0o h1o hh0o hh1o (extendEven x) a b ha1 hb1 rxe
  have hl1 := level1_pr s hs h0o h1o g0o g1o hh0o hh1o hg0o hg1o hs0 hs1 hpr1 (extendEven x) a b ha1 hb1 rxe
  obtain ⟨lowF, hsl, scs, hloop, Z, hfold, hcrop⟩ :=
    loop_pr s hs h0 h1 g0 g1 hh0 hh1 hg0 hg0' hg1 hg1' hpr h0o h1o g0o g1o n (incl.drop 1)
      (fwdJ1 s true (prepFilt h0o) (prepFilt h1o) false (extendEven x)).1 a b ha1 hb1 rlow
  refine ⟨lowF, some o1 :: hsl, (if incl.headD false then some (fwdJ1 s true (prepFilt h0o) (prepFilt h1o) false (extendEven x)).1 else none) :: scs, ?_, ?_⟩
  · rw [List.replicate_succ]
    exact DTCWTForward_cons_of s true (mkF h0o h1o h0 h1) false _ incl x _ (some o1) lowF hsl scs (eq_pair_of_snd ho1) hloop
  · rw [List.map_cons, List.headD_cons, DTCWTInverse_cons, hfold]
    simp only [Option.bind_eq_bind, Option.bind_some]
    rw [show bsz (some o1) = (a, b) from hbs1]
    simp only [hcrop]
    rw [ho1] at hl1
    exact hl1

end WV.C04P
