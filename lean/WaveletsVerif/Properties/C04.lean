/-
  C04 — DTCWT perfect reconstruction, level 1: `inv_j1(fwd_j1(x)) = x` (`level1_pr`) for every even-sized image,
  from the perfect-reconstruction condition `PR1` on the taps of the biorthogonal filters.

  * `c2q (q2c y) = y` for every even-sized block image, given only `2·s·s = 1`
    (`s` stands for `1/np.sqrt(2)`): the quad ↔ complex re-packing of the six
    oriented sub-bands loses nothing.
  * the level-1 bank (symmetric biorthogonal pair of odd-length filters on the half-sample symmetric extension):
    filtering with a symmetric filter commutes with the extension (`xt_colfilter`), so synthesis after analysis is
    a kernel acting on the extension, and `PR1` makes the kernels of the two bands sum to `δ` (`colfilter_pr`);
    `level1_pr` lifts this to images and to the model of `fwd_j1` / `inv_j1`.
  * `PR1` is a finite check (`pr1_of_bounded`); the shipped `legall` table meets it over ℚ.
  Of `extendEven` (odd-sized inputs are extended to even size) only the height is computed here.
  Levels ≥ 2 (q-shift pair) are in C04Q, the pyramid in C04P.
-/
import WaveletsVerif.Lemmas.Img
import WaveletsVerif.Model.Dtcwt
import WaveletsVerif.Lemmas.PR
import WaveletsVerif.Lemmas.Lift
import WaveletsVerif.Spec.DtcwtRef
import WaveletsVerif.Properties.C03
import Mathlib.Tactic.NormNum
import Mathlib.Tactic.IntervalCases
import Mathlib.Data.Rat.Defs
namespace WV.C04
open Finset WV
variable {R : Type} [CommRing R]

/-- `c2q(q2c(y))` rebuilds a `2h × 2w` image from its pixels: at `(2p+e, 2q+e')` the four combinations
`a∓d`, `b±c` of the quad `(p, q)` give back twice `s·s` times the pixel -/
theorem c2q_q2c_get2 (s : R) (hs : 2 * s * s = 1) (h w : Nat) (hh : 0 < h) (f : Nat → Nat → R) (y : Img R)
    (hl : y.length = 2*h) (hw : y.width = 2*w) (hy : ∀ a b, a < 2*h → b < 2*w → get2 y a b = f a b) :
    c2q s (q2c s y).1 (q2c s y).2 = tab2 (2*h) (2*w) f := by
  have key : ∀ v : R, s * (s * v + s * v) = v := by
    intro v
    calc s * (s * v + s * v) = (2 * s * s) * v := by ring
      _ = v := by rw [hs]; ring
  have k00 : ∀ a d : R, s * (s * a - s * d + (s * a + s * d)) = a :=
    fun a d => (by ring : _ = s * (s * a + s * a)).trans (key a)
  have k01 : ∀ b c : R, s * (s * b + s * c + (s * b - s * c)) = b :=
    fun b c => (by ring : _ = s * (s * b + s * b)).trans (key b)
  have k10 : ∀ b c : R, s * (s * b + s * c - (s * b - s * c)) = c :=
    fun b c => (by ring : _ = s * (s * c + s * c)).trans (key c)
  have k11 : ∀ a d : R, s * (-(s * a - s * d) + (s * a + s * d)) = d :=
    fun a d => (by ring : _ = s * (s * d + s * d)).trans (key d)
  unfold q2c c2q
  simp only [hl, hw, Nat.mul_div_cancel_left _ (Nat.succ_pos 1), length_tab2, width_tab2 _ _ _ hh]
  apply tab2_congr
  intro i hi j hj
  -- `i = 2p + i % 2`, `j = 2q + j % 2`
  have hp : i / 2 < h := Nat.div_lt_of_lt_mul hi
  have hq : j / 2 < w := Nat.div_lt_of_lt_mul hj
  have hi' := Nat.div_add_mod i 2
  have hj' := Nat.div_add_mod j 2
  simp only [get2_tab2 h w _ _ _ hp hq]
  generalize i / 2 = p at hp hi' ⊢
  generalize j / 2 = q at hq hj' ⊢
  have b0 : 2*p < 2*h := by omega
  have b1 : 2*p + 1 < 2*h := by omega
  have c0 : 2*q < 2*w := by omega
  have c1 : 2*q + 1 < 2*w := by omega
  rw [hy _ _ b0 c0, hy _ _ b0 c1, hy _ _ b1 c0, hy _ _ b1 c1]
  rcases Nat.mod_two_eq_zero_or_one i with ei | ei
  · rw [ei] at hi'; subst hi'
    rw [if_pos ei]
    rcases Nat.mod_two_eq_zero_or_one j with ej | ej
    · rw [ej] at hj'; subst hj'
      rw [if_pos ej]
      exact k00 _ _
    · rw [ej] at hj'; subst hj'
      rw [if_neg (by rw [ej]; exact Nat.one_ne_zero)]
      exact k01 _ _
  · rw [ei] at hi'; subst hi'
    rw [if_neg (by rw [ei]; exact Nat.one_ne_zero)]
    rcases Nat.mod_two_eq_zero_or_one j with ej | ej
    · rw [ej] at hj'; subst hj'
      rw [if_pos ej]
      exact k10 _ _
    · rw [ej] at hj'; subst hj'
      rw [if_neg (by rw [ej]; exact Nat.one_ne_zero)]
      exact k11 _ _

theorem c2q_q2c (s : R) (hs : 2 * s * s = 1) (h w : Nat) (hh : 0 < h) (f : Nat → Nat → R) :
    c2q s (q2c s (tab2 (2*h) (2*w) f)).1 (q2c s (tab2 (2*h) (2*w) f)).2 = tab2 (2*h) (2*w) f := by
  exact c2q_q2c_get2 s hs h w hh f _ (length_tab2 _ _ _) (width_tab2 _ _ _ (by omega))
    (fun a b ha hb => get2_tab2 _ _ f a b ha hb)

omit [CommRing R] in
theorem extendEven_length {α : Type} (x : Img α) : (extendEven x).length = x.length + x.length % 2 := by
  have key : ∀ (x1 : Img α), (if x1.width % 2 ≠ 0 then x1.map (fun r => r ++ sliceFrom r (-1)) else x1).length = x1.length := by
    intro x1; split <;> simp
  unfold extendEven
  simp only [key]
  by_cases h : x.length % 2 ≠ 0
  · rw [if_pos h, List.length_append, sliceFrom_neg_one_length x (by omega)]; omega
  · rw [if_neg h]; omega

/-- an evaluation of `q2c`, not an instance of `c2q_q2c` (`2·s·s = 1` has no solution in ℤ): with `s = 1` the
2×2 block `[[0,1],[3,4]]` has first real part `a − d = 0 − 4` -/
example : (q2c (1:Int) (tab2 2 2 fun i j => ((3*i + j : Nat) : Int))).1.1 = [[0 - 4]] := by decide

theorem symIdx_period_mul (l x q : Int) : symIdx l (x + 2*l*q) = symIdx l x := by
  unfold symIdx
  have : (x + 2*l*q) % (2*l) = x % (2*l) := by
    rw [Int.add_mul_emod_self_left]
  simp only [this]

theorem symIdx_cases (l u : Int) (hl : 0 < l) :
    (∃ q : Int, symIdx l u = u + 2*l*q) ∨ (∃ q : Int, symIdx l u = -1 - u + 2*l*q) := by
  unfold symIdx
  have hdm := Int.emod_add_mul_ediv u (2*l)
  simp only
  by_cases hc : u % (2*l) < l
  · left; refine ⟨-(u / (2*l)), ?_⟩
    rw [if_pos hc]
    have : 2*l*(-(u/(2*l))) = -(2*l*(u/(2*l))) := by ring
    rw [this]; omega
  · right; refine ⟨u / (2*l) + 1, ?_⟩
    rw [if_neg hc]
    have : 2*l*(u/(2*l) + 1) = 2*l*(u/(2*l)) + 2*l := by ring
    rw [this]; omega

theorem xt_period (x : List R) (v q : Int) : Spec.xt x (v + 2*(x.length:Int)*q) = Spec.xt x v := by
  unfold Spec.xt; rw [symIdx_period_mul]

theorem xt_reflect (x : List R) (hN : 1 ≤ x.length) (v : Int) : Spec.xt x (-1 - v) = Spec.xt x v := by
  unfold Spec.xt; rw [symIdx_reflect _ _ (by omega)]

theorem xt_inside (x : List R) (i : Nat) (hi : i < x.length) : Spec.xt x (i:Int) = getN x i := by
  unfold Spec.xt; rw [symIdx_id _ _ (by omega) (by omega), ← getN_eq_getZ]

/-- an odd-length filter `h` (`L = 2m+1`) is symmetric -/
def Symm (h : List R) : Prop := ∀ j < h.length, getN h (h.length - 1 - j) = getN h j

theorem colfilter_length (h x : List R) (hodd : h.length % 2 = 1) : (Spec.colfilter h x).length = x.length := by
  simp [Spec.colfilter]; omega

/-- a function that is `2n`-periodic and symmetric about `−1/2` is the symmetric extension of its first `n` values -/
theorem xt_tab_of_sym_periodic (n : Nat) (hn : 1 ≤ n) (F : Int → R)
    (hper : ∀ w q : Int, F (w + 2*(n:Int)*q) = F w) (hrefl : ∀ w : Int, F (-1 - w) = F w) (w : Int) :
    Spec.xt (tab n fun i => F (i:Int)) w = F w := by
  unfold Spec.xt
  rw [length_tab]
  have hr := symIdx_range (n:Int) w (by omega)
  rw [getZ_tab, if_pos ⟨hr.1, hr.2⟩]
  have hsn : ((symIdx (n:Int) w).toNat : Int) = symIdx (n:Int) w := by omega
  rw [hsn]
  rcases symIdx_cases (n:Int) w (by omega) with ⟨q, hq⟩ | ⟨q, hq⟩
  · rw [hq, hper]
  · rw [hq, hper, hrefl]

theorem colfilter_eq_tab (h x : List R) (hodd : h.length % 2 = 1) :
    Spec.colfilter h x
      = tab x.length fun i => ∑ j ∈ range h.length, getN h j * Spec.xt x ((i:Int) + ((h.length/2 : Nat):Int) - (j:Int)) := by
  unfold Spec.colfilter
  apply tab_ext (by omega)
  intro i _
  rw [sumN_eq]
  apply Finset.sum_congr rfl; intro j hj
  have hj' : j < h.length := by simpa using hj
  congr 2
  omega

theorem colfilter_get (h x : List R) (hodd : h.length % 2 = 1) (i : Nat) (hi : i < x.length) :
    getN (Spec.colfilter h x) i = ∑ j ∈ range h.length, getN h j * Spec.xt x ((i:Int) + ((h.length/2 : Nat):Int) - (j:Int)) := by
  rw [colfilter_eq_tab h x hodd, getN_tab, if_pos hi]

/-- filtering with a symmetric odd-length filter commutes with the symmetric extension -/
theorem xt_colfilter (h x : List R) (hodd : h.length % 2 = 1) (hs : Symm h) (hN : 1 ≤ x.length) (u : Int) :
    Spec.xt (Spec.colfilter h x) u = ∑ j ∈ range h.length, getN h j * Spec.xt x (u + ((h.length/2 : Nat):Int) - (j:Int)) := by
  rw [colfilter_eq_tab h x hodd]
  apply xt_tab_of_sym_periodic x.length hN
    (fun w => ∑ j ∈ range h.length, getN h j * Spec.xt x (w + ((h.length/2 : Nat):Int) - (j:Int)))
  · intro w q
    apply Finset.sum_congr rfl; intro j _
    rw [show w + 2 * (x.length:Int) * q + ((h.length/2 : Nat):Int) - (j:Int)
      = (w + ((h.length/2 : Nat):Int) - (j:Int)) + 2 * (x.length:Int) * q by ring, xt_period]
  · intro w
    -- reflect the summation index: tap `L−1−j` equals tap `j`, and its sample is the mirror image of sample `j`
    rw [← Finset.sum_range_reflect]
    apply Finset.sum_congr rfl; intro j hj
    have hj' : j < h.length := by simpa using hj
    rw [hs j hj']
    congr 1
    have e : -1 - w + ((h.length/2 : Nat):Int) - ((h.length - 1 - j : Nat):Int)
        = -1 - (w + ((h.length/2 : Nat):Int) - (j:Int)) := by
      have h1 : ((h.length - 1 - j : Nat):Int) = (h.length:Int) - 1 - j := by omega
      have h2 : (h.length:Int) = 2 * ((h.length/2 : Nat):Int) + 1 := by omega
      rw [h1, h2]; ring
    rw [e, xt_reflect x hN]

/-- the level-1 perfect-reconstruction condition of a biorthogonal pair of odd-length filters:
`(g0 ∗ h0)(c0 − d) + (g1 ∗ h1)(c1 − d) = δ_d` with the products centred at `c = ⌊Lg/2⌋ + ⌊Lh/2⌋` -/
def PR1 (h0 h1 g0 g1 : List R) : Prop :=
  ∀ d : Int,
    (∑ a ∈ range g0.length, getN g0 a * getZ h0 ((((g0.length/2 + h0.length/2 : Nat)):Int) - d - (a:Int)))
    + (∑ a ∈ range g1.length, getN g1 a * getZ h1 ((((g1.length/2 + h1.length/2 : Nat)):Int) - d - (a:Int)))
      = if d = 0 then 1 else 0

/-- one band: synthesis filter after (symmetric) analysis filter, as a kernel acting on the extension -/
theorem band_kernel (h g x : List R) (hh : h.length % 2 = 1) (hg : g.length % 2 = 1) (hs : Symm h)
    (hN : 1 ≤ x.length) (i : Nat) (hi : i < x.length) (D : Nat) (hD : g.length/2 + h.length/2 ≤ D) :
    getN (Spec.colfilter g (Spec.colfilter h x)) i
      = ∑ u ∈ Finset.Ico ((i:Int) - D) ((i:Int) + D + 1), Spec.xt x u *
          (∑ a ∈ range g.length, getN g a * getZ h ((((g.length/2 + h.length/2 : Nat)):Int) - (u - (i:Int)) - (a:Int))) := by
  rw [colfilter_get g _ hg i (by rw [colfilter_length h x hh]; exact hi)]
  have h1 : ∀ a ∈ range g.length, getN g a * Spec.xt (Spec.colfilter h x) ((i:Int) + ((g.length/2 : Nat):Int) - (a:Int))
      = ∑ u ∈ Finset.Ico ((i:Int) - D) ((i:Int) + D + 1), Spec.xt x u *
          (getN g a * getZ h ((((g.length/2 + h.length/2 : Nat)):Int) - (u - (i:Int)) - (a:Int))) := by
    intro a ha
    have ha' : a < g.length := by simpa using ha
    rw [xt_colfilter h x hh hs hN]
    have := sum_taps_window h (Spec.xt x) ((i:Int) + ((g.length/2 : Nat):Int) - (a:Int) + ((h.length/2 : Nat):Int))
      (Finset.Ico ((i:Int) - D) ((i:Int) + D + 1)) (by
        intro j hj
        rw [Finset.mem_Ico]
        have hg2 : (g.length:Int) = 2 * ((g.length/2 : Nat):Int) + 1 := by omega
        have hh2 : (h.length:Int) = 2 * ((h.length/2 : Nat):Int) + 1 := by omega
        have hDz : ((g.length/2 : Nat):Int) + ((h.length/2 : Nat):Int) ≤ (D:Int) := by exact_mod_cast hD
        omega)
    rw [this, Finset.mul_sum]
    apply Finset.sum_congr rfl; intro u _
    have : (i:Int) + ((g.length/2 : Nat):Int) - (a:Int) + ((h.length/2 : Nat):Int) - u
        = (((g.length/2 + h.length/2 : Nat)):Int) - (u - (i:Int)) - (a:Int) := by push_cast; ring
    rw [this]; ring
  rw [Finset.sum_congr rfl h1, Finset.sum_comm]
  apply Finset.sum_congr rfl; intro u _
  rw [Finset.mul_sum]

/-- DTCWT level-1 perfect reconstruction along one axis: for odd-length analysis filters `h0, h1` that are
symmetric, and synthesis filters `g0, g1` with `PR1`, the reference column filters satisfy
`colfilter g0 (colfilter h0 x) + colfilter g1 (colfilter h1 x) = x` for every column `x` of every length ≥ 1 —
however short compared with the filters (the extension reflects as often as needed). -/
theorem colfilter_pr (h0 h1 g0 g1 x : List R) (hh0 : h0.length % 2 = 1) (hh1 : h1.length % 2 = 1)
    (hg0 : g0.length % 2 = 1) (hg1 : g1.length % 2 = 1) (hs0 : Symm h0) (hs1 : Symm h1)
    (hpr : PR1 h0 h1 g0 g1) (hN : 1 ≤ x.length) (i : Nat) (hi : i < x.length) :
    getN (Spec.colfilter g0 (Spec.colfilter h0 x)) i + getN (Spec.colfilter g1 (Spec.colfilter h1 x)) i = getN x i := by
  set D := (g0.length/2 + h0.length/2) + (g1.length/2 + h1.length/2) with hD
  rw [band_kernel h0 g0 x hh0 hg0 hs0 hN i hi D (by omega), band_kernel h1 g1 x hh1 hg1 hs1 hN i hi D (by omega),
    ← Finset.sum_add_distrib]
  have hk : ∀ u ∈ Finset.Ico ((i:Int) - D) ((i:Int) + D + 1),
      Spec.xt x u * (∑ a ∈ range g0.length, getN g0 a * getZ h0 ((((g0.length/2 + h0.length/2 : Nat)):Int) - (u - (i:Int)) - (a:Int)))
      + Spec.xt x u * (∑ a ∈ range g1.length, getN g1 a * getZ h1 ((((g1.length/2 + h1.length/2 : Nat)):Int) - (u - (i:Int)) - (a:Int)))
      = Spec.xt x u * (if u - (i:Int) = 0 then 1 else 0) := by
    intro u _
    rw [← mul_add, hpr (u - (i:Int))]
  rw [Finset.sum_congr rfl hk]
  have hm : (i:Int) ∈ Finset.Ico ((i:Int) - D) ((i:Int) + D + 1) := by rw [Finset.mem_Ico]; omega
  rw [Finset.sum_eq_single_of_mem (i:Int) hm]
  · simp [xt_inside x i hi]
  · intro u _ hne
    have : ¬ (u - (i:Int) = 0) := by omega
    rw [if_neg this]; ring

/-- `Cf h` = `colfilter` of dtcwt/lowlevel.py with taps `h`, on one column: convolution on the symmetric
extension (same length for odd-length `h`), the level-1 filter; reference form `Spec.colfilter` -/
abbrev Cf (h : List R) : List R → List R := Spec.colfilter h

theorem Cf_length (h : List R) (hh : h.length % 2 = 1) (n : Nat) (c : List R) (hc : c.length = n) : (Cf h c).length = n := by
  rw [colfilter_length h c hh, hc]

theorem col_pr_img (h0 h1 g0 g1 : List R) (hh0 : h0.length % 2 = 1) (hh1 : h1.length % 2 = 1)
    (hg0 : g0.length % 2 = 1) (hg1 : g1.length % 2 = 1) (hs0 : Symm h0) (hs1 : Symm h1) (hpr : PR1 h0 h1 g0 g1)
    (y : Img R) (H W : Nat) (hy : Rect y H W) (hH : 1 ≤ H) (hW : 1 ≤ W) :
    iadd (alongH (Cf g1) (alongH (Cf h1) y)) (alongH (Cf g0) (alongH (Cf h0) y)) = y :=
  alongH_pr (Cf h0) (Cf h1) (Cf g0) (Cf g1) y H H W hy hH hH hW (Cf_length h0 hh0 H) (Cf_length h1 hh1 H)
    (Cf_length g0 hg0 H) (Cf_length g1 hg1 H)
    (fun c hc i hi => colfilter_pr h0 h1 g0 g1 c hh0 hh1 hg0 hg1 hs0 hs1 hpr (by omega) i (by omega))

theorem row_pr_img (h0 h1 g0 g1 : List R) (hh0 : h0.length % 2 = 1) (hh1 : h1.length % 2 = 1)
    (hg0 : g0.length % 2 = 1) (hg1 : g1.length % 2 = 1) (hs0 : Symm h0) (hs1 : Symm h1) (hpr : PR1 h0 h1 g0 g1)
    (y : Img R) (H W : Nat) (hy : Rect y H W) (hW : 1 ≤ W) :
    iadd (alongW (Cf g1) (alongW (Cf h1) y)) (alongW (Cf g0) (alongW (Cf h0) y)) = y :=
  alongW_pr (Cf h0) (Cf h1) (Cf g0) (Cf g1) y H W W hy (Cf_length h0 hh0 W) (Cf_length h1 hh1 W)
    (Cf_length g0 hg0 W) (Cf_length g1 hg1 W)
    (fun c hc j hj => colfilter_pr h0 h1 g0 g1 c hh0 hh1 hg0 hg1 hs0 hs1 hpr (by omega) j (by omega))

theorem colfilter_model (h : List R) (hL : 1 ≤ h.length) (y : Img R) (hy : 1 ≤ y.length) :
    colfilter true (prepFilt h) y = alongH (Cf h) y := by
  unfold colfilter
  apply alongH_congr
  intro c hc
  exact C03.colfilter1_eq_ref h c hL (by omega)

theorem rowfilter_model (h : List R) (hL : 1 ≤ h.length) (y : Img R) (W : Nat) (hW : 1 ≤ W) (hy : ∀ r ∈ y, r.length = W) :
    rowfilter true (prepFilt h) y = alongW (Cf h) y := by
  unfold rowfilter alongW
  apply List.map_congr_left
  intro r hr
  exact C03.colfilter1_eq_ref h r hL (by rw [hy r hr]; exact hW)

theorem alongH_rect (h : List R) (hh : h.length % 2 = 1) (y : Img R) (H W : Nat) (hy : Rect y H W) (hH : 1 ≤ H) (hW : 1 ≤ W) :
    Rect (alongH (Cf h) y) H W := alongH_rect_of_length (Cf h) y H H W hy hH hW (Cf_length h hh H)

theorem alongW_rect (h : List R) (hh : h.length % 2 = 1) (y : Img R) (H W : Nat) (hy : Rect y H W) :
    Rect (alongW (Cf h) y) H W := alongW_rect_of_length (Cf h) y H W W hy (Cf_length h hh W)

theorem highs_round_trip (s : R) (hs : 2 * s * s = 1) (lh hl hh : Img R) (H W : Nat) (hH : 1 ≤ H)
    (r1 : Rect lh (2*H) (2*W)) (r2 : Rect hl (2*H) (2*W)) (r3 : Rect hh (2*H) (2*W)) :
    orientationsToHighs s (highsToOrientations s lh hl hh) = (lh, hl, hh) := by
  unfold orientationsToHighs highsToOrientations
  simp only [List.getD_cons_zero, List.getD_cons_succ]
  have k : ∀ y : Img R, Rect y (2*H) (2*W) → c2q s (q2c s y).1 (q2c s y).2 = y := by
    intro y hy
    have := c2q_q2c s hs H W (by omega) (get2 y)
    rw [← rect_eq_tab2 y (2*H) (2*W) hy] at this
    exact this
  rw [k lh r1, k hl r2, k hh r3]

theorem bandSize_highs (s : R) (lh hl hh : Img R) (H W : Nat) (hH : 1 ≤ H) (r : Rect lh (2*H) (2*W)) :
    bandSize (highsToOrientations s lh hl hh) = (H, W) := by
  unfold bandSize highsToOrientations q2c
  simp only [List.headD_cons]
  rw [r.1, rect_width _ _ _ r (by omega), Nat.mul_div_cancel_left _ (Nat.succ_pos 1), Nat.mul_div_cancel_left _ (Nat.succ_pos 1),
    length_tab2, width_tab2 H W _ (by omega)]

theorem cropToHighs_id (ll : Img R) (H W : Nat) (hl : ll.length = 2 * H) (hw : ll.width = 2 * W) :
    cropToHighs ll H W = ll := by
  unfold cropToHighs
  have c1 : ¬ (ll.length ≠ 2 * H) := by simp [hl]
  simp only [c1, if_false]
  have c2 : ¬ (ll.width ≠ 2 * W) := by simp [hw]
  simp only [c2, if_false]

theorem fwdJ1_eq (s : R) (h0 h1 : List R) (hh0 : h0.length % 2 = 1) (hh1 : h1.length % 2 = 1) (x : Img R) (H W : Nat)
    (hH : 1 ≤ H) (hW : 1 ≤ W) (hx : Rect x H W) :
    fwdJ1 s true (prepFilt h0) (prepFilt h1) false x
      = (alongH (Cf h0) (alongW (Cf h0) x), some (highsToOrientations s (alongH (Cf h1) (alongW (Cf h0) x))
          (alongH (Cf h0) (alongW (Cf h1) x)) (alongH (Cf h1) (alongW (Cf h1) x)))) := by
  have L0 : 1 ≤ h0.length := by omega
  have L1 : 1 ≤ h1.length := by omega
  have eLo := rowfilter_model h0 L0 x W hW hx.2
  have eHi := rowfilter_model h1 L1 x W hW hx.2
  have rLo : 1 ≤ (alongW (Cf h0) x).length := by rw [(alongW_rect h0 hh0 x _ _ hx).1]; exact hH
  have rHi : 1 ≤ (alongW (Cf h1) x).length := by rw [(alongW_rect h1 hh1 x _ _ hx).1]; exact hH
  unfold fwdJ1
  simp only [Bool.false_eq_true, if_false, eLo, eHi, colfilter_model h0 L0 _ rLo, colfilter_model h1 L1 _ rLo,
    colfilter_model h0 L0 _ rHi, colfilter_model h1 L1 _ rHi]

theorem invJ1_eq (s : R) (g0 g1 : List R) (hg0 : g0.length % 2 = 1) (hg1 : g1.length % 2 = 1) (l : Img R)
    (o : List (Cplx R)) (r c : Nat) (hr : 1 ≤ r) (hc : 1 ≤ c) (hl : Rect l (2*r) (2*c))
    (rlh : Rect (orientationsToHighs s o).1 (2*r) (2*c)) (rhl : Rect (orientationsToHighs s o).2.1 (2*r) (2*c))
    (rhh : Rect (orientationsToHighs s o).2.2 (2*r) (2*c)) :
    invJ1 s true (prepFilt g0) (prepFilt g1) (r, c) (some l) (some o)
      = some (iadd (alongW (Cf g1) (iadd (alongH (Cf g1) (orientationsToHighs s o).2.2)
                                          (alongH (Cf g0) (orientationsToHighs s o).2.1)))
                   (alongW (Cf g0) (iadd (alongH (Cf g1) (orientationsToHighs s o).1) (alongH (Cf g0) l)))) := by
  set lh := (orientationsToHighs s o).1 with hlh
  set hl' := (orientationsToHighs s o).2.1 with hhl
  set hh := (orientationsToHighs s o).2.2 with hhh
  have G0 : 1 ≤ g0.length := by omega
  have G1 : 1 ≤ g1.length := by omega
  have h2r : 1 ≤ 2*r := by omega
  have h2c : 1 ≤ 2*c := by omega
  have q1 := alongH_rect g1 hg1 hh _ _ rhh h2r h2c
  have q2 := alongH_rect g0 hg0 hl' _ _ rhl h2r h2c
  have q3 := alongH_rect g1 hg1 lh _ _ rlh h2r h2c
  have q4 := alongH_rect g0 hg0 l _ _ hl h2r h2c
  unfold invJ1
  simp only []
  rw [show (orientationsToHighs s o) = (lh, hl', hh) from rfl]
  simp only []
  rw [cropToHighs_id l r c hl.1 (rect_width _ _ _ hl h2r), colfilter_model g1 G1 hh (by rw [rhh.1]; exact h2r),
    colfilter_model g0 G0 hl' (by rw [rhl.1]; exact h2r), colfilter_model g1 G1 lh (by rw [rlh.1]; exact h2r),
    colfilter_model g0 G0 l (by rw [hl.1]; exact h2r), if_neg (shape_ok _ _ _ _ q3 q4 h2r),
    rowfilter_model g1 G1 _ (2*c) h2c (iadd_rect _ _ _ _ q1 q2).2, rowfilter_model g0 G0 _ (2*c) h2c (iadd_rect _ _ _ _ q3 q4).2]

/-- DTCWT level-1 perfect reconstruction at the level of the implementation model: for every even-sized
image, every pair of symmetric odd-length analysis filters and synthesis filters with `PR1`, and `2s² = 1`,
`inv_j1(fwd_j1(x)) = x` — `fwd_j1` and `inv_j1` as modelled from `transform_funcs.py` (row and column
filtering with `prep_filt` buffers on the symmetric extension, `q2c` / `c2q` packing, crop rule). -/
theorem level1_pr (s : R) (hs : 2 * s * s = 1) (h0 h1 g0 g1 : List R) (hh0 : h0.length % 2 = 1)
    (hh1 : h1.length % 2 = 1) (hg0 : g0.length % 2 = 1) (hg1 : g1.length % 2 = 1) (hs0 : Symm h0) (hs1 : Symm h1)
    (hpr : PR1 h0 h1 g0 g1) (x : Img R) (H W : Nat) (hH : 1 ≤ H) (hW : 1 ≤ W) (hx : Rect x (2*H) (2*W)) :
    invJ1 s true (prepFilt g0) (prepFilt g1) (H, W)
        (some (fwdJ1 s true (prepFilt h0) (prepFilt h1) false x).1) (fwdJ1 s true (prepFilt h0) (prepFilt h1) false x).2
      = some x := by
  have h2H : 1 ≤ 2 * H := by omega
  have h2W : 1 ≤ 2 * W := by omega
  rw [fwdJ1_eq s h0 h1 hh0 hh1 x (2*H) (2*W) h2H h2W hx]
  have rLo := alongW_rect h0 hh0 x _ _ hx
  have rHi := alongW_rect h1 hh1 x _ _ hx
  set lo := alongW (Cf h0) x with hlo
  set hi := alongW (Cf h1) x with hhi
  have rll := alongH_rect h0 hh0 lo _ _ rLo h2H h2W
  have rlh := alongH_rect h1 hh1 lo _ _ rLo h2H h2W
  have rhl := alongH_rect h0 hh0 hi _ _ rHi h2H h2W
  have rhh := alongH_rect h1 hh1 hi _ _ rHi h2H h2W
  have hrt := highs_round_trip s hs _ _ _ H W hH rlh rhl rhh
  rw [invJ1_eq s g0 g1 hg0 hg1 _ _ H W hH hW rll (by rw [hrt]; exact rlh) (by rw [hrt]; exact rhl) (by rw [hrt]; exact rhh), hrt]
  simp only []
  rw [col_pr_img h0 h1 g0 g1 hh0 hh1 hg0 hg1 hs0 hs1 hpr hi _ _ rHi h2H h2W,
    col_pr_img h0 h1 g0 g1 hh0 hh1 hg0 hg1 hs0 hs1 hpr lo _ _ rLo h2H h2W,
    hhi, hlo, row_pr_img h0 h1 g0 g1 hh0 hh1 hg0 hg1 hs0 hs1 hpr x _ _ hx h2W]

/-- `PR1` only has to be checked for `|d| ≤ D`: outside, every product vanishes -/
theorem pr1_of_bounded (h0 h1 g0 g1 : List R) (hh0 : h0.length % 2 = 1) (hh1 : h1.length % 2 = 1)
    (hg0 : g0.length % 2 = 1) (hg1 : g1.length % 2 = 1) (D : Nat)
    (hD0 : g0.length/2 + h0.length/2 ≤ D) (hD1 : g1.length/2 + h1.length/2 ≤ D)
    (hb : ∀ d : Int, -(D:Int) ≤ d → d ≤ D →
      (∑ a ∈ range g0.length, getN g0 a * getZ h0 ((((g0.length/2 + h0.length/2 : Nat)):Int) - d - (a:Int)))
      + (∑ a ∈ range g1.length, getN g1 a * getZ h1 ((((g1.length/2 + h1.length/2 : Nat)):Int) - d - (a:Int)))
        = if d = 0 then 1 else 0) :
    PR1 h0 h1 g0 g1 := by
  intro d
  by_cases hin : -(D:Int) ≤ d ∧ d ≤ D
  · exact hb d hin.1 hin.2
  · have hd0 : ¬ d = 0 := by omega
    rw [if_neg hd0]
    have z : ∀ (g h : List R), g.length % 2 = 1 → h.length % 2 = 1 → g.length/2 + h.length/2 ≤ D →
        ∑ a ∈ range g.length, getN g a * getZ h ((((g.length/2 + h.length/2 : Nat)):Int) - d - (a:Int)) = 0 := by
      intro g h hg hh hD
      apply Finset.sum_eq_zero
      intro a ha
      have ha' : a < g.length := by simpa using ha
      rw [getZ_outside h _ (by push_cast; omega), mul_zero]
    rw [z g0 h0 hg0 hh0 hD0, z g1 h1 hg1 hh1 hD1, add_zero]

/-- the shipped `legall` table (LeGall 5/3, exactly dyadic) satisfies `PR1` over ℚ (this `example`), and its analysis
filters are symmetric (the next `example`): the hypotheses `PR1`, `Symm` and odd lengths of `level1_pr` are met by a table
the library ships; `2·s·s = 1` has no solution in ℚ, so this is not an instance of `level1_pr` itself -/
example : PR1 (R := ℚ) [-1/8, 1/4, 3/4, 1/4, -1/8] [-1/4, 1/2, -1/4] [1/4, 1/2, 1/4] [-1/8, -1/4, 3/4, -1/4, -1/8] := by
  apply pr1_of_bounded _ _ _ _ (by decide) (by decide) (by decide) (by decide) 3 (by decide) (by decide)
  intro d h1 h2
  interval_cases d <;> decide +kernel

example : Symm (R := ℚ) [-1/8, 1/4, 3/4, 1/4, -1/8] ∧ Symm (R := ℚ) [-1/4, 1/2, -1/4] := by
  constructor <;> intro j hj <;> simp at hj <;> interval_cases j <;> simp [getN]

end WV.C04
