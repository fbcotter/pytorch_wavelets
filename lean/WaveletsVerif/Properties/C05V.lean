/-
  C05 — back-propagation through the whole J-level ONE-DIMENSIONAL inverse transform `DWT1DInverse` is the exact adjoint (one channel): the
  low-pass and every band-pass level receive their gradients, the one-sample crops of the module's loop included.

  `DWT1DInverse` applies `SFB1D` from the coarsest level to the finest and drops the last sample of the running low-pass when it is
  one sample longer than that level's band-pass signal.  Autograd therefore runs `SFB1D.backward` (the analysis bank with the
  synthesis filters) from the finest level to the coarsest, keeps the band-pass gradient of each level and hands the low-pass
  gradient on, extended by one zero where the forward pass cropped (`DWT1DInverseBackward`).  The induction over the levels is done
  once for any mode in which one level is adjoint (`loop_adjoint`), and instantiated
    * in mode zero for every forward-compatible pyramid of lengths (`SizesOK1`) and all filter lengths `L ≥ 2` that fit
      (`L ≤ 2K + 1`, `K ≥ 1` at every level; `DWT1DInverse_zero_adjoint`),
    * in periodization for any synthesis filters of one even length `L ≥ 2` with `L ≤ 2K` at every level
      (`DWT1DInverse_per_adjoint`).
-/
import WaveletsVerif.Properties.C05T
import WaveletsVerif.Properties.C05U
import Mathlib.Data.List.GetD
namespace WV.C05V
open Finset WV WV.C05D WV.C05P WV.C05U
variable {R : Type} [CommRing R]

/-- the chain of `SFB1D.backward` passes: crop flags finest first, cotangent of the output ↦ (low-pass gradient, band-pass gradients) -/
def DWT1DInverseBackward (m : Mode) (g0 g1 : List R) : List Bool → List R → Option (List R × List (List R))
  | [], dy => some (dy, [])
  | c :: fl, dy => do
    let r ← SFB1D_backward m g0 g1 [dy]
    let (gl, rest) ← DWT1DInverseBackward m g0 g1 fl (if c then r.1.getD 0 [] ++ [0] else r.1.getD 0 [])
    some (gl, (r.2.getD 0 []) :: rest)

/-- the loop of `DWT1DInverse` runs from the coarsest level: the finest level is applied last -/
theorem DWT1DInverse_cons (m : Mode) (g0 g1 : List R) (yl : List (List R)) (b : Option (List (List R)))
    (bs : List (Option (List (List R)))) :
    DWT1DInverse m g0 g1 yl (b :: bs) = (DWT1DInverse m g0 g1 yl bs).bind fun Z => DWT1DInverse_step m g0 g1 Z b :=
  foldlM_reverse_cons _ yl b bs

/-- one step of the loop on one channel: the crop of the running low-pass, then the synthesis -/
theorem DWT1DInverse_step_one (m : Mode) (g0 g1 Z b : List R) :
    DWT1DInverse_step m g0 g1 [Z] (some [b])
      = SFB1D_forward m g0 g1 [if Z.length > b.length then Z.take (Z.length - 1) else Z] [b] := by
  unfold DWT1DInverse_step
  simp only [List.headD_cons, List.map_cons, List.map_nil]
  split <;> rfl

theorem SFB1D_backward_eq (m : Mode) (g0 g1 : List R) (dy : List (List R)) :
    SFB1D_backward m g0 g1 dy = AFB1D_forward m g0 g1 dy := rfl

theorem SFB1D_forward_one (m : Mode) (g0 g1 lo hi y : List R) (h : sfb1dCh m g0 g1 lo hi = some y) :
    SFB1D_forward m g0 g1 [lo] [hi] = some [y] := by
  rw [SFB1D_forward_single, h]
  rfl

/-- the crop of the running low-pass is the adjoint of the zero extension of its gradient -/
theorem crop_adjoint1 (z g : List R) (K Z : Nat) (hz : z.length = Z) (hg : g.length = K) (hZ : Z = K ∨ Z = K + 1) :
    dotN K g (if z.length > K then z.take (z.length - 1) else z)
      = dotN Z (if decide (Z > K) = true then g ++ [0] else g) z := by
  rcases hZ with h | h
  · subst h
    simp [hz]
  · have h1 : z.length > K := by omega
    have h2 : Z > K := by omega
    simp only [h1, h2, if_true, decide_true]
    unfold dotN
    rw [h, Finset.sum_range_succ]
    have e0 : getN (g ++ [(0:R)]) K = 0 := by
      unfold getN
      rw [List.getD_append_right _ _ _ _ (by omega), hg]
      simp
    rw [e0, zero_mul, add_zero]
    apply Finset.sum_congr rfl; intro k hk
    simp only [Finset.mem_range] at hk
    rw [getN_take _ _ _ (by omega)]
    congr 1
    unfold getN
    rw [List.getD_append _ _ _ _ (by omega)]

omit [CommRing R] in
theorem length_crop1 (z : List R) (K Z : Nat) (hz : z.length = Z) (hZ : Z = K ∨ Z = K + 1) :
    (if z.length > K then z.take (z.length - 1) else z).length = K := by
  rcases hZ with h | h
  · rw [if_neg (by omega), hz, h]
  · rw [if_pos (by omega), List.length_take, hz, h]
    omega

theorem length_pad1 (g : List R) (K Z : Nat) (hg : g.length = K) (hZ : Z = K ∨ Z = K + 1) :
    (if decide (Z > K) = true then g ++ [0] else g).length = Z := by
  rcases hZ with h | h
  · rw [if_neg (by simp [h]), hg, h]
  · rw [if_pos (by simp [h]), List.length_append, hg, h]
    rfl

section generic
variable (m : Mode) (g0 g1 : List R) (Fit : Nat → Prop) (Out : Nat → Nat)

/-- one level is adjoint (synthesis side): what the induction needs from a mode -/
def LevelAdjS : Prop :=
  ∀ lo hi dy : List R, Fit lo.length → hi.length = lo.length → dy.length = Out lo.length →
    ∃ y dlo dhi, sfb1dCh m g0 g1 lo hi = some y ∧ afb1dOne m g0 dy = some dlo ∧ afb1dOne m g1 dy = some dhi ∧
      y.length = Out lo.length ∧ dlo.length = lo.length ∧ dhi.length = lo.length ∧
      dotN (Out lo.length) dy y = dotN lo.length dlo lo + dotN lo.length dhi hi

variable {m g0 g1 Fit Out} in
/-- the backward half of `LevelAdjS`: it depends on the cotangent only -/
theorem LevelAdjS.bwd (hA : LevelAdjS m g0 g1 Fit Out) {dy : List R} {K : Nat} (hK : Fit K) (hdy : dy.length = Out K) :
    afb1dOne m g0 dy = some (afbV m g0 dy) ∧ afb1dOne m g1 dy = some (afbV m g1 dy) ∧
      (afbV m g0 dy).length = K ∧ (afbV m g1 dy).length = K := by
  have hr : (List.replicate K (0 : R)).length = K := List.length_replicate
  obtain ⟨_, dlo, dhi, _, e2, e3, _, l2, l3, _⟩ := hA (List.replicate K 0) (List.replicate K 0) dy (by rw [hr]; exact hK) rfl
    (by rw [hr]; exact hdy)
  unfold afbV
  rw [e2, e3]
  exact ⟨rfl, rfl, l2.trans hr, l3.trans hr⟩

variable {m g0 g1 Fit Out} in
/-- the forward half of `LevelAdjS` and the identity, the results written as functions of the inputs -/
theorem LevelAdjS.fwd (hA : LevelAdjS m g0 g1 Fit Out) {lo hi dy : List R} {K : Nat} (hlo : lo.length = K) (hhi : hi.length = K)
    (hK : Fit K) (hdy : dy.length = Out K) :
    sfb1dCh m g0 g1 lo hi = some (sfbV m g0 g1 lo hi) ∧ (sfbV m g0 g1 lo hi).length = Out K ∧
      dotN (Out K) dy (sfbV m g0 g1 lo hi) = dotN K (afbV m g0 dy) lo + dotN K (afbV m g1 dy) hi := by
  subst hlo
  obtain ⟨y, dlo, dhi, e1, e2, e3, ly, _, _, hid⟩ := hA lo hi dy hK hhi hdy
  unfold afbV sfbV
  rw [e1, e2, e3]
  exact ⟨rfl, ly, hid⟩

/-- output length of the pyramid: band lengths finest first, then the length of the low-pass -/
def outSize1 : List Nat → Nat → Nat
  | [], A => A
  | K :: _, _ => Out K

/-- where the forward pass crops -/
def flags1 : List Nat → Nat → List Bool
  | [], _ => []
  | K :: ks, A => decide (outSize1 Out ks A > K) :: flags1 ks A

/-- a forward-compatible pyramid of band lengths: every level receives a low-pass of its own length or one sample more -/
def SizesOK1 : List Nat → Nat → Prop
  | [], _ => True
  | K :: ks, A => SizesOK1 ks A ∧ Fit K ∧ (outSize1 Out ks A = K ∨ outSize1 Out ks A = K + 1)

def BandsOK : List Nat → List (List R) → Prop
  | [], [] => True
  | K :: ks, b :: bs => b.length = K ∧ BandsOK ks bs
  | _, _ => False

def bandsDot1 : List Nat → List (List R) → List (List R) → R
  | K :: ks, b :: bs, d :: ds => dotN K d b + bandsDot1 ks bs ds
  | _, _, _ => 0

/-- the chain rule over the loop of `DWT1DInverse` gives the adjoint whenever one level is adjoint:
`⟨DWT1DInverse(yl, yh), dy⟩ = ⟨yl, d yl⟩ + Σ_levels ⟨yh_j, d yh_j⟩` -/
theorem loop_adjoint (hA : LevelAdjS m g0 g1 Fit Out) : ∀ (ks : List Nat) (A : Nat) (yl : List R) (bs : List (List R)) (dy : List R),
    SizesOK1 Fit Out ks A → yl.length = A → BandsOK ks bs → dy.length = outSize1 Out ks A →
    ∃ y gl ds, DWT1DInverse m g0 g1 [yl] (bs.map fun b => some [b]) = some [y] ∧ y.length = outSize1 Out ks A ∧
      DWT1DInverseBackward m g0 g1 (flags1 Out ks A) dy = some (gl, ds) ∧ gl.length = A ∧
      dotN (outSize1 Out ks A) dy y = dotN A gl yl + bandsDot1 ks bs ds := by
  intro ks
  induction ks with
  | nil =>
    intro A yl bs dy _ hyl hb hdy
    cases bs with
    | cons b bs => exact absurd hb (by simp [BandsOK])
    | nil => exact ⟨yl, dy, [], rfl, hyl, rfl, hdy, by simp only [outSize1, bandsDot1, add_zero]⟩
  | cons K ks ih =>
    intro A yl bs dy hs hyl hb hdy
    cases bs with
    | nil => exact absurd hb (by simp [BandsOK])
    | cons b bs =>
      obtain ⟨hbl, hbr⟩ := hb
      obtain ⟨hsr, hfit, hz⟩ := hs
      simp only [outSize1] at hdy ⊢
      obtain ⟨e2, e3, ldlo, -⟩ := hA.bwd hfit hdy
      -- the coarser levels: forward from `yl`, backward from the zero-extended low-pass gradient
      obtain ⟨Z, gl, ds, hfold, lZ, hbw, lgl, hid'⟩ := ih A yl bs _ hsr hyl hbr (length_pad1 _ K _ ldlo hz)
      -- this level applied to the crop of what the coarser levels reconstructed
      obtain ⟨hF, ly, hid⟩ := hA.fwd (length_crop1 Z K _ lZ hz) hbl hfit hdy
      refine ⟨_, gl, afbV m g1 dy :: ds, ?_, ly, ?_, lgl, ?_⟩
      · simp only [List.map_cons, DWT1DInverse_cons, hfold, Option.bind_some, DWT1DInverse_step_one, hbl]
        exact SFB1D_forward_one m g0 g1 _ b _ hF
      · simp only [flags1, DWT1DInverseBackward, SFB1D_backward_eq, AFB1D_forward_one m g0 g1 dy _ _ e2 e3, Option.bind_eq_bind,
          Option.bind_some, List.getD_cons_zero, hbw]
      · rw [hid, crop_adjoint1 Z _ K _ lZ ldlo hz, hid']
        simp only [bandsDot1]
        ring

end generic

theorem levelAdjS_zero (g0 g1 : List R) (hL : 2 ≤ g0.length) (hg : g1.length = g0.length) :
    LevelAdjS .zero g0 g1 (fun K => 1 ≤ K ∧ g0.length ≤ 2 * K + 1) (fun K => 2 * K + 2 - g0.length) := by
  intro lo hi dy hfit hh hdy'
  obtain ⟨hn, hf⟩ := hfit
  have hdy : dy.length = 2 * lo.length + 2 - g0.length := hdy'
  have eN := synthLen_eq lo.length g0.length hL hn hf
  have hN := synthLen_pos lo.length g0.length hL hn hf
  have eK := bandLen_synthLen lo.length g0.length hL hn hf
  rw [eN] at hN eK
  have eNf : C05S.Nf lo.length g0.length = 2 * lo.length + 2 - g0.length := eN
  rw [← hdy] at hN eK
  have hL1 : 2 ≤ g1.length := by rw [hg]; exact hL
  refine ⟨Sz g0 g1 lo hi, _, _, C05.sfb1dCh_zero_val g0 g1 lo hi hL hg hn hh hf, C05.afb1dOne_zero_val g0 dy hL hN, C05.afb1dOne_zero_val g1 dy hL1 hN,
    by rw [Sz_length]; exact eN, by rw [C05.afbZeroVal_length g0 dy hL hN]; exact eK,
    by rw [C05.afbZeroVal_length g1 dy hL1 hN, hg]; exact eK, ?_⟩
  have h := C05S.adjS1 g0 g1 hL hg lo.length hn hf dy lo hi (hdy.trans eNf.symm) rfl hh
  rw [eNf] at h
  exact h.symm

/-- back-propagation through the J-level `DWT1DInverse` in mode zero is the exact adjoint (one channel), crops included, for every
pyramid of band lengths meeting `hs` (`K ≥ 1`, `L ≤ 2K + 1` at every level) and filter lengths `L ≥ 2` -/
theorem DWT1DInverse_zero_adjoint (g0 g1 : List R) (hL : 2 ≤ g0.length) (hg : g1.length = g0.length) (ks : List Nat) (A : Nat)
    (yl : List R) (bs : List (List R)) (dy : List R)
    (hs : SizesOK1 (fun K => 1 ≤ K ∧ g0.length ≤ 2 * K + 1) (fun K => 2 * K + 2 - g0.length) ks A) (hyl : yl.length = A)
    (hb : BandsOK ks bs) (hdy : dy.length = outSize1 (fun K => 2 * K + 2 - g0.length) ks A) :
    ∃ y gl ds, DWT1DInverse .zero g0 g1 [yl] (bs.map fun b => some [b]) = some [y] ∧
      y.length = outSize1 (fun K => 2 * K + 2 - g0.length) ks A ∧
      DWT1DInverseBackward .zero g0 g1 (flags1 (fun K => 2 * K + 2 - g0.length) ks A) dy = some (gl, ds) ∧ gl.length = A ∧
      dotN (outSize1 (fun K => 2 * K + 2 - g0.length) ks A) dy y = dotN A gl yl + bandsDot1 ks bs ds :=
  loop_adjoint .zero g0 g1 _ _ (levelAdjS_zero g0 g1 hL hg) ks A yl bs dy hs hyl hb hdy

/-- the size conditions `hs` of `DWT1DInverse_zero_adjoint` are satisfiable with a crop: db2 (4 taps), three levels of a length-11 signal: bands 7, 5, 4, low-pass 4;
`2·4 + 2 − 4 = 6 = 5 + 1` and `2·5 + 2 − 4 = 8 = 7 + 1` are cropped, the finest level returns 12 samples -/
example : SizesOK1 (fun K => 1 ≤ K ∧ 4 ≤ 2 * K + 1) (fun K => 2 * K + 2 - 4) [7, 5, 4] 4 ∧
    flags1 (fun K => 2 * K + 2 - 4) [7, 5, 4] 4 = [true, true, false] := by
  simp [SizesOK1, outSize1, flags1]

theorem levelAdjS_per (g0 g1 : List R) (hL : 2 ≤ g0.length) (hLe : g0.length % 2 = 0) (hg : g1.length = g0.length) :
    LevelAdjS .periodization g0 g1 (fun K => g0.length ≤ 2 * K) (fun K => 2 * K) := by
  intro lo hi dy hfit hh hdy
  obtain ⟨e1, e2, e3, l2, l3, ht⟩ := C05T.SFB1D_per_vals g0 g1 lo hi dy hL hLe hg hh hdy hfit
  refine ⟨_, _, _, e1, e2, e3, length_idwt_per g0 g1 lo hi, l2, l3, ?_⟩
  rw [dotN_comm _ _ lo, dotN_comm _ _ hi]
  exact ht

/-- back-propagation through the J-level `DWT1DInverse` in periodization mode is the exact adjoint (one channel) for any synthesis
filters of one even length `L ≥ 2` that fit every level (`L ≤ 2K`); sizes are even on the synthesis side, so a crop happens only where the caller's pyramid
came from an odd length -/
theorem DWT1DInverse_per_adjoint (g0 g1 : List R) (hL : 2 ≤ g0.length) (hLe : g0.length % 2 = 0) (hg : g1.length = g0.length)
    (ks : List Nat) (A : Nat) (yl : List R) (bs : List (List R)) (dy : List R)
    (hs : SizesOK1 (fun K => g0.length ≤ 2 * K) (fun K => 2 * K) ks A) (hyl : yl.length = A)
    (hb : BandsOK ks bs) (hdy : dy.length = outSize1 (fun K => 2 * K) ks A) :
    ∃ y gl ds, DWT1DInverse .periodization g0 g1 [yl] (bs.map fun b => some [b]) = some [y] ∧
      y.length = outSize1 (fun K => 2 * K) ks A ∧
      DWT1DInverseBackward .periodization g0 g1 (flags1 (fun K => 2 * K) ks A) dy = some (gl, ds) ∧ gl.length = A ∧
      dotN (outSize1 (fun K => 2 * K) ks A) dy y = dotN A gl yl + bandsDot1 ks bs ds :=
  loop_adjoint .periodization g0 g1 _ _ (levelAdjS_per g0 g1 hL hLe hg) ks A yl bs dy hs hyl hb hdy

/-- the size conditions `hs` of `DWT1DInverse_per_adjoint` are satisfiable with a crop: 4 taps, bands 3, 2 (finest first), low-pass 2: the coarse level returns `2·2 = 4 = 3 + 1` samples and
is cropped -/
example : SizesOK1 (fun K => 4 ≤ 2 * K) (fun K => 2 * K) [3, 2] 2 ∧ flags1 (fun K => 2 * K) [3, 2] 2 = [true, false] := by
  simp [SizesOK1, outSize1, flags1]

end WV.C05V
