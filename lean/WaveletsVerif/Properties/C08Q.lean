/-
  C08 — value refinement of the SECOND-order scattering layer (no colour combination, non-band-pass families), for ANY
  square-root operation.

  On a stack of images of one size whose sides are positive multiples of 8 (`mode='symmetric'`, level-1 filters of odd length,
  q-shift pairs equally long of length ≥ 1) the implementation model of `ScatLayerj2_f.forward` — level-1 DTCWT
  of every channel, smoothed magnitudes, level-2 (q-shift) DTCWT of the level-1 low-passes, a second level-1 DTCWT of the
  6C first-order magnitude images, 2×2 average pooling, the `49C` channel packing `[S0 | pooled S1 | S1 (scale 2) | S2]` —
  equals the composition of the REFERENCE transforms `Spec.refLevel1` / `Spec.refLevel2` (what `dtcwt.numpy` computes,
  C03P) with those formulas (`Spec.scat2`).  Both colour settings share one proof over arbitrary level transforms
  (`scatJ2_of_levels`).  The module `ScatLayerj2` first extends the image to multiples of 8 (`pad8Img`); with that
  extension the statement holds for every image with at least 4 rows and columns (`ScatLayerj2_eq_spec`).
-/
import WaveletsVerif.Properties.C08P
import WaveletsVerif.Properties.C11P
import WaveletsVerif.Lemmas.Scat
namespace WV
namespace Spec
variable {α : Type}

/-- reference second-order scattering of one batch item (sides multiples of 8, no colour combination) -/
def scat2 [Add α] [Sub α] [Mul α] [OfNat α 0] (m : MagOps α) (h0o h1o h0a h0b h1a h1b : List α) (x : List (Img α)) :
    List (Img α) :=
  let r1 := x.map fun im => refLevel1 m.s h0o h1o im
  let s1j1 := ((List.range 6).map fun o => r1.map fun p => subBias m (magR m (p.2.getD o ([], [])))).flatten
  let r2 := r1.map fun p => refLevel2 m.s h0a h0b h1a h1b p.1
  let s1j2 := ((List.range 6).map fun o => r2.map fun p => subBias m (magR m (p.2.getD o ([], [])))).flatten
  let s0 := r2.map fun p => avgPool2 m.q p.1
  let r3 := s1j1.map fun im => refLevel1 m.s h0o h1o im
  let s2 := ((List.range 6).map fun o2 => r3.map fun p => subBias m (magR m (p.2.getD o2 ([], [])))).flatten
  let s1p := r3.map fun p => avgPool2 m.q p.1
  s0 ++ s1p ++ s1j2 ++ s2

end Spec

namespace C08Q
open WV.C04 WV.C04P WV.C03P WV.C11P
variable {R : Type} [CommRing R]

theorem fwd2_eq (m : MagOps R) (h0a h0b h1a h1b : List R) (hl0 : 1 ≤ h0b.length) (hab0 : h0a.length = h0b.length)
    (hl1 : 1 ≤ h1b.length) (hab1 : h1a.length = h1b.length) (im : Img R) (a b : Nat) (ha : 1 ≤ a) (hb : 1 ≤ b) (hx : Rect im (4*a) (4*b)) :
    fwd2 m (prepFilt h0a) (prepFilt h1a) (prepFilt h0b) (prepFilt h1b) none im = some (Spec.refLevel2 m.s h0a h0b h1a h1b im) := by
  simp only [fwd2]
  rw [fwdJ2_eq_ref m.s h0a h0b h1a h1b hl0 hab0 hl1 hab1 im a b ha hb hx]
  rfl

theorem bandOK_highsToOrientations (s : R) (lh hl hh : Img R) (a b : Nat) (ha : 1 ≤ a) (r1 : Rect lh (2*a) (2*b))
    (r2 : Rect hl (2*a) (2*b)) (r3 : Rect hh (2*a) (2*b)) : BandOK (highsToOrientations s lh hl hh) a b := by
  intro k hk
  have h := (C06.highsToOrientations_rect s lh hl hh a b ha r1 r2 r3 k hk).1
  exact ⟨h.1, rect_width _ _ _ h ha⟩

theorem refLevel1_bands (s : R) (h0 h1 : List R) (hh0 : h0.length % 2 = 1) (hh1 : h1.length % 2 = 1) (x : Img R) (a b : Nat)
    (ha : 1 ≤ a) (hb : 1 ≤ b) (hx : Rect x (2*a) (2*b)) : BandOK (Spec.refLevel1 s h0 h1 x).2 a b := by
  have h2a : 1 ≤ 2 * a := by omega
  have h2b : 1 ≤ 2 * b := by omega
  have rLo := alongH_rect h0 hh0 x _ _ hx h2a h2b
  have rHi := alongH_rect h1 hh1 x _ _ hx h2a h2b
  exact bandOK_highsToOrientations s _ _ _ a b ha (alongW_rect h0 hh0 _ _ _ rHi) (alongW_rect h1 hh1 _ _ _ rLo)
    (alongW_rect h1 hh1 _ _ _ rHi)

/-- the module's filter record for the non-band-pass families -/
def mkS2 (h0o h1o h0a h0b h1a h1b : List R) : Scat2Filters R :=
  { h0o := prepFilt h0o, h1o := prepFilt h1o, h2o := none, h0a := prepFilt h0a, h0b := prepFilt h0b,
    h1a := prepFilt h1a, h1b := prepFilt h1b, h2ab := none }

/-- smoothed magnitudes of the six bands of every channel (band-major), or the six joint magnitudes over three colours -/
def mags (m : MagOps R) (colour : Bool) (r : List (Img R × List (Cplx R))) : List (Img R) :=
  if colour then
    (List.range 6).map fun o => subBias m (magR3 m ((r.getD 0 ([], [])).2.getD o ([], [])) ((r.getD 1 ([], [])).2.getD o ([], []))
      ((r.getD 2 ([], [])).2.getD o ([], [])))
  else ((List.range 6).map fun o => r.map fun p => subBias m (magR m (p.2.getD o ([], [])))).flatten

/-- the second-order scattering formulas over arbitrary transforms `L1` (level 1) and `L2` (level 2) -/
def scat2Of (m : MagOps R) (L1 L2 : Img R → Img R × List (Cplx R)) (colour : Bool) (x : List (Img R)) : List (Img R) :=
  let r1 := x.map L1
  let r2 := r1.map fun p => L2 p.1
  let r3 := (mags m colour r1).map L1
  (r2.map fun p => avgPool2 m.q p.1) ++ (r3.map fun p => avgPool2 m.q p.1) ++ mags m colour r2 ++ mags m false r3

theorem scat2_eq_scat2Of (m : MagOps R) (h0o h1o h0a h0b h1a h1b : List R) (x : List (Img R)) :
    Spec.scat2 m h0o h1o h0a h0b h1a h1b x
      = scat2Of m (Spec.refLevel1 m.s h0o h1o) (Spec.refLevel2 m.s h0a h0b h1a h1b) false x := rfl

theorem mags_rect (m : MagOps R) (L1 : Img R → Img R × List (Cplx R)) (colour : Bool) (x : List (Img R))
    (hc : colour = true → x.length = 3) (A B : Nat) (hb : ∀ im ∈ x, BandOK (L1 im).2 A B) :
    ∀ im ∈ mags m colour (x.map L1), Rect im A B := by
  intro im him
  cases colour
  · simp only [mags, Bool.false_eq_true, if_false, List.mem_flatten] at him
    obtain ⟨l, hl, himl⟩ := him
    obtain ⟨o, ho, rfl⟩ := List.mem_map.mp hl
    obtain ⟨p, hp, rfl⟩ := List.mem_map.mp himl
    obtain ⟨im0, him0, rfl⟩ := List.mem_map.mp hp
    have hbands := hb im0 him0 o (by simpa using ho)
    exact subBias_rect m _ A B (magR_rect m _ A B hbands.1 hbands.2)
  · -- the joint magnitude has the shape of the bands of colour 0
    obtain ⟨x0, rest, rfl⟩ : ∃ x0 rest, x = x0 :: rest := by
      cases x with
      | nil => simp at hc
      | cons a b => exact ⟨a, b, rfl⟩
    simp only [mags, if_true] at him
    obtain ⟨o, ho, rfl⟩ := List.mem_map.mp him
    have hbands := hb x0 (by simp) o (by simpa using ho)
    exact subBias_rect m _ A B (magR3_rect m _ _ _ A B hbands.1 hbands.2)

/-- the second-order layer computes the scattering formulas over whatever its two level transforms compute on the sizes
that occur: `8a × 8b` and `4a × 4b` at level 1, `4a × 4b` at level 2 -/
theorem scatJ2_of_levels (m : MagOps R) (f : Scat2Filters R) (L1 L2 : Img R → Img R × List (Cplx R))
    (h1 : ∀ (im : Img R) (a b : Nat), 1 ≤ a → 1 ≤ b → Rect im (2*a) (2*b) → fwd1 m true f.h0o f.h1o f.h2o im = L1 im)
    (h2 : ∀ (im : Img R) (a b : Nat), 1 ≤ a → 1 ≤ b → Rect im (4*a) (4*b) →
      fwd2 m f.h0a f.h1a f.h0b f.h1b f.h2ab im = some (L2 im))
    (hr : ∀ (im : Img R) (a b : Nat), 1 ≤ a → 1 ≤ b → Rect im (2*a) (2*b) → Rect (L1 im).1 (2*a) (2*b))
    (hbd : ∀ (im : Img R) (a b : Nat), 1 ≤ a → 1 ≤ b → Rect im (2*a) (2*b) → BandOK (L1 im).2 a b)
    (colour : Bool) (x : List (Img R)) (hc : colour = true → x.length = 3) (a b : Nat) (ha : 1 ≤ a) (hb : 1 ≤ b)
    (hx : ∀ im ∈ x, Rect im (8*a) (8*b)) :
    scatJ2 m true f colour x = some (scat2Of m L1 L2 colour x) := by
  have hguard := C08P.size_guard 8 a b (by omega) x hx
  have hx2 : ∀ im ∈ x, Rect im (2*(4*a)) (2*(4*b)) := by
    intro im him; have := hx im him
    rw [show 2*(4*a) = 8*a by ring, show 2*(4*b) = 8*b by ring]; exact this
  have hmap1 : x.map (fwd1 m true f.h0o f.h1o f.h2o) = x.map L1 :=
    List.map_congr_left fun im him => h1 im (4*a) (4*b) (by omega) (by omega) (hx2 im him)
  have hmap2 : (x.map L1).mapM (fun p => fwd2 m f.h0a f.h1a f.h0b f.h1b f.h2ab p.1) = some ((x.map L1).map fun p => L2 p.1) := by
    apply mapM_total
    intro p hp
    obtain ⟨im, him, rfl⟩ := List.mem_map.mp hp
    have := hr im (4*a) (4*b) (by omega) (by omega) (hx2 im him)
    rw [show 2*(4*a) = 4*(2*a) by ring, show 2*(4*b) = 4*(2*b) by ring] at this
    exact h2 _ (2*a) (2*b) (by omega) (by omega) this
  -- the first-order magnitude images are `4a × 4b`; level 1 again on each
  have hs1 := mags_rect m L1 colour x hc (4*a) (4*b)
    fun im him => hbd im (4*a) (4*b) (by omega) (by omega) (hx2 im him)
  have hmap3 : (mags m colour (x.map L1)).map (fwd1 m true f.h0o f.h1o f.h2o) = (mags m colour (x.map L1)).map L1 := by
    apply List.map_congr_left
    intro im him
    have := hs1 im him
    rw [show 4*a = 2*(2*a) by ring, show 4*b = 2*(2*b) by ring] at this
    exact h1 im (2*a) (2*b) (by omega) (by omega) this
  unfold scatJ2
  rw [if_neg hguard]
  cases colour
  · simp only [mags, Bool.false_eq_true, if_false] at hmap3
    simp only [Bool.not_true, Bool.false_eq_true, if_false, hmap1, hmap2, hmap3, Option.bind_eq_bind, Option.bind_some,
      scat2Of, mags]
  · have h3 : ¬ (x.length ≠ 3) := by rw [hc rfl]; simp
    simp only [mags, if_true] at hmap3
    simp only [Bool.not_true, Bool.false_eq_true, if_false, if_true, h3, hmap1, hmap2, hmap3, Option.bind_eq_bind, Option.bind_some,
      scat2Of, mags]

theorem scatJ2_eq_spec (m : MagOps R) (h0o h1o h0a h0b h1a h1b : List R) (hh0 : h0o.length % 2 = 1) (hh1 : h1o.length % 2 = 1)
    (hl0 : 1 ≤ h0b.length) (hab0 : h0a.length = h0b.length) (hl1 : 1 ≤ h1b.length) (hab1 : h1a.length = h1b.length)
    (x : List (Img R)) (a b : Nat) (ha : 1 ≤ a) (hb : 1 ≤ b) (hx : ∀ im ∈ x, Rect im (8*a) (8*b)) :
    scatJ2 m true (mkS2 h0o h1o h0a h0b h1a h1b) false x = some (Spec.scat2 m h0o h1o h0a h0b h1a h1b x) := by
  rw [scat2_eq_scat2Of]
  exact scatJ2_of_levels m (mkS2 h0o h1o h0a h0b h1a h1b) _ _ (C08P.fwd1_eq m h0o h1o hh0 hh1)
    (fwd2_eq m h0a h0b h1a h1b hl0 hab0 hl1 hab1) (refLevel1_rect m.s h0o h1o hh0) (refLevel1_bands m.s h0o h1o hh0 hh1)
    false x (by simp) a b ha hb hx

/-- the slices `x[:before]`, `x[-after:]` of the extension have `before, after ≤ 4` and `before + after = 8 − rem` -/
theorem pad8_slices (r : Nat) (h0 : 0 < r) (h8 : r < 8) :
    (8 - r) / 2 ≤ 4 ∧ (9 - r) / 2 ≤ 4 ∧ 0 < (9 - r) / 2 ∧ (8 - r) / 2 + (9 - r) / 2 = 8 - r := by
  omega

theorem pad8_total (n : Nat) (h0 : n % 8 ≠ 0) : n + (8 - n % 8) = 8 * ((n + 7) / 8) := by
  omega

theorem pad8_length {α : Type} (x : List α) (h : 4 ≤ x.length) : (pad8 x).length = 8 * ((x.length + 7) / 8) := by
  unfold pad8
  by_cases hr : x.length % 8 = 0
  · simp only [hr, if_true]
    omega
  · obtain ⟨hb, ha, ha0, hs⟩ := pad8_slices (x.length % 8) (Nat.pos_of_ne_zero hr) (Nat.mod_lt _ (by decide))
    simp only [hr, if_false, sliceTo, sliceFrom, List.length_append, List.length_take, List.length_drop]
    rw [pyBound_nat _ _ (hb.trans h), pyBound_neg _ _ (ha.trans h) ha0, Nat.min_eq_left (hb.trans h),
      Nat.sub_sub_self (ha.trans h), Nat.add_right_comm, hs, Nat.add_comm, pad8_total x.length hr]

theorem pad8_mem {α : Type} (x : List α) (r : α) (h : r ∈ pad8 x) : r ∈ x := by
  unfold pad8 at h
  simp only [] at h
  by_cases hr : x.length % 8 = 0
  · rw [if_pos hr] at h; exact h
  · rw [if_neg hr] at h
    simp only [List.mem_append, sliceTo, sliceFrom] at h
    rcases h with (h | h) | h
    · exact List.mem_of_mem_take h
    · exact h
    · exact List.mem_of_mem_drop h

omit [CommRing R] in
theorem pad8Img_rect (im : Img R) (H W : Nat) (hx : Rect im H W) (hH : 4 ≤ H) (hW : 4 ≤ W) :
    Rect (pad8Img im) (8 * ((H + 7) / 8)) (8 * ((W + 7) / 8)) := by
  unfold pad8Img
  constructor
  · rw [List.length_map, pad8_length im (by rw [hx.1]; exact hH), hx.1]
  · intro row hrow
    obtain ⟨r0, h0, rfl⟩ := List.mem_map.mp hrow
    have hr0 : r0.length = W := hx.2 r0 (pad8_mem im r0 h0)
    rw [pad8_length r0 (by rw [hr0]; exact hW), hr0]

omit [CommRing R] in
theorem pad8Img_map_rect (x : List (Img R)) (H W : Nat) (hH : 4 ≤ H) (hW : 4 ≤ W) (hx : ∀ im ∈ x, Rect im H W) :
    ∀ im ∈ x.map pad8Img, Rect im (8 * ((H + 7) / 8)) (8 * ((W + 7) / 8)) := by
  intro im him
  obtain ⟨im0, h0, rfl⟩ := List.mem_map.mp him
  exact pad8Img_rect im0 H W (hx im0 h0) hH hW

/-- the module `ScatLayerj2`: extension to multiples of 8, then the Function; every image with at least 4 rows and columns (at
size 2 the extension itself is the recorded finding — `pad8` yields length 6; size 3 is not covered by this statement), every
channel count -/
theorem ScatLayerj2_eq_spec (m : MagOps R) (h0o h1o h0a h0b h1a h1b : List R) (hh0 : h0o.length % 2 = 1) (hh1 : h1o.length % 2 = 1)
    (hl0 : 1 ≤ h0b.length) (hab0 : h0a.length = h0b.length) (hl1 : 1 ≤ h1b.length) (hab1 : h1a.length = h1b.length)
    (x : List (Img R)) (H W : Nat) (hH : 4 ≤ H) (hW : 4 ≤ W) (hx : ∀ im ∈ x, Rect im H W) :
    ScatLayerj2 m true (mkS2 h0o h1o h0a h0b h1a h1b) false x
      = some (Spec.scat2 m h0o h1o h0a h0b h1a h1b (x.map pad8Img)) := by
  unfold ScatLayerj2
  exact scatJ2_eq_spec m h0o h1o h0a h0b h1a h1b hh0 hh1 hl0 hab0 hl1 hab1 _ ((H + 7) / 8) ((W + 7) / 8) (by omega) (by omega)
    (pad8Img_map_rect x H W hH hW hx)

/-- the instance `H = 5`, `W = 6` of the size hypotheses `4 ≤ H`, `4 ≤ W` of `ScatLayerj2_eq_spec`: the extended size
`8·((H+7)/8) × 8·((W+7)/8)` is 8 × 8, and `pad8` of a list of length 5 has length 8 -/
example : 8 * ((5 + 7) / 8) = 8 ∧ 8 * ((6 + 7) / 8) = 8 ∧ (pad8 [1, 2, 3, 4, 5]).length = 8 := by decide

end C08Q
end WV
