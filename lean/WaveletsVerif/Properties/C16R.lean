/-
  C16 — the float32-accuracy bound as a theorem under the standard model of floating-point arithmetic.

  Standard model: every multiplication and every addition returns the exact result times `(1 + δ)` with `|δ| ≤ u`
  (`u = eps/2`; no overflow / underflow).  Then
  * a dot product of `n` terms evaluated in sequence differs from the exact one by at most
    `((1+u)^(n+1) − 1) · Σ|a_k||x_k|` (`flDot_err`);
  * every output sample of the strided correlation of `afb1d` (modes zero / symmetric / periodic / reflect, whenever the exact
    model returns) computed that way — whatever the individual rounding errors —
    differs from the exact sample by at most `γ·‖w‖₁·max|x|`, `γ = (1+u)^(L+1) − 1` (`flCorr_err`, `afb1dOneFl_err`);
    padding moves samples and rounds nothing;
  * perturbing the input by `E` perturbs the exact output by at most `‖w‖₁·E` (`afb1dOne_close`);
  * in the modes zero / symmetric / periodic, for filters of length `≥ 2` and a non-empty signal, through `J` levels of the
    pyramid every coefficient of every band computed with ANY one-level maps that meet the
    one-level bound differs from the exact `wavedec` coefficient (= the module `DWT1DForward`, C01) by at most
    `((1+γ)^J − 1)·g^J·max|x|`, `g = max(‖h0‖₁, ‖h1‖₁, 1)` (`wavedec_fl_err`) — "a small multiple of eps times the gain times
    the largest input magnitude", the bound the float32-vs-float64 oracle measures against.
-/
import WaveletsVerif.Properties.C16G
namespace WV.C16R
open WV WV.C16 WV.C16G Finset

/-- sequential evaluation of `Σ a_k x_k` with one rounding per product (`δ`) and one per addition (`ε`) -/
noncomputable def flDot (a x δ ε : Nat → ℝ) : Nat → ℝ
  | 0 => 0
  | k+1 => (flDot a x δ ε k + a k * x k * (1 + δ k)) * (1 + ε k)

theorem pow_mono_u (u : ℝ) (hu : 0 ≤ u) {m n : Nat} (h : m ≤ n) : (1 + u) ^ m ≤ (1 + u) ^ n :=
  pow_le_pow_right₀ (by linarith) h

theorem flDot_err (a x δ ε : Nat → ℝ) (u : ℝ) (hu : 0 ≤ u) (hδ : ∀ k, |δ k| ≤ u) (hε : ∀ k, |ε k| ≤ u) (n : Nat) :
    |flDot a x δ ε n - ∑ k ∈ range n, a k * x k| ≤ ((1 + u) ^ (n + 1) - 1) * ∑ k ∈ range n, |a k * x k| := by
  induction n with
  | zero => simp only [flDot, Finset.range_zero, Finset.sum_empty, sub_zero, abs_zero, mul_zero, le_refl]
  | succ n ih =>
    rw [Finset.sum_range_succ, Finset.sum_range_succ]
    set f := flDot a x δ ε n with hf
    set S := ∑ k ∈ range n, a k * x k with hS
    set T := ∑ k ∈ range n, |a k * x k| with hT
    set p := a n * x n with hp
    have hT0 : 0 ≤ T := Finset.sum_nonneg (fun _ _ => abs_nonneg _)
    have hST : |S| ≤ T := Finset.abs_sum_le_sum_abs _ _
    have hc0 : 0 ≤ (1 + u) ^ (n + 1) - 1 := sub_nonneg.mpr (one_le_pow₀ (le_add_of_nonneg_right hu))
    have e : flDot a x δ ε (n + 1) - (S + p) = (f - S) * (1 + ε n) + S * ε n + p * ((1 + δ n) * (1 + ε n) - 1) := by
      simp only [flDot]; ring
    rw [e]
    have b1 : |(f - S) * (1 + ε n)| ≤ ((1 + u) ^ (n + 1) - 1) * T * (1 + u) := by
      rw [abs_mul]
      have h1 : |1 + ε n| ≤ 1 + u := by
        calc |1 + ε n| ≤ |(1:ℝ)| + |ε n| := abs_add_le _ _
          _ ≤ 1 + u := by rw [abs_one]; linarith [hε n]
      exact mul_le_mul ih h1 (abs_nonneg _) (mul_nonneg hc0 hT0)
    have b2 : |S * ε n| ≤ T * u := by
      rw [abs_mul]; exact mul_le_mul hST (hε n) (abs_nonneg _) hT0
    have b3 : |p * ((1 + δ n) * (1 + ε n) - 1)| ≤ |p| * ((1 + u) ^ 2 - 1) := by
      rw [abs_mul]
      apply mul_le_mul_of_nonneg_left _ (abs_nonneg _)
      have : (1 + δ n) * (1 + ε n) - 1 = δ n + ε n + δ n * ε n := by ring
      rw [this]
      calc |δ n + ε n + δ n * ε n| ≤ |δ n + ε n| + |δ n * ε n| := abs_add_le _ _
        _ ≤ (|δ n| + |ε n|) + |δ n| * |ε n| := by rw [abs_mul]; linarith [abs_add_le (δ n) (ε n)]
        _ ≤ (u + u) + u * u := by
            have := mul_le_mul (hδ n) (hε n) (abs_nonneg _) hu
            linarith [hδ n, hε n]
        _ = (1 + u) ^ 2 - 1 := by ring
    have h2 : (1 + u) ^ 2 - 1 ≤ (1 + u) ^ (n + 1 + 1) - 1 := by
      have := pow_mono_u u hu (show 2 ≤ n + 1 + 1 by omega); linarith
    calc |(f - S) * (1 + ε n) + S * ε n + p * ((1 + δ n) * (1 + ε n) - 1)|
        ≤ |(f - S) * (1 + ε n)| + |S * ε n| + |p * ((1 + δ n) * (1 + ε n) - 1)| := abs_add_three _ _ _
      _ ≤ ((1 + u) ^ (n + 1) - 1) * T * (1 + u) + T * u + |p| * ((1 + u) ^ 2 - 1) := by linarith
      _ ≤ ((1 + u) ^ (n + 1) - 1) * T * (1 + u) + T * u + |p| * ((1 + u) ^ (n + 1 + 1) - 1) := by
          have := mul_le_mul_of_nonneg_left h2 (abs_nonneg p); linarith
      _ = ((1 + u) ^ (n + 1 + 1) - 1) * (T + |p|) := by ring

def Close (E : ℝ) (x y : List ℝ) : Prop := x.length = y.length ∧ ∀ i, |getN x i - getN y i| ≤ E

theorem Close.nonneg {E : ℝ} {x y : List ℝ} (h : Close E x y) : 0 ≤ E := le_trans (abs_nonneg _) (h.2 0)

theorem close_refl (x : List ℝ) : Close 0 x x := ⟨rfl, fun i => by simp⟩

theorem Close.mono {E E' : ℝ} {x y : List ℝ} (h : Close E x y) (hE : E ≤ E') : Close E' x y :=
  ⟨h.1, fun i => le_trans (h.2 i) hE⟩

theorem getZ_close {E : ℝ} {x y : List ℝ} (h : Close E x y) (t : Int) : |getZ x t - getZ y t| ≤ E := by
  unfold getZ
  split
  · exact h.2 t.toNat
  · simpa using h.nonneg

theorem close_tab {E : ℝ} (hE : 0 ≤ E) (n : Nat) (f g : Nat → ℝ) (hfg : ∀ i < n, |f i - g i| ≤ E) : Close E (tab n f) (tab n g) := by
  refine ⟨by simp, fun i => ?_⟩
  rw [getN_tab, getN_tab]
  split
  · exact hfg i (by assumption)
  · simpa using hE

theorem close_zeroPad {E : ℝ} {x y : List ℝ} (h : Close E x y) (l r : Nat) : Close E (zeroPad x l r) (zeroPad y l r) := by
  unfold zeroPad; rw [h.1]
  exact close_tab h.nonneg _ _ _ (fun i _ => getZ_close h _)

theorem close_padIdx {E : ℝ} {x y : List ℝ} (h : Close E x y) (idx : Int → Int → Int) (l r : Nat) :
    Close E (padIdx idx x l r) (padIdx idx y l r) := by
  unfold padIdx; rw [h.1]
  exact close_tab h.nonneg _ _ _ (fun i _ => getZ_close h _)

/-- the exact correlation is Lipschitz with constant `‖w‖₁` -/
theorem corr_close {E : ℝ} (w : List ℝ) {x y : List ℝ} (h : Close E x y) (s d : Nat) :
    Close (l1 w * E) (corr w x s d) (corr w y s d) := by
  unfold corr; rw [h.1]
  apply close_tab (mul_nonneg (l1_nonneg w) h.nonneg)
  intro k _
  rw [sumN_eq, sumN_eq, ← Finset.sum_sub_distrib]
  have : ∀ j ∈ range w.length, getN w j * getN x (s * k + d * j) - getN w j * getN y (s * k + d * j)
      = getN w j * (getN x (s * k + d * j) - getN y (s * k + d * j)) := fun j _ => by ring
  rw [Finset.sum_congr rfl this]
  exact abs_dot_le w.length (fun j => getN w j) (fun j => getN x (s * k + d * j) - getN y (s * k + d * j)) E (fun j _ => h.2 _)

/-- `conv1d` evaluated in floating point: output sample `k` is the rounded dot product with its own rounding errors -/
noncomputable def flCorr (w x : List ℝ) (s d : Nat) (δ ε : Nat → Nat → ℝ) : List ℝ :=
  tab (corrLen x.length w.length s d) fun k =>
    flDot (fun j => getN w j) (fun j => getN x (s * k + d * j)) (δ k) (ε k) w.length

/-- the relative error constant of an `L`-term dot product -/
noncomputable def gam (u : ℝ) (L : Nat) : ℝ := (1 + u) ^ (L + 1) - 1

theorem gam_nonneg (u : ℝ) (hu : 0 ≤ u) (L : Nat) : 0 ≤ gam u L :=
  sub_nonneg.mpr (one_le_pow₀ (le_add_of_nonneg_right hu))

theorem flCorr_err (w x : List ℝ) (s d : Nat) (δ ε : Nat → Nat → ℝ) (u M : ℝ) (hu : 0 ≤ u)
    (hδ : ∀ k j, |δ k j| ≤ u) (hε : ∀ k j, |ε k j| ≤ u) (hx : Bdd M x) :
    Close (gam u w.length * (l1 w * M)) (flCorr w x s d δ ε) (corr w x s d) := by
  unfold flCorr corr
  apply close_tab (mul_nonneg (gam_nonneg u hu _) (mul_nonneg (l1_nonneg w) hx.nonneg))
  intro k _
  rw [sumN_eq]
  refine le_trans (flDot_err _ _ (δ k) (ε k) u hu (hδ k) (hε k) w.length) ?_
  apply mul_le_mul_of_nonneg_left _ (gam_nonneg u hu _)
  unfold l1
  rw [Finset.sum_mul]
  apply Finset.sum_le_sum; intro j _
  rw [abs_mul]
  exact mul_le_mul_of_nonneg_left (hx _) (abs_nonneg _)

/-- the padded signal `afb1d` correlates with in the extension modes (`none` = the call raises) -/
def padded (mode : Mode) (L : Nat) (x : List ℝ) : Option (List ℝ) :=
  let N := x.length
  if L < 2 ∨ N < 1 then none else
  let p := 2 * (dwtCoeffLen N L - 1) + L - N
  match mode with
  | .zero => some (zeroPad (if p % 2 = 1 then zeroPad x 0 1 else x) (p/2) (p/2))
  | .symmetric => some (padIdx symIdx x (p/2) ((p+1)/2))
  | .periodic => some (padIdx perIdx x (p/2) ((p+1)/2))
  | .reflect => if p/2 < N ∧ (p+1)/2 < N then some (padIdx reflIdx x (p/2) ((p+1)/2)) else none
  | _ => none

theorem afb1dOne_padded (mode : Mode) (hm : mode = .zero ∨ mode = .symmetric ∨ mode = .periodic ∨ mode = .reflect) (w x : List ℝ) :
    afb1dOne mode w x = (padded mode w.length x).map fun xp => corr w xp 2 1 := by
  by_cases hg : w.length < 2 ∨ x.length < 1
  · simp only [afb1dOne, padded, hg, if_true, Option.map_none]
  · rcases hm with rfl | rfl | rfl | rfl <;> simp only [afb1dOne, padded, hg, if_false, Option.map_some]
    split <;> simp

/-- `afb1d` with its convolution evaluated in floating point -/
noncomputable def afb1dOneFl (mode : Mode) (w x : List ℝ) (δ ε : Nat → Nat → ℝ) : Option (List ℝ) :=
  (padded mode w.length x).map fun xp => flCorr w xp 2 1 δ ε

theorem padded_bdd (mode : Mode) (L : Nat) (x xp : List ℝ) (M : ℝ) (hx : Bdd M x) (h : padded mode L x = some xp) : Bdd M xp := by
  by_cases hg : L < 2 ∨ x.length < 1
  · simp only [padded, hg, if_true, reduceCtorEq] at h
  · cases mode <;> simp only [padded, hg, if_false, Option.some.injEq, reduceCtorEq] at h
    · subst h
      apply bdd_zeroPad
      split
      · exact bdd_zeroPad hx 0 1
      · exact hx
    · subst h; exact bdd_padIdx hx _ _ _
    · split at h
      · simp only [Option.some.injEq] at h; subst h; exact bdd_padIdx hx _ _ _
      · exact absurd h (by simp)
    · subst h; exact bdd_padIdx hx _ _ _

theorem padded_close (mode : Mode) (L : Nat) (x y xp : List ℝ) (E : ℝ) (hxy : Close E x y) (h : padded mode L x = some xp) :
    ∃ yp, padded mode L y = some yp ∧ Close E xp yp := by
  by_cases hg : L < 2 ∨ x.length < 1
  · simp only [padded, hg, if_true, reduceCtorEq] at h
  · cases mode <;> simp only [padded, hg, if_false, Option.some.injEq, reduceCtorEq, ← hxy.1] at h ⊢
    · subst h
      refine ⟨_, rfl, ?_⟩
      apply close_zeroPad
      split
      · exact close_zeroPad hxy 0 1
      · exact hxy
    · subst h; exact ⟨_, rfl, close_padIdx hxy _ _ _⟩
    · split at h
      · next hc =>
        rw [if_pos hc]
        simp only [Option.some.injEq] at h ⊢; subst h; exact ⟨_, rfl, close_padIdx hxy _ _ _⟩
      · exact absurd h (by simp)
    · subst h; exact ⟨_, rfl, close_padIdx hxy _ _ _⟩

/-- one level in floating point: whenever the exact model returns `y`, the rounded one returns `ỹ` within
`γ·‖w‖₁·max|x|` of it, for every choice of the rounding errors -/
theorem afb1dOneFl_err (mode : Mode) (hm : mode = .zero ∨ mode = .symmetric ∨ mode = .periodic ∨ mode = .reflect)
    (w x y : List ℝ) (δ ε : Nat → Nat → ℝ) (u M : ℝ) (hu : 0 ≤ u) (hδ : ∀ k j, |δ k j| ≤ u) (hε : ∀ k j, |ε k j| ≤ u)
    (hx : Bdd M x) (hy : afb1dOne mode w x = some y) :
    ∃ y', afb1dOneFl mode w x δ ε = some y' ∧ Close (gam u w.length * (l1 w * M)) y' y := by
  rw [afb1dOne_padded mode hm] at hy
  unfold afb1dOneFl
  cases hp : padded mode w.length x with
  | none => rw [hp] at hy; exact absurd hy (by simp)
  | some xp =>
    rw [hp] at hy
    simp only [Option.map_some, Option.some.injEq] at hy ⊢
    subst hy
    exact ⟨_, rfl, flCorr_err w xp 2 1 δ ε u M hu hδ hε (padded_bdd mode _ x xp M hx hp)⟩

/-- the exact level is Lipschitz: inputs within `E` give outputs within `‖w‖₁·E` (and raise together) -/
theorem afb1dOne_close (mode : Mode) (hm : mode = .zero ∨ mode = .symmetric ∨ mode = .periodic ∨ mode = .reflect)
    (w x x' y : List ℝ) (E : ℝ) (hxx : Close E x x') (hy : afb1dOne mode w x = some y) :
    ∃ y', afb1dOne mode w x' = some y' ∧ Close (l1 w * E) y y' := by
  rw [afb1dOne_padded mode hm] at hy ⊢
  cases hp : padded mode w.length x with
  | none => rw [hp] at hy; exact absurd hy (by simp)
  | some xp =>
    rw [hp] at hy
    obtain ⟨yp, hyp, hc⟩ := padded_close mode w.length x x' xp E hxx hp
    rw [hyp]
    simp only [Option.map_some, Option.some.injEq] at hy ⊢
    subst hy
    exact ⟨_, rfl, corr_close w hc 2 1⟩

section pyramid
variable (m : Mode) (hm : m = .zero ∨ m = .symmetric ∨ m = .periodic)

include hm in
theorem dwt_close (h x x' : List ℝ) (hL : 2 ≤ h.length) (hN : 1 ≤ x.length) (E : ℝ) (hxx : Close E x x') :
    Close (l1 h * E) (Spec.dwt m h x) (Spec.dwt m h x') := by
  have e1 := C01.modeOK_of (R := ℝ) m hm h x hL hN
  have e2 := C01.modeOK_of (R := ℝ) m hm h x' hL (by rw [← hxx.1]; exact hN)
  obtain ⟨y', hy', hc⟩ := afb1dOne_close m (by rcases hm with h1 | h1 | h1 <;> simp [h1]) h.reverse x x' _ E hxx e1
  rw [e2] at hy'
  simp only [Option.some.injEq] at hy'
  rw [← hy', l1_reverse] at hc
  exact hc

/-- a one-level map that meets the floating-point bound against the exact level `Spec.dwt m h` -/
def ApproxLevel (h : List ℝ) (γ : ℝ) (D : List ℝ → List ℝ) : Prop :=
  ∀ (x : List ℝ) (M : ℝ), 1 ≤ x.length → Bdd M x → Close (γ * (l1 h * M)) (D x) (Spec.dwt m h x)

theorem approxLevel_length {h : List ℝ} {γ : ℝ} {D : List ℝ → List ℝ} (hD : ApproxLevel m h γ D) (x : List ℝ) (hN : 1 ≤ x.length) :
    (D x).length = (Spec.dwt m h x).length := (hD x (l1 x) hN (bdd_l1 x)).1

include hm in
/-- the model's `afb1d` with a rounded convolution is such a map, `γ = (1+u)^(L+1) − 1`, whatever the rounding errors -/
theorem flLevel_approx (h : List ℝ) (hL : 2 ≤ h.length) (δ ε : Nat → Nat → ℝ) (u : ℝ) (hu : 0 ≤ u)
    (hδ : ∀ k j, |δ k j| ≤ u) (hε : ∀ k j, |ε k j| ≤ u) :
    ApproxLevel m h (gam u h.length) (fun x => (afb1dOneFl m h.reverse x δ ε).getD []) := by
  intro x M hN hx
  have e1 := C01.modeOK_of (R := ℝ) m hm h x hL hN
  obtain ⟨y', hy', hc⟩ := afb1dOneFl_err m (by rcases hm with h1 | h1 | h1 <;> simp [h1]) h.reverse x _ δ ε u M hu hδ hε hx e1
  show Close _ ((afb1dOneFl m h.reverse x δ ε).getD []) _
  rw [hy']
  simpa [l1_reverse] using hc

/-- `wavedec` computed with level-dependent approximate one-level maps -/
def flWavedec (D0 D1 : Nat → List ℝ → List ℝ) : Nat → Nat → List ℝ → List ℝ × List (List ℝ)
  | 0, _, x => (x, [])
  | J+1, j, x =>
    let r := flWavedec D0 D1 J (j+1) (D0 j x)
    (r.1, D1 j x :: r.2)

/-- the error after `J` levels when the input is already off by `E` -/
noncomputable def errJ (g γ M E : ℝ) (J : Nat) : ℝ := g ^ J * ((1 + γ) ^ J * (M + E) - M)

theorem errJ_step (g γ M E : ℝ) (J : Nat) : errJ g γ (g * M) (g * ((1 + γ) * (M + E) - M)) J = errJ g γ M E (J + 1) := by
  unfold errJ; ring

theorem errJ_one (g γ M E : ℝ) : errJ g γ M E 1 = g * ((1 + γ) * (M + E) - M) := by
  unfold errJ; ring

theorem errJ_mono (g γ M E : ℝ) (hg : 1 ≤ g) (hγ : 0 ≤ γ) (hM : 0 ≤ M) (hE : 0 ≤ E) (J : Nat) :
    errJ g γ M E J ≤ errJ g γ M E (J + 1) ∧ 0 ≤ errJ g γ M E J := by
  unfold errJ
  have h1 : (1:ℝ) ≤ (1 + γ) ^ J := one_le_pow₀ (by linarith)
  have hg0 : (0:ℝ) ≤ g ^ J := pow_nonneg (by linarith) J
  have hME : 0 ≤ M + E := by linarith
  have hA : 0 ≤ (1 + γ) ^ J * (M + E) - M := by
    have := mul_le_mul_of_nonneg_right h1 hME
    linarith
  have hB : (1 + γ) ^ J * (M + E) - M ≤ (1 + γ) ^ (J + 1) * (M + E) - M := by
    have := mul_nonneg (mul_nonneg (le_trans zero_le_one h1) hME) hγ
    rw [pow_succ]; linarith
  refine ⟨?_, mul_nonneg hg0 hA⟩
  rw [pow_succ g J]
  calc g ^ J * ((1 + γ) ^ J * (M + E) - M) ≤ g ^ J * ((1 + γ) ^ (J + 1) * (M + E) - M) := mul_le_mul_of_nonneg_left hB hg0
    _ ≤ g ^ J * g * ((1 + γ) ^ (J + 1) * (M + E) - M) :=
        mul_le_mul_of_nonneg_right (le_mul_of_one_le_right hg0 hg) (le_trans hA hB)

theorem errJ_le (g γ M E : ℝ) (hg : 1 ≤ g) (hγ : 0 ≤ γ) (hM : 0 ≤ M) (hE : 0 ≤ E) (n k : Nat) :
    errJ g γ M E n ≤ errJ g γ M E (n + k) := by
  induction k with
  | zero => exact le_refl _
  | succ k ih => exact le_trans ih (errJ_mono g γ M E hg hγ hM hE (n + k)).1

include hm in
/-- one level on an input that is itself off by `E`: the approximate map on `x'` against the exact level on `x`, the
rounding bound of the map on `x'` (bounded by `M + E`) plus the Lipschitz bound of the exact level -/
theorem level_err (g γ : ℝ) (hγ : 0 ≤ γ) (h : List ℝ) (D : List ℝ → List ℝ) (hL : 2 ≤ h.length) (hgl : l1 h ≤ g)
    (hD : ApproxLevel m h γ D) (x x' : List ℝ) (M E : ℝ) (hN : 1 ≤ x.length) (hx : Bdd M x) (hc : Close E x' x) :
    Close (g * ((1 + γ) * (M + E) - M)) (D x') (Spec.dwt m h x) := by
  have hM := hx.nonneg
  have hE := hc.nonneg
  have hx' : Bdd (M + E) x' := fun i => by
    have := hc.2 i; have := hx i
    calc |getN x' i| = |(getN x' i - getN x i) + getN x i| := by rw [sub_add_cancel]
      _ ≤ |getN x' i - getN x i| + |getN x i| := abs_add_le _ _
      _ ≤ M + E := by linarith
  have hN' : 1 ≤ x'.length := by rw [hc.1]; exact hN
  have a1 := hD x' (M + E) hN' hx'
  have a2 := dwt_close m hm h x' x hL hN' E hc
  refine ⟨a1.1.trans a2.1, fun i => ?_⟩
  have b1 := a1.2 i; have b2 := a2.2 i
  calc |getN (D x') i - getN (Spec.dwt m h x) i|
      = |(getN (D x') i - getN (Spec.dwt m h x') i) + (getN (Spec.dwt m h x') i - getN (Spec.dwt m h x) i)| := by
        rw [sub_add_sub_cancel]
    _ ≤ γ * (l1 h * (M + E)) + l1 h * E := le_trans (abs_add_le _ _) (add_le_add b1 b2)
    _ ≤ γ * (g * (M + E)) + g * E :=
        add_le_add (mul_le_mul_of_nonneg_left (mul_le_mul_of_nonneg_right hgl (by linarith)) hγ)
          (mul_le_mul_of_nonneg_right hgl hE)
    _ = g * ((1 + γ) * (M + E) - M) := by ring

include hm in
/-- J levels in floating point: with one-level maps that meet the one-level bound `γ`, every coefficient of every
band differs from the exact `wavedec` coefficient by at most `g^J·((1+γ)^J·(M+E) − M)` when the input is within `E` of an
exact signal bounded by `M` -/
theorem wavedec_fl_err_gen (h0 h1 : List ℝ) (hL0 : 2 ≤ h0.length) (hL1 : 2 ≤ h1.length) (g γ : ℝ)
    (hg0 : l1 h0 ≤ g) (hg1 : l1 h1 ≤ g) (hg : 1 ≤ g) (hγ : 0 ≤ γ) (D0 D1 : Nat → List ℝ → List ℝ)
    (hD0 : ∀ j, ApproxLevel m h0 γ (D0 j)) (hD1 : ∀ j, ApproxLevel m h1 γ (D1 j)) :
    ∀ (J j : Nat) (x x' : List ℝ) (M E : ℝ), 1 ≤ x.length → Bdd M x → Close E x' x →
      Close (errJ g γ M E J) (flWavedec D0 D1 J j x').1 (Spec.wavedec m h0 h1 J x).1 ∧
      (flWavedec D0 D1 J j x').2.length = (Spec.wavedec m h0 h1 J x).2.length ∧
      ∀ i, Close (errJ g γ M E J) ((flWavedec D0 D1 J j x').2.getD i []) ((Spec.wavedec m h0 h1 J x).2.getD i [])
  | 0, j, x, x', M, E, _, _, hc => by
    have e : errJ g γ M E 0 = E := by unfold errJ; ring
    simp only [flWavedec, Spec.wavedec, e]
    exact ⟨hc, trivial, fun i => by simpa using (close_refl ([] : List ℝ)).mono hc.nonneg⟩
  | J+1, j, x, x', M, E, hN, hx, hc => by
    have hM := hx.nonneg
    have hE := hc.nonneg
    have lo := level_err m hm g γ hγ h0 (D0 j) hL0 hg0 (hD0 j) x x' M E hN hx hc
    have hi := level_err m hm g γ hγ h1 (D1 j) hL1 hg1 (hD1 j) x x' M E hN hx hc
    have ih := wavedec_fl_err_gen h0 h1 hL0 hL1 g γ hg0 hg1 hg hγ D0 D1 hD0 hD1 J (j+1) (Spec.dwt m h0 x) (D0 j x')
      (g * M) (g * ((1 + γ) * (M + E) - M)) (dwt_length_pos m hm h0 x hL0 hN) (dwt_gain_le m hm h0 x hL0 hN hx hg0) lo
    rw [errJ_step] at ih
    simp only [flWavedec, Spec.wavedec]
    refine ⟨ih.1, by simp [ih.2.1], fun i => ?_⟩
    cases i with
    | zero =>
      simp only [List.getD_cons_zero]
      have mono : errJ g γ M E 1 ≤ errJ g γ M E (J + 1) := by
        rw [Nat.add_comm J 1]; exact errJ_le g γ M E hg hγ hM hE 1 J
      exact (errJ_one g γ M E ▸ hi).mono mono
    | succ i => simpa using ih.2.2 i

include hm in
/-- C16, float32 accuracy of the J-level transform (modes zero / symmetric / periodic, non-empty signal): computed with one-level maps of relative accuracy `γ` (for the
model's `afb1d` with a rounded convolution `γ = (1+u)^(L+1) − 1`, `flLevel_approx`), every coefficient of every band is
within `((1+γ)^J − 1) · g^J · max|x|` of the exact coefficient — of `pywt.wavedec`, i.e. of the module `DWT1DForward`
(`C01.DWT1DForward_eq_wavedec`) — with `g = max(‖h0‖₁, ‖h1‖₁, 1)` the gain of `C16G.wavedec_gain` -/
theorem wavedec_fl_err (h0 h1 : List ℝ) (hL0 : 2 ≤ h0.length) (hL1 : 2 ≤ h1.length) (g γ : ℝ)
    (hg0 : l1 h0 ≤ g) (hg1 : l1 h1 ≤ g) (hg : 1 ≤ g) (hγ : 0 ≤ γ) (D0 D1 : Nat → List ℝ → List ℝ)
    (hD0 : ∀ j, ApproxLevel m h0 γ (D0 j)) (hD1 : ∀ j, ApproxLevel m h1 γ (D1 j))
    (J : Nat) (x : List ℝ) (M : ℝ) (hN : 1 ≤ x.length) (hx : Bdd M x) :
    Close (((1 + γ) ^ J - 1) * (g ^ J * M)) (flWavedec D0 D1 J 0 x).1 (Spec.wavedec m h0 h1 J x).1 ∧
    ∀ i, Close (((1 + γ) ^ J - 1) * (g ^ J * M)) ((flWavedec D0 D1 J 0 x).2.getD i []) ((Spec.wavedec m h0 h1 J x).2.getD i []) := by
  have := wavedec_fl_err_gen m hm h0 h1 hL0 hL1 g γ hg0 hg1 hg hγ D0 D1 hD0 hD1 J 0 x x M 0 hN hx (close_refl x)
  have e : errJ g γ M 0 J = ((1 + γ) ^ J - 1) * (g ^ J * M) := by unfold errJ; ring
  rw [e] at this
  exact ⟨this.1, this.2.2⟩

end pyramid

/-- the hypotheses of `flDot_err` are satisfiable: exact arithmetic (`δ = ε = 0`) is a rounded evaluation with `u = 0`, and
then the bound says the results coincide -/
example (a x : Nat → ℝ) (n : Nat) : flDot a x (fun _ => 0) (fun _ => 0) n = ∑ k ∈ range n, a k * x k := by
  have := flDot_err a x (fun _ => 0) (fun _ => 0) 0 (le_refl 0) (fun _ => by simp) (fun _ => by simp) n
  simp at this
  linarith

end WV.C16R
