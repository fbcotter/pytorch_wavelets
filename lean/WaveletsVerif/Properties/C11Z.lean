/-
  C11 — "passing None … for the lowpass or for any highpass level is equivalent to passing zeros of the right shape",
  one synthesis level at a time, for every band shape `r × c` with `1 ≤ r`, `1 ≤ c` (low-pass `2r × 2c`) and all filters
  of the level's kind (q-shift pairs of even length ≥ 2, the two trees equally long, in `invJ2`; odd-length filters in `invJ1`).

  `invJ2 … (some l) none`  (the band-pass level is absent)  is  `invJ2 … (some l) (some (zeroBands r c))`,
  `invJ2 … none (some o)`  (the low-pass is absent)         is  `invJ2 … (some (izero (2r) (2c))) (some o)`,
  and the same two statements for level 1 (`invJ1`, symmetric extension).  The proofs go through the reference
  formulas of C11P: every synthesis filter sends the zero image to the zero image (each output sample is a sum of
  products with samples of the input), `c2q` of zero bands is the zero image, and adding a zero image of the same
  shape changes nothing.
-/
import WaveletsVerif.Properties.C11P
namespace WV.C11Z
open Finset WV WV.C04 WV.C04Q WV.C04P WV.C03P WV.C11P
variable {R : Type} [CommRing R]

/-- six complex zero bands of shape `r × c` -/
def zeroBands (r c : Nat) : List (Cplx R) := List.replicate 6 (izero r c, izero r c)

theorem sumN_zero' (n : Nat) (f : Nat → R) (hf : ∀ j, f j = 0) : sumN n f = 0 := by
  rw [sumN_eq]
  exact Finset.sum_eq_zero fun j _ => hf j

theorem getN_zeros (n i : Nat) : getN (tab n fun _ => (0:R)) i = 0 := by
  rw [getN_tab]; split <;> rfl

theorem getZ_zeros (n : Nat) (i : Int) : getZ (tab n fun _ => (0:R)) i = 0 := by
  rw [getZ_tab]; split <;> rfl

theorem xt_zeros (n : Nat) (k : Int) : Spec.xt (tab n fun _ => (0:R)) k = 0 := by
  unfold Spec.xt
  exact getZ_zeros n _

theorem izero_width (h w : Nat) (hh : 1 ≤ h) : Img.width (izero h w : Img R) = w :=
  rect_width _ h w (izero_rect h w) hh

theorem Eg_zeros (ga gb : List R) (hp : Bool) (n : Nat) :
    Eg ga gb hp (tab n fun _ => (0:R)) = tab (2*n) fun _ => 0 := by
  unfold Eg Spec.colifilt
  simp only [length_tab]
  apply tab_ext rfl
  intro i _
  split <;> split <;> exact sumN_zero' _ _ (fun j => by rw [xt_zeros]; ring)

theorem Cf_zeros (g : List R) (hg : g.length % 2 = 1) (n : Nat) : Cf g (tab n fun _ => (0:R)) = tab n fun _ => 0 := by
  unfold Cf Spec.colfilter
  apply tab_ext (by rw [length_tab]; omega)
  intro i _
  exact sumN_zero' _ _ (fun j => by rw [xt_zeros]; ring)

/-- a column operator that sends the zero column to a zero column sends the zero image to a zero image -/
theorem alongH_izero (f : List R → List R) (H H' W : Nat) (hH : 1 ≤ H) (hW : 1 ≤ W)
    (hf : ∀ c : List R, c.length = H → (f c).length = H') (hz : f (tab H fun _ => (0:R)) = tab H' fun _ => 0) :
    alongH f (izero H W : Img R) = izero H' W := by
  rw [alongH_tab2 f _ H H' W (izero_rect H W) hH hW hf]
  unfold izero
  apply tab2_congr; intro i _ j hj
  rw [col_tab2 H W _ j hj, hz]
  exact getN_zeros _ _

theorem alongW_izero (f : List R → List R) (H W W' : Nat)
    (hf : ∀ c : List R, c.length = W → (f c).length = W') (hz : f (tab W fun _ => (0:R)) = tab W' fun _ => 0) :
    alongW f (izero H W : Img R) = izero H W' := by
  rw [alongW_tab2 f _ H W W' (izero_rect H W) hf]
  unfold izero
  apply tab2_congr; intro i hi j _
  rw [getD_tab2_row H W _ i hi, hz]
  exact getN_zeros _ _

theorem alongH_Eg_zero (ga gb : List R) (hp : Bool) (H W : Nat) (hH : 1 ≤ H) (hW : 1 ≤ W) :
    alongH (Eg ga gb hp) (izero H W : Img R) = izero (2*H) W :=
  alongH_izero _ H (2*H) W hH hW (colifilt_double ga gb hp H) (Eg_zeros ga gb hp H)

theorem alongW_Eg_zero (ga gb : List R) (hp : Bool) (H W : Nat) :
    alongW (Eg ga gb hp) (izero H W : Img R) = izero H (2*W) :=
  alongW_izero _ H W (2*W) (colifilt_double ga gb hp W) (Eg_zeros ga gb hp W)

theorem alongH_Cf_zero (g : List R) (hg : g.length % 2 = 1) (H W : Nat) (hH : 1 ≤ H) (hW : 1 ≤ W) :
    alongH (Cf g) (izero H W : Img R) = izero H W :=
  alongH_izero _ H H W hH hW (Cf_length g hg H) (Cf_zeros g hg H)

theorem alongW_Cf_zero (g : List R) (hg : g.length % 2 = 1) (H W : Nat) :
    alongW (Cf g) (izero H W : Img R) = izero H W :=
  alongW_izero _ H W W (Cf_length g hg W) (Cf_zeros g hg W)

theorem izero_iadd (x : Img R) (H W : Nat) (hx : Rect x H W) : iadd (izero H W) x = x := by
  exact WV.izero_iadd x H W hx

theorem c2q_zero (s : R) (r c : Nat) (hr : 1 ≤ r) :
    c2q s (izero r c, izero r c) (izero r c, izero r c) = (izero (2*r) (2*c) : Img R) := by
  unfold c2q
  simp only []
  rw [(izero_rect (R := R) r c).1, izero_width (R := R) r c hr]
  simp only [get2_izero]
  unfold izero
  apply tab2_congr; intro i _ j _
  split <;> split <;> ring

theorem zeroBands_getD (r c k : Nat) (hk : k < 6) : (zeroBands r c : List (Cplx R)).getD k ([], []) = (izero r c, izero r c) := by
  unfold zeroBands
  rw [List.getD_eq_getElem?_getD, List.getElem?_replicate, if_pos hk]
  rfl

theorem zeroBands_ok (r c : Nat) (hr : 1 ≤ r) : BandOK (zeroBands r c : List (Cplx R)) r c := by
  intro k hk
  rw [zeroBands_getD r c k hk]
  exact ⟨(izero_rect r c).1, izero_width r c hr⟩

theorem highs_zero (s : R) (r c : Nat) (hr : 1 ≤ r) :
    orientationsToHighs s (zeroBands r c : List (Cplx R))
      = (izero (2*r) (2*c), izero (2*r) (2*c), izero (2*r) (2*c)) := by
  unfold orientationsToHighs
  simp only []
  rw [zeroBands_getD r c 0 (by omega), zeroBands_getD r c 1 (by omega), zeroBands_getD r c 2 (by omega),
    zeroBands_getD r c 3 (by omega), zeroBands_getD r c 4 (by omega), zeroBands_getD r c 5 (by omega), c2q_zero s r c hr]

theorem invJ2_absent_high_eq_zeros (s : R) (g0a g0b g1a g1b : List R) (hm0 : g0b.length % 2 = 0) (hm0' : 2 ≤ g0b.length)
    (hab0 : g0a.length = g0b.length) (hm1 : g1b.length % 2 = 0) (hm1' : 2 ≤ g1b.length) (hab1 : g1a.length = g1b.length)
    (l : Img R) (r c : Nat) (hr : 1 ≤ r) (hc : 1 ≤ c) (hl : Rect l (2*r) (2*c)) :
    invJ2 s (prepFilt g0a) (prepFilt g1a) (prepFilt g0b) (prepFilt g1b) (some l) none
      = invJ2 s (prepFilt g0a) (prepFilt g1a) (prepFilt g0b) (prepFilt g1b) (some l) (some (zeroBands r c)) := by
  rw [(invJ2_eq_ref s g0a g0b g1a g1b hm0 hm0' hab0 hm1 hm1' hab1 l (zeroBands r c) r c hr hc hl (zeroBands_ok r c hr)).1]
  have h2r := one_le_two_mul hr
  have h2c := one_le_two_mul hc
  have q4 := colifilt_alongH_rect g0b g0a false l _ _ hl h2r h2c
  have w := colifilt_alongW_rect g0b g0a false _ _ _ q4
  have hspec : Spec.refInvLevel2 s g0a g0b g1a g1b l (zeroBands r c)
      = alongW (Eg g0b g0a false) (alongH (Eg g0b g0a false) l) := by
    unfold Spec.refInvLevel2
    rw [highs_zero s r c hr]
    simp only []
    change iadd (alongW (Eg g0b g0a false) (iadd (alongH (Eg g0b g0a false) l) (alongH (Eg g1b g1a true) (izero (2*r) (2*c)))))
        (alongW (Eg g1b g1a true) (iadd (alongH (Eg g0b g0a false) (izero (2*r) (2*c))) (alongH (Eg g1b g1a true) (izero (2*r) (2*c))))) = _
    rw [alongH_Eg_zero g1b g1a true _ _ h2r h2c, alongH_Eg_zero g0b g0a false _ _ h2r h2c,
      iadd_izero _ _ _ q4, iadd_izero _ _ _ (izero_rect _ _), alongW_Eg_zero, iadd_izero _ _ _ w]
  rw [hspec]
  unfold invJ2
  simp only [Option.bind_eq_bind, Option.bind_some]
  rw [colifilt_spec g0b g0a false hm0 hm0' hab0 l r hr hl.1]
  simp only [Option.bind_some]
  rw [rowifilt_spec g0b g0a false hm0 hm0' hab0 _ c hc q4.2]

theorem invJ2_absent_low_eq_zeros (s : R) (g0a g0b g1a g1b : List R) (hm0 : g0b.length % 2 = 0) (hm0' : 2 ≤ g0b.length)
    (hab0 : g0a.length = g0b.length) (hm1 : g1b.length % 2 = 0) (hm1' : 2 ≤ g1b.length) (hab1 : g1a.length = g1b.length)
    (o : List (Cplx R)) (r c : Nat) (hr : 1 ≤ r) (hc : 1 ≤ c) (ho : BandOK o r c) :
    invJ2 s (prepFilt g0a) (prepFilt g1a) (prepFilt g0b) (prepFilt g1b) none (some o)
      = invJ2 s (prepFilt g0a) (prepFilt g1a) (prepFilt g0b) (prepFilt g1b) (some (izero (2*r) (2*c))) (some o) := by
  obtain ⟨rlh, rhl, rhh⟩ := highs_rect s o r c ho
  set lh := (orientationsToHighs s o).1 with hlh
  set hl' := (orientationsToHighs s o).2.1 with hhl
  set hh := (orientationsToHighs s o).2.2 with hhh
  have h2r := one_le_two_mul hr
  have h2c := one_le_two_mul hc
  have h4r := one_le_two_mul h2r
  have c1 := colifilt_spec g1b g1a true hm1 hm1' hab1 hh r hr rhh.1
  have c2 := colifilt_spec g0b g0a false hm0 hm0' hab0 hl' r hr rhl.1
  have c3 := colifilt_spec g1b g1a true hm1 hm1' hab1 lh r hr rlh.1
  have c4 := colifilt_spec g0b g0a false hm0 hm0' hab0 (izero (2*r) (2*c)) r hr (izero_rect (R := R) _ _).1
  have q3 := colifilt_alongH_rect g1b g1a true lh _ _ rlh h2r h2c
  unfold invJ2
  simp only []
  rw [show (orientationsToHighs s o) = (lh, hl', hh) from rfl]
  simp only []
  rw [c1, c2, c3, c4]
  simp only [Option.bind_eq_bind, Option.bind_some]
  rw [alongH_Eg_zero g0b g0a false _ _ h2r h2c]
  rw [if_neg (shape_ok _ _ _ _ (izero_rect _ _) q3 h4r), iadd_izero _ _ _ q3]
  simp only [Option.bind_some]

theorem invJ1_absent_high_eq_zeros (s : R) (g0 g1 : List R) (hg0 : g0.length % 2 = 1) (hg1 : g1.length % 2 = 1)
    (l : Img R) (r c : Nat) (hr : 1 ≤ r) (hc : 1 ≤ c) (hl : Rect l (2*r) (2*c)) :
    invJ1 s true (prepFilt g0) (prepFilt g1) (r, c) (some l) none
      = invJ1 s true (prepFilt g0) (prepFilt g1) (r, c) (some l) (some (zeroBands r c)) := by
  rw [invJ1_eq_ref s g0 g1 hg0 hg1 l (zeroBands r c) r c hr hc hl (zeroBands_ok r c hr)]
  have G0 : 1 ≤ g0.length := by omega
  have h2r := one_le_two_mul hr
  have h2c := one_le_two_mul hc
  have q4 := alongH_rect g0 hg0 l _ _ hl h2r h2c
  have w := alongW_rect g0 hg0 _ _ _ q4
  have hspec : Spec.refInvLevel1 s g0 g1 l (zeroBands r c) = alongW (Cf g0) (alongH (Cf g0) l) := by
    unfold Spec.refInvLevel1
    rw [highs_zero s r c hr]
    simp only []
    change iadd (alongW (Cf g0) (iadd (alongH (Cf g0) l) (alongH (Cf g1) (izero (2*r) (2*c)))))
        (alongW (Cf g1) (iadd (alongH (Cf g0) (izero (2*r) (2*c))) (alongH (Cf g1) (izero (2*r) (2*c))))) = _
    rw [alongH_Cf_zero g1 hg1 _ _ h2r h2c, alongH_Cf_zero g0 hg0 _ _ h2r h2c,
      iadd_izero _ _ _ q4, iadd_izero _ _ _ (izero_rect _ _), alongW_Cf_zero g1 hg1, iadd_izero _ _ _ w]
  rw [hspec]
  unfold invJ1
  simp only [Option.map_some]
  rw [colfilter_model g0 G0 l (by rw [hl.1]; exact h2r), rowfilter_model g0 G0 _ (2*c) h2c q4.2]

theorem invJ1_absent_low_eq_zeros (s : R) (g0 g1 : List R) (hg0 : g0.length % 2 = 1) (hg1 : g1.length % 2 = 1)
    (o : List (Cplx R)) (r c : Nat) (hr : 1 ≤ r) (hc : 1 ≤ c) (ho : BandOK o r c) :
    invJ1 s true (prepFilt g0) (prepFilt g1) (r, c) none (some o)
      = invJ1 s true (prepFilt g0) (prepFilt g1) (r, c) (some (izero (2*r) (2*c))) (some o) := by
  obtain ⟨rlh, rhl, rhh⟩ := highs_rect s o r c ho
  set lh := (orientationsToHighs s o).1 with hlh
  set hl' := (orientationsToHighs s o).2.1 with hhl
  set hh := (orientationsToHighs s o).2.2 with hhh
  have G0 : 1 ≤ g0.length := by omega
  have G1 : 1 ≤ g1.length := by omega
  have h2r := one_le_two_mul hr
  have h2c := one_le_two_mul hc
  have c3 : colfilter true (prepFilt g1) lh = alongH (Cf g1) lh := colfilter_model g1 G1 _ (by rw [rlh.1]; exact h2r)
  have c4 : colfilter true (prepFilt g0) (izero (2*r) (2*c)) = alongH (Cf g0) (izero (2*r) (2*c)) :=
    colfilter_model g0 G0 _ (by rw [(izero_rect (R := R) _ _).1]; exact h2r)
  have q3 := alongH_rect g1 hg1 lh _ _ rlh h2r h2c
  unfold invJ1
  simp only []
  rw [show (orientationsToHighs s o) = (lh, hl', hh) from rfl]
  simp only []
  rw [cropToHighs_id (izero (2*r) (2*c)) r c (izero_rect (R := R) _ _).1 (izero_width _ _ h2r), c3, c4,
    alongH_Cf_zero g0 hg0 _ _ h2r h2c]
  rw [if_neg (shape_ok _ _ _ _ q3 (izero_rect _ _) h2r), iadd_izero _ _ _ q3]

/-- the shape hypotheses are satisfiable at `r = c = 1` over ℤ: `ho` of `invJ2_absent_low_eq_zeros` / `invJ1_absent_low_eq_zeros`
by the 1×1 zero bands, `hl` of `invJ2_absent_high_eq_zeros` / `invJ1_absent_high_eq_zeros` by a 2×2 low-pass -/
example : BandOK (zeroBands 1 1 : List (Cplx Int)) 1 1 ∧ Rect ([[1, 2], [3, 4]] : Img Int) (2*1) (2*1) :=
  ⟨zeroBands_ok 1 1 (by omega), by constructor <;> simp⟩

end WV.C11Z
