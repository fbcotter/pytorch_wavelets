/-
  C08 — value refinement of the SECOND-order scattering layer WITH colour combination (non-band-pass families), for ANY
  square-root operation.

  On three colour channels of one size whose sides are positive multiples of 8 (`mode='symmetric'`, level-1 filters of odd
  length, q-shift pairs equally long of length ≥ 1) the implementation model of `ScatLayerj2_f.forward` with
  `combine_colour=True` — level-1 DTCWT of every colour, ONE joint magnitude per orientation over the three colours, level-2
  DTCWT of the three level-1 low-passes with joint magnitudes again, a second level-1 DTCWT of the six joint first-order
  magnitude images, 2×2 average pooling, the 51-channel packing `[3 × S0 | 6 pooled S1 | 6 S1 (scale 2) | 36 S2]` — equals the
  composition of the REFERENCE transforms `Spec.refLevel1` / `Spec.refLevel2` with those formulas (`Spec.scat2c`), by
  `C08Q.scatJ2_of_levels`; with the module's extension to multiples of 8, for every RGB image with at least 4 rows and columns.
-/
import WaveletsVerif.Properties.C08Q
namespace WV
namespace Spec
variable {α : Type}

/-- reference second-order scattering of one RGB batch item with colour combination (sides multiples of 8) -/
def scat2c [Add α] [Sub α] [Mul α] [OfNat α 0] (m : MagOps α) (h0o h1o h0a h0b h1a h1b : List α) (x : List (Img α)) :
    List (Img α) :=
  let r1 := x.map fun im => refLevel1 m.s h0o h1o im
  let g1 := fun c o => ((r1.getD c ([], [])).2).getD o ([], [])
  let s1j1 := (List.range 6).map fun o => subBias m (magR3 m (g1 0 o) (g1 1 o) (g1 2 o))
  let r2 := r1.map fun p => refLevel2 m.s h0a h0b h1a h1b p.1
  let g2 := fun c o => ((r2.getD c ([], [])).2).getD o ([], [])
  let s1j2 := (List.range 6).map fun o => subBias m (magR3 m (g2 0 o) (g2 1 o) (g2 2 o))
  let s0 := r2.map fun p => avgPool2 m.q p.1
  let r3 := s1j1.map fun im => refLevel1 m.s h0o h1o im
  let s2 := ((List.range 6).map fun o2 => r3.map fun p => subBias m (magR m (p.2.getD o2 ([], [])))).flatten
  let s1p := r3.map fun p => avgPool2 m.q p.1
  s0 ++ s1p ++ s1j2 ++ s2

end Spec

namespace C08R
open WV.C04 WV.C04P WV.C03P WV.C11P WV.C08Q
variable {R : Type} [CommRing R]

theorem scat2c_eq_scat2Of (m : MagOps R) (h0o h1o h0a h0b h1a h1b : List R) (x : List (Img R)) :
    Spec.scat2c m h0o h1o h0a h0b h1a h1b x
      = scat2Of m (Spec.refLevel1 m.s h0o h1o) (Spec.refLevel2 m.s h0a h0b h1a h1b) true x := rfl

theorem scatJ2_colour_eq_spec (m : MagOps R) (h0o h1o h0a h0b h1a h1b : List R) (hh0 : h0o.length % 2 = 1) (hh1 : h1o.length % 2 = 1)
    (hl0 : 1 ≤ h0b.length) (hab0 : h0a.length = h0b.length) (hl1 : 1 ≤ h1b.length) (hab1 : h1a.length = h1b.length)
    (x : List (Img R)) (hx3 : x.length = 3) (a b : Nat) (ha : 1 ≤ a) (hb : 1 ≤ b) (hx : ∀ im ∈ x, Rect im (8*a) (8*b)) :
    scatJ2 m true (mkS2 h0o h1o h0a h0b h1a h1b) true x = some (Spec.scat2c m h0o h1o h0a h0b h1a h1b x) := by
  rw [scat2c_eq_scat2Of]
  exact scatJ2_of_levels m (mkS2 h0o h1o h0a h0b h1a h1b) _ _ (C08P.fwd1_eq m h0o h1o hh0 hh1)
    (fwd2_eq m h0a h0b h1a h1b hl0 hab0 hl1 hab1) (refLevel1_rect m.s h0o h1o hh0) (refLevel1_bands m.s h0o h1o hh0 hh1)
    true x (fun _ => hx3) a b ha hb hx

/-- the module `ScatLayerj2(combine_colour=True)`: extension to multiples of 8, then the Function; every RGB image with at least 4
rows and columns -/
theorem ScatLayerj2_colour_eq_spec (m : MagOps R) (h0o h1o h0a h0b h1a h1b : List R) (hh0 : h0o.length % 2 = 1) (hh1 : h1o.length % 2 = 1)
    (hl0 : 1 ≤ h0b.length) (hab0 : h0a.length = h0b.length) (hl1 : 1 ≤ h1b.length) (hab1 : h1a.length = h1b.length)
    (x : List (Img R)) (hx3 : x.length = 3) (H W : Nat) (hH : 4 ≤ H) (hW : 4 ≤ W) (hx : ∀ im ∈ x, Rect im H W) :
    ScatLayerj2 m true (mkS2 h0o h1o h0a h0b h1a h1b) true x
      = some (Spec.scat2c m h0o h1o h0a h0b h1a h1b (x.map pad8Img)) := by
  unfold ScatLayerj2
  exact scatJ2_colour_eq_spec m h0o h1o h0a h0b h1a h1b hh0 hh1 hl0 hab0 hl1 hab1 _ (by rw [List.length_map, hx3])
    ((H + 7) / 8) ((W + 7) / 8) (by omega) (by omega) (pad8Img_map_rect x H W hH hW hx)

end C08R
end WV
