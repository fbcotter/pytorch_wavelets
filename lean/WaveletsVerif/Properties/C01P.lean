/-
  C01 — the J-level 2-D transform `DWTForward` in periodization mode is `pywt.wavedec2` on one channel, for every J and every non-empty
  rectangular image size (odd sizes included), whenever at every level the (even) filter lengths do not exceed the level's sides rounded up to even
  (`LevelsFitP`; the regime in which the one-level code path equals PyWavelets, C01.afb1dOne_per_eq_dwt_partial_all —
  for shorter levels the library differs from PyWavelets: known finding C01-periodization-short).  The level loop of `C01.DWTForward_of_levels` on
  `C05P.AFB2D_forward_val`.
-/
import WaveletsVerif.Properties.C05P
namespace WV.C01P
open Finset WV WV.C04 WV.C06 WV.C05D WV.C05P
variable {R : Type} [CommRing R]

/-- at every level the filters fit: `Lc ≤ H + H % 2`, `Lr ≤ W + W % 2`; the next level has sides `⌈H/2⌉ × ⌈W/2⌉` -/
def LevelsFitP (Lc Lr : Nat) : Nat → Nat → Nat → Prop
  | 0, _, _ => True
  | J+1, H, W => Lc ≤ H + H % 2 ∧ Lr ≤ W + W % 2 ∧ LevelsFitP Lc Lr J ((H + H % 2) / 2) ((W + W % 2) / 2)

/-- `DWTForward` in periodization mode = `pywt.wavedec2` for every J on a non-empty `H × W` image on which the levels fit
(`LevelsFitP`) (one channel; column wavelet `(hc0, hc1)`, row wavelet `(hr0, hr1)`, even lengths, both filters of a
wavelet of the same length) -/
theorem DWTForward_per_eq_wavedec2 (hr0 hr1 hc0 hc1 : List R) (hLr : 2 ≤ hr0.length) (hLre : hr0.length % 2 = 0) (hwr : hr1.length = hr0.length)
    (hLc : 2 ≤ hc0.length) (hLce : hc0.length % 2 = 0) (hwc : hc1.length = hc0.length) :
    ∀ (J : Nat) (x : Img R) (H W : Nat), Rect x H W → 1 ≤ H → 1 ≤ W → LevelsFitP hc0.length hr0.length J H W →
      DWTForward .periodization hc0.reverse hc1.reverse hr0.reverse hr1.reverse J [x]
        = some ([(Spec.wavedec2 .periodization hc0 hc1 hr0 hr1 J x).1],
                (Spec.wavedec2 .periodization hc0 hc1 hr0 hr1 J x).2.map fun b => [b]) := by
  intro J x H W hx hH hW hok
  -- the invariant: a rectangular, non-empty level input on which the remaining levels fit
  apply C01.DWTForward_of_levels .periodization hc0 hc1 hr0 hr1
    (fun J x => ∃ H W, Rect x H W ∧ 1 ≤ H ∧ 1 ≤ W ∧ LevelsFitP hc0.length hr0.length J H W) _ J x ⟨H, W, hx, hH, hW, hok⟩
  intro J x ⟨H, W, hx, hH, hW, hfH, hfW, hrest⟩
  have rW : Rect (alongW (Ap hr0) x) H ((W + W % 2) / 2) :=
    alongW_rect_of_length _ x H W _ hx fun c hc => by rw [length_dwt_per, hc]
  have rll : Rect (alongH (Ap hc0) (alongW (Ap hr0) x)) ((H + H % 2) / 2) ((W + W % 2) / 2) :=
    alongH_rect_of_length _ _ H _ _ rW hH (by omega) fun c hc => by rw [length_dwt_per, hc]
  exact ⟨AFB2D_forward_val hr0 hr1 hc0 hc1 hLr hLre hwr hLc hLce hwc H W hH hW hfH hfW x hx,
    _, _, rll, by omega, by omega, hrest⟩

/-- the level condition is satisfiable with odd sizes: a 7 × 5 image, two levels, 4-tap filters (7 → 4 → 2, 5 → 3 → 2) -/
example : LevelsFitP 4 4 2 7 5 := by simp [LevelsFitP]

end WV.C01P
