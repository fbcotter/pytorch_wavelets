/-
  C17 — the J-level transform is an orthogonal change of basis: energy is preserved through the whole pyramid.

  For an orthonormal bank in periodization mode, whenever every level's input length is even and at least the filter
  length (`LevelsOK`): `‖x‖² = ‖yl‖² + Σ_j ‖yh_j‖²` for the PyWavelets pyramid (`wavedec_isometry`) and for the
  implementation model of `DWT1DForward` on one channel, which is that pyramid (`DWT1DForward_per_eq_wavedec`,
  `DWT1D_isometry`).
-/
import WaveletsVerif.Properties.C17
namespace WV.C17J
open Finset WV WV.C17
variable {R : Type} [CommRing R]

/-- every level's input length is even and at least `L` -/
def LevelsOK (L : Nat) : Nat → Nat → Prop
  | 0, _ => True
  | J+1, N => N % 2 = 0 ∧ L ≤ N ∧ LevelsOK L J (N / 2)

/-- energy is preserved through the whole pyramid (PyWavelets' periodization formulas, orthonormal bank) -/
theorem wavedec_isometry (h0 h1 : List R) (hL : 2 ≤ h0.length) (hLe : h0.length % 2 = 0) (hh1 : h1.length = h0.length)
    (horth : PRBank h0 h1 h0.reverse h1.reverse) : ∀ (J : Nat) (x : List R), LevelsOK h0.length J x.length →
    energy (Spec.wavedec .periodization h0 h1 J x).1
      + ((Spec.wavedec .periodization h0 h1 J x).2.map energy).sum = energy x := by
  intro J
  induction J with
  | zero => intro x _; simp [Spec.wavedec]
  | succ J ih =>
    intro x hok
    obtain ⟨hNe, hLN, hrest⟩ := hok
    have hl := dwt_per_length h0 x hNe
    have := ih (Spec.dwt .periodization h0 x) (by rw [hl]; exact hrest)
    simp only [Spec.wavedec, List.map_cons, List.sum_cons]
    have hiso := isometry h0 h1 x hL hLe hh1 horth hNe (by omega)
    rw [← hiso, ← this]
    ring

/-- the J-level module in periodization mode on one channel `[x]` is PyWavelets' `wavedec`, whenever every level is even and at least as long
as the filter -/
theorem DWT1DForward_per_eq_wavedec (h0 h1 : List R) (hL : 2 ≤ h0.length) (hLe : h0.length % 2 = 0) (hh1 : h1.length = h0.length) :
    ∀ (J : Nat) (x : List R), LevelsOK h0.length J x.length →
    DWT1DForwardM .periodization J h0 h1 [x]
      = some ([(Spec.wavedec .periodization h0 h1 J x).1], (Spec.wavedec .periodization h0 h1 J x).2.map fun d => [d]) := by
  intro J x hok
  apply C01.DWT1DForward_one_channel
  apply C01.DWT1DForward_of_levels .periodization h0 h1 (fun J x => LevelsOK h0.length J x.length) _ J [x]
    (fun y hy => by rw [List.mem_singleton.mp hy]; exact hok)
  intro J x ⟨hNe, hLN, hrest⟩
  refine ⟨C01.afb1dOne_per_eq_dwt_partial h0 x hLe hL hNe hLN,
    C01.afb1dOne_per_eq_dwt_partial h1 x (by omega) (by omega) hNe (by omega), ?_⟩
  rw [dwt_per_length h0 x hNe]
  exact hrest

/-- the implementation model of `DWT1DForward` preserves energy through all J levels (one channel `[x]`, orthonormal
bank, `LevelsOK`) -/
theorem DWT1D_isometry (h0 h1 : List R) (hL : 2 ≤ h0.length) (hLe : h0.length % 2 = 0) (hh1 : h1.length = h0.length)
    (horth : PRBank h0 h1 h0.reverse h1.reverse) (J : Nat) (x : List R) (hok : LevelsOK h0.length J x.length) :
    ∃ (yl : List R) (yh : List (List R)), DWT1DForwardM .periodization J h0 h1 [x] = some ([yl], yh.map fun d => [d]) ∧
      energy yl + (yh.map energy).sum = energy x :=
  ⟨_, _, DWT1DForward_per_eq_wavedec h0 h1 hL hLe hh1 J x hok, wavedec_isometry h0 h1 hL hLe hh1 horth J x hok⟩

/-- the level condition is satisfiable: length 16, two levels, 4-tap filter -/
example : LevelsOK 4 2 16 := by simp [LevelsOK]

end WV.C17J
