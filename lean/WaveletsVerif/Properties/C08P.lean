/-
  C08 — value refinement of the first-order scattering layer, for ANY square-root operation.

  `ScatLayer` (odd-size edge extension, level-1 DTCWT without the band-pass variant, 2×2 average pooling of the
  low-pass, smoothed magnitudes `sq(re² + im² + b²) − b` of the six bands, band-major packing; joint magnitudes with
  colour combination) equals the composition of the REFERENCE level-1 DTCWT (`Spec.refLevel1`, C03P) with those
  formulas (`Spec.scat1`) on every stack of images of one size with at least one row and column (exactly 3 channels
  with colour combination; `mode='symmetric'`, level-1 filters of odd length) — whatever `sq`, division, `s`,
  `q`, `b` are (`ScatLayer_eq_spec`).  Only the evaluation of `sq` in floating point stays a measured matter.
-/
import WaveletsVerif.Properties.C03P
import WaveletsVerif.Model.Scat
namespace WV
namespace Spec
variable {α : Type}

/-- reference first-order scattering of one batch item (list of channel images) -/
def scat1 [Add α] [Sub α] [Mul α] [OfNat α 0] (m : MagOps α) (h0o h1o : List α) (colour : Bool) (x : List (Img α)) :
    List (Img α) :=
  let r := x.map fun im => refLevel1 m.s h0o h1o (extendEven im)
  let lls := r.map fun p => avgPool2 m.q p.1
  if colour then
    let g := fun c o => ((r.getD c ([], [])).2).getD o ([], [])
    lls ++ (List.range 6).map fun o => subBias m (magR3 m (g 0 o) (g 1 o) (g 2 o))
  else
    lls ++ ((List.range 6).map fun o => r.map fun p => subBias m (magR m (p.2.getD o ([], [])))).flatten

end Spec

namespace C08P
open WV.C04 WV.C04P WV.C03P
variable {R : Type} [CommRing R]

/-- the first-order scattering formulas over an arbitrary level-1 transform `L` -/
def scat1Of (m : MagOps R) (L : Img R → Img R × List (Cplx R)) (colour : Bool) (x : List (Img R)) : List (Img R) :=
  let r := x.map fun im => L (extendEven im)
  let lls := r.map fun p => avgPool2 m.q p.1
  if colour then
    let g := fun c o => ((r.getD c ([], [])).2).getD o ([], [])
    lls ++ (List.range 6).map fun o => subBias m (magR3 m (g 0 o) (g 1 o) (g 2 o))
  else
    lls ++ ((List.range 6).map fun o => r.map fun p => subBias m (magR m (p.2.getD o ([], [])))).flatten

theorem scat1_eq_scat1Of (m : MagOps R) (h0o h1o : List R) (colour : Bool) (x : List (Img R)) :
    Spec.scat1 m h0o h1o colour x = scat1Of m (Spec.refLevel1 m.s h0o h1o) colour x := rfl

theorem size_guard (n A B : Nat) (hA : 1 ≤ n * A) (l : List (Img R)) (hl : ∀ im ∈ l, Rect im (n*A) (n*B)) :
    ¬ (l.any (fun im => im.length % n ≠ 0 ∨ Img.width im % n ≠ 0) = true) := by
  rw [List.any_eq_true]
  rintro ⟨im, him, hodd⟩
  have r := hl im him
  simp only [r.1, rect_width _ _ _ r hA, decide_eq_true_eq, Nat.mul_mod_right, ne_eq, not_true_eq_false, or_self] at hodd

/-- the first-order layer computes the scattering formulas over whatever its level-1 transform computes on even-sized images -/
theorem ScatLayer_of_level (m : MagOps R) (h0 h1 : List R) (h2 : Option (List R)) (L : Img R → Img R × List (Cplx R))
    (hL : ∀ (im : Img R) (a b : Nat), 1 ≤ a → 1 ≤ b → Rect im (2*a) (2*b) → fwd1 m true h0 h1 h2 im = L im)
    (colour : Bool) (x : List (Img R)) (H W : Nat) (hH : 1 ≤ H) (hW : 1 ≤ W) (hx : ∀ im ∈ x, Rect im H W)
    (hc : colour = true → x.length = 3) :
    ScatLayer m true h0 h1 h2 colour x = some (scat1Of m L colour x) := by
  have hrect : ∀ im ∈ x, Rect (extendEven im) (2 * ((H+1)/2)) (2 * ((W+1)/2)) := fun im him =>
    extendEven_rect_even im H W (hx im him) hH hW
  have hguard := size_guard 2 ((H+1)/2) ((W+1)/2) (by omega) (x.map extendEven) (fun im him => by
    obtain ⟨im0, him0, rfl⟩ := List.mem_map.mp him
    exact hrect im0 him0)
  have hmap : (x.map extendEven).map (fwd1 m true h0 h1 h2) = x.map fun im => L (extendEven im) := by
    rw [List.map_map]
    exact List.map_congr_left fun im him => hL (extendEven im) _ _ (by omega) (by omega) (hrect im him)
  unfold ScatLayer scatJ1
  rw [if_neg hguard]
  simp only [hmap, List.length_map]
  cases colour
  · simp only [Bool.false_eq_true, if_false, scat1Of]
  · have h3 := hc rfl
    simp only [if_true, scat1Of]
    rw [if_neg (by omega)]

theorem fwd1_eq (m : MagOps R) (h0o h1o : List R) (hh0 : h0o.length % 2 = 1) (hh1 : h1o.length % 2 = 1) (im : Img R) (a b : Nat)
    (ha : 1 ≤ a) (hb : 1 ≤ b) (hx : Rect im (2*a) (2*b)) :
    fwd1 m true (prepFilt h0o) (prepFilt h1o) none im = Spec.refLevel1 m.s h0o h1o im := by
  simp only [fwd1]
  rw [fwdJ1_eq_ref m.s h0o h1o hh0 hh1 im a b ha hb hx]
  rfl

theorem ScatLayer_eq_spec (m : MagOps R) (h0o h1o : List R) (hh0 : h0o.length % 2 = 1) (hh1 : h1o.length % 2 = 1)
    (colour : Bool) (x : List (Img R)) (H W : Nat) (hH : 1 ≤ H) (hW : 1 ≤ W) (hx : ∀ im ∈ x, Rect im H W)
    (hc : colour = true → x.length = 3) :
    ScatLayer m true (prepFilt h0o) (prepFilt h1o) none colour x = some (Spec.scat1 m h0o h1o colour x) := by
  rw [scat1_eq_scat1Of]
  exact ScatLayer_of_level m _ _ none _ (fun im a b ha hb him => fwd1_eq m h0o h1o hh0 hh1 im a b ha hb him) colour x H W hH hW hx hc

end C08P
end WV
