/-
  C06 — back-propagation through the whole inverse DTCWT is the exact adjoint, on dyadic pyramids: the low-pass AND every
  band-pass level receive their gradients.

  `DTCWTInverse` runs `INV_J2PLUS` from the coarsest level to level 2 and `INV_J1` last; autograd therefore runs
  `INV_J1.backward` first and then `INV_J2PLUS.backward` level after level towards the coarsest one, each handing the gradient of
  its low-pass input on and keeping the gradient of its band-pass input (`DTCWTInverseBackward`: the chain rule over the module's
  level loop with the library's hand-written backward at every level, all inputs requiring grad).  On pyramids of images whose
  sides are multiples of `2^J` no level crops its low-pass; the backward pass of a level is the analysis level with the
  synthesis filters, so one level is the adjoint of one level by `C06J.level1_adjoint` / `level2_adjoint` read from right to left
  (`inv1_level`, `inv2_level`), and by induction over the levels
  `⟨DTCWTInverse P, dy⟩ = ⟨P, backward(dy)⟩` for every J, every pyramid `P` and every cotangent `dy`.
  One channel, symmetric mode; the synthesis filters satisfy the hypotheses of C06J (`C04P.mkG`: level-1 filters symmetric of odd
  length, q-shift filters of even length ≥ 2 with tree a the reverse of tree b).
-/
import WaveletsVerif.Properties.C06J
namespace WV.C06K
open Finset WV WV.C04 WV.C06 WV.C06Q WV.C04P WV.C06J
variable {R : Type} [CommRing R]

/-- the chain rule over levels `2 … J` of `DTCWTInverse`, from the finest of them to the coarsest: gradient of the final
low-pass and the band-pass gradients, finest first -/
def invLoopBackward (s : R) (g : InvFilters R) : Nat → Img R → Option (Img R × List (List (Cplx R)))
  | 0, dy => some (dy, [])
  | n+1, dy => do
    let r ← INV_J2PLUS_backward s g.g0a g.g1a g.g0b g.g1b true true dy
    match r with
    | (some dl, some dh) => do
      let (dlF, dhs) ← invLoopBackward s g n dl
      some (dlF, dh :: dhs)
    | _ => none

/-- … preceded by `INV_J1.backward` -/
def DTCWTInverseBackward (s : R) (g : InvFilters R) (n : Nat) (dy : Img R) : Option (Img R × List (List (Cplx R))) :=
  match INV_J1_backward s true g.g0o g.g1o true true dy with
  | (some dl, some dh) => do
    let (dlF, dhs) ← invLoopBackward s g n dl
    some (dlF, dh :: dhs)
  | _ => none

def gradDot (A B : Nat → Nat → Nat → Nat → R) : Nat → Nat → Nat → Nat → List (List (Cplx R)) → R
  | n+1, lvl, a, b, dh :: dhs => bdot (a / 2) (b / 2) dh (cot (A lvl) (B lvl) (a / 2) (b / 2)) + gradDot A B n (lvl + 1) (a / 2) (b / 2) dhs
  | _, _, _, _, _ => 0

/-- the band sizes the inverse reads for those levels -/
def sizes : Nat → Nat → Nat → List (Nat × Nat)
  | 0, _, _ => []
  | n+1, a, b => (a / 2, b / 2) :: sizes n (a / 2) (b / 2)

theorem cropToHighs_id' (l : Img R) (a b : Nat) (hl : Rect l (2*a) (2*b)) (ha : 1 ≤ a) : cropToHighs l a b = l :=
  cropToHighs_id l a b hl.1 (rect_width _ _ _ hl (by omega))

section
variable (s : R) (g0o g1o g0 g1 : List R) (hg0o : g0o.length % 2 = 1) (hg1o : g1o.length % 2 = 1) (hs0 : Symm g0o) (hs1 : Symm g1o)
    (hm0 : g0.length % 2 = 0) (hm0' : 2 ≤ g0.length) (hm1 : g1.length % 2 = 0) (hm1' : 2 ≤ g1.length)
    (A B : Nat → Nat → Nat → Nat → R)

include hm0 hm0' hm1 hm1' in
/-- one level ≥ 2 of the inverse on a `4H × 4W` cotangent: the backward pass does not depend on the low-pass input, so its results
are named once, and it is the adjoint of the level for every low-pass input `ll` -/
theorem inv2_level (dy : Img R) (H W : Nat) (hH : 1 ≤ H) (hW : 1 ≤ W) (hdy : Rect dy (4*H) (4*W)) (a b : Nat → Nat → Nat → R) :
    ∃ dl dh,
      INV_J2PLUS_backward s (mkG g0o g1o g0 g1).g0a (mkG g0o g1o g0 g1).g1a (mkG g0o g1o g0 g1).g0b (mkG g0o g1o g0 g1).g1b true true dy
        = some (some dl, some dh) ∧ Rect dl (2*H) (2*W) ∧
      ∀ ll, Rect ll (2*H) (2*W) → ∃ y,
        invJ2 s (mkG g0o g1o g0 g1).g0a (mkG g0o g1o g0 g1).g1a (mkG g0o g1o g0 g1).g0b (mkG g0o g1o g0 g1).g1b (some ll) (some (cot a b H W))
          = some y ∧ Rect y (4*H) (4*W) ∧
        dot2 (4*H) (4*W) dy y = dot2 (2*H) (2*W) dl ll + bdot H W dh (cot a b H W) := by
  -- `INV_J2PLUS.backward` is the analysis level with the synthesis filters: `level2_adjoint` for the reversed filters, read from
  -- right to left
  obtain ⟨dl, dh, hF, rdl, hbw⟩ := level2_adjoint s g0o g1o g0.reverse g1.reverse (by simpa using hm0) (by simpa using hm0')
    (by simpa using hm1) (by simpa using hm1') dy H W hH hW hdy a b
  simp only [mkF, List.reverse_reverse] at hF hbw
  refine ⟨dl, dh, ?_, rdl, fun ll hll => ?_⟩
  · show INV_J2PLUS_backward s (prepFilt g0.reverse) (prepFilt g1.reverse) (prepFilt g0) (prepFilt g1) true true dy = _
    unfold INV_J2PLUS_backward
    simp [hF]
  · obtain ⟨y, hB, ry, hid⟩ := hbw ll hll
    exact ⟨y, hB, ry, hid.symm⟩

include hg0o hg1o hs0 hs1 in
/-- level 1 of the inverse on a `2H × 2W` cotangent, in the same form -/
theorem inv1_level (dy : Img R) (H W : Nat) (hH : 1 ≤ H) (hW : 1 ≤ W) (hdy : Rect dy (2*H) (2*W)) (a b : Nat → Nat → Nat → R) :
    ∃ dl dh, INV_J1_backward s true (mkG g0o g1o g0 g1).g0o (mkG g0o g1o g0 g1).g1o true true dy = (some dl, some dh) ∧ Rect dl (2*H) (2*W) ∧
      ∀ ll, Rect ll (2*H) (2*W) → ∃ y,
        invJ1 s true (mkG g0o g1o g0 g1).g0o (mkG g0o g1o g0 g1).g1o (H, W) (some ll) (some (cot a b H W)) = some y ∧
        dot2 (2*H) (2*W) dy y = dot2 (2*H) (2*W) dl ll + bdot H W dh (cot a b H W) := by
  obtain ⟨dl, dh, hF, rdl, hbw⟩ := level1_adjoint s g0o g1o g0 g1 hg0o hg1o hs0 hs1 dy H W hH hW hdy a b
  have hF' : fwdJ1 s true (prepFilt g0o) (prepFilt g1o) false dy = (dl, some dh) := hF
  refine ⟨dl, dh, ?_, rdl, fun ll hll => ?_⟩
  · show INV_J1_backward s true (prepFilt g0o) (prepFilt g1o) true true dy = _
    unfold INV_J1_backward
    simp [hF']
  · obtain ⟨y, hB, _, hid⟩ := hbw ll hll
    exact ⟨y, hB, hid.symm⟩

include hm0 hm0' hm1 hm1' in
/-- levels `2 … J`: the chain of `INV_J2PLUS.backward` is the adjoint of the inverse's level loop -/
theorem invLoop_adjoint : ∀ (n lvl : Nat) (low dy : Img R) (a b : Nat), 1 ≤ a → 1 ≤ b → Dy n a b →
    Rect low (2 * (a / 2 ^ n)) (2 * (b / 2 ^ n)) → Rect dy (2*a) (2*b) →
    ∃ Z dlF dhs,
      (((cots A B n lvl a b).map some).zip (sizes n a b)).reverse.foldlM (dtcwtInvStep s (mkG g0o g1o g0 g1)) (some low) = some (some Z) ∧
      Rect Z (2*a) (2*b) ∧
      invLoopBackward s (mkG g0o g1o g0 g1) n dy = some (dlF, dhs) ∧
      dot2 (2*a) (2*b) dy Z = dot2 (2 * (a / 2 ^ n)) (2 * (b / 2 ^ n)) dlF low + gradDot A B n lvl a b dhs := by
  intro n
  induction n with
  | zero =>
    intro lvl low dy a b _ _ _ hl hdy
    rw [Nat.pow_zero, Nat.div_one, Nat.div_one] at hl ⊢
    exact ⟨low, dy, [], rfl, hl, rfl, (add_zero _).symm⟩
  | succ n ih =>
    intro lvl low dy a b ha hb hd hl hdy
    obtain ⟨ha2, hb2, ha1, hb1, hdr⟩ := hd
    have e4a := two_mul_of_even ha2
    have e4b := two_mul_of_even hb2
    rw [div_two_pow_succ a, div_two_pow_succ b] at hl ⊢
    have hdy4 : Rect dy (4 * (a / 2)) (4 * (b / 2)) := by rw [← e4a, ← e4b]; exact hdy
    obtain ⟨dl, dh, hB, rdl, hfw⟩ := inv2_level s g0o g1o g0 g1 hm0 hm0' hm1 hm1' dy (a / 2) (b / 2) ha1 hb1 hdy4 (A lvl) (B lvl)
    -- the coarser levels: forward from `low`, backward from `dl`; then this level applied to what they reconstructed
    obtain ⟨Z', dlF, dhs, hfold, rZ', hbw, hid'⟩ := ih (lvl + 1) low dl (a / 2) (b / 2) ha1 hb1 hdr hl rdl
    obtain ⟨y, hI, ry, hid⟩ := hfw Z' rZ'
    refine ⟨y, dlF, dh :: dhs, ?_, by rw [e4a, e4b]; exact ry, ?_, ?_⟩
    · simp only [cots, sizes, List.map_cons, List.zip_cons_cons, List.reverse_cons, List.foldlM_append, hfold, Option.bind_eq_bind,
        Option.bind_some, List.foldlM_cons, List.foldlM_nil]
      unfold dtcwtInvStep
      simp only [cropToHighs_id' Z' (a / 2) (b / 2) rZ' ha1]
      rw [hI]
      rfl
    · simp only [invLoopBackward, hB, Option.bind_eq_bind, Option.bind_some, hbw]
    · rw [e4a, e4b, hid, hid']
      simp only [gradDot]
      ring

include hg0o hg1o hs0 hs1 hm0 hm0' hm1 hm1' in
/-- back-propagation through the whole inverse DTCWT is the adjoint of the transform (one channel, symmetric mode, every input
requiring grad, dyadic pyramid: the reconstruction is `2a × 2b` with `Dy n a b`, `J = n + 1`): for every low-pass `low`, every
band-pass levels `A lvl k`, `B lvl k` and every cotangent `dy`,
`⟨DTCWTInverse(low, bands), dy⟩ = ⟨low, d low⟩ + Σ_levels Σ_k ⟨band, d band⟩` with the gradients the chain of hand-written backward
passes returns -/
theorem DTCWTInverse_backward_adjoint (n : Nat) (low dy : Img R) (a b : Nat) (ha : 1 ≤ a) (hb : 1 ≤ b) (hd : Dy n a b)
    (hl : Rect low (2 * (a / 2 ^ n)) (2 * (b / 2 ^ n))) (hdy : Rect dy (2*a) (2*b)) :
    ∃ y dlF dh1 dhs,
      DTCWTInverse s true (mkG g0o g1o g0 g1) ((a, b) :: sizes n a b) (a, b) (some low)
        (some (cot (A 0) (B 0) a b) :: (cots A B n 1 a b).map some) = some y ∧
      DTCWTInverseBackward s (mkG g0o g1o g0 g1) n dy = some (dlF, dh1 :: dhs) ∧
      dot2 (2*a) (2*b) dy y
        = dot2 (2 * (a / 2 ^ n)) (2 * (b / 2 ^ n)) dlF low + bdot a b dh1 (cot (A 0) (B 0) a b) + gradDot A B n 1 a b dhs := by
  obtain ⟨dl, dh1, hB1, rdl, hfw⟩ := inv1_level s g0o g1o g0 g1 hg0o hg1o hs0 hs1 dy a b ha hb hdy (A 0) (B 0)
  -- the coarser levels, then level 1 forward on what they reconstructed
  obtain ⟨Z, dlF, dhs, hfold, rZ, hbw, hidL⟩ := invLoop_adjoint s g0o g1o g0 g1 hm0 hm0' hm1 hm1' A B n 1 low dl a b ha hb hd hl rdl
  obtain ⟨y, hI, hid⟩ := hfw Z rZ
  refine ⟨y, dlF, dh1, dhs, ?_, ?_, ?_⟩
  · rw [DTCWTInverse_cons, hfold]
    simp only [Option.bind_eq_bind, Option.bind_some]
    rw [cropToHighs_id' Z a b rZ ha]
    exact hI
  · unfold DTCWTInverseBackward
    rw [hB1]
    simp only [hbw, Option.bind_eq_bind, Option.bind_some]
  · rw [hid, hidL]
    ring

end

/-- the size hypotheses are those of `C06J.DTCWT_backward_adjoint`: e.g. a 16 × 8 reconstruction with three levels -/
example : Dy 2 8 4 ∧ sizes 2 8 4 = [(4, 2), (2, 1)] := by
  refine ⟨⟨by decide, by decide, by decide, by decide, ⟨by decide, by decide, by decide, by decide, trivial⟩⟩, by decide⟩

end WV.C06K
