/-
  C05 — synthesis side, PERIODIZATION mode: `SFB1D.backward`, `SFB2D.backward` and the chain of `SFB2D.backward` through the
  whole J-level `DWTInverse` are the exact adjoints of the forward passes (one channel), for ANY synthesis filters of one even
  length `L ≥ 2` per axis.

  `SFB1D.backward` / `SFB2D.backward` run the analysis bank `afb1d(dy, g0, g1, mode)` with the synthesis filters as they are
  (no reversal).  In periodization on an even length not shorter than the filter that analysis bank is the transpose of the
  synthesis bank (`C17.per_synthesis_is_transpose`, `C17T.inverse_is_transpose`, both for arbitrary filter VALUES), so
      `⟨SFB(lo, hi), dy⟩ = ⟨lo, dlow⟩ + ⟨hi, dhigh⟩`                                  (1-D, `SFB1D_per_adjoint`)
      `⟨SFB2D(ll, lh, hl, hh), dy⟩ = ⟨ll, dll⟩ + ⟨lh, dlh⟩ + ⟨hl, dhl⟩ + ⟨hh, dhh⟩`  (2-D, `SFB2D_per_adjoint`)
  and, over the module's level loop (no level crops at even sizes, so the chain of backward passes `C05K.DWTInverseBackward`
  runs with no zero extension — `bwd_eq_fwd`: it IS the model of `DWTForward` with the synthesis filters on the cotangent),
      `⟨DWTInverse(yl, yh), dy⟩ = ⟨yl, d yl⟩ + Σ_levels (⟨lh, d lh⟩ + ⟨hl, d hl⟩ + ⟨hh, d hh⟩)`   (`DWTInverse_per_adjoint`)
  for every J whose levels have even sides not shorter than the filters (`C17K.LevelsOK2`).  The one-level 2-D identity is also
  stated on every number of channels, channel by channel (`SFB2D_per_adjoint_channels`).
  Shorter levels are the recorded periodization finding; odd sizes cannot occur on the synthesis side (outputs are even).
-/
import WaveletsVerif.Properties.C17T
import WaveletsVerif.Properties.C05K
import WaveletsVerif.Properties.C07M
namespace WV.C05T
open Finset WV WV.C04 WV.C06 WV.C05D WV.C05S WV.C05P WV.C17K WV.C17T WV.C05K WV.C07M
variable {R : Type} [CommRing R]

/-- one periodization level on the synthesis side with its results written out: the analysis bank with the synthesis filters as
they are is the periodized analysis with the reversed filters, which is the transpose of the synthesis (`C17.per_synthesis_is_transpose`) -/
theorem SFB1D_per_vals (g0 g1 lo hi dy : List R) (hL : 2 ≤ g0.length) (hLe : g0.length % 2 = 0)
    (hg : g1.length = g0.length) (hh : hi.length = lo.length) (hdy : dy.length = 2 * lo.length)
    (hfit : g0.length ≤ 2 * lo.length) :
    sfb1dCh .periodization g0 g1 lo hi = some (Ip g0 g1 lo hi) ∧
      afb1dOne .periodization g0 dy = some (Ap g0.reverse dy) ∧ afb1dOne .periodization g1 dy = some (Ap g1.reverse dy) ∧
      (Ap g0.reverse dy).length = lo.length ∧ (Ap g1.reverse dy).length = lo.length ∧
      ∑ u ∈ range (2 * lo.length), getN dy u * getN (Ip g0 g1 lo hi) u
        = ∑ k ∈ range lo.length, getN lo k * getN (Ap g0.reverse dy) k + ∑ k ∈ range lo.length, getN hi k * getN (Ap g1.reverse dy) k := by
  obtain ⟨hn, he, eK⟩ := halfUp_double lo.length g0.length hL hfit
  rw [← hdy] at he eK
  have hr0 : g0.reverse.length = g0.length := List.length_reverse
  have hr1 : g1.reverse.length = g0.length := List.length_reverse.trans hg
  have v0 := C17.per_refines_circular g0.reverse dy (by rw [hr0]; exact hLe) (by rw [hr0]; exact hL) he (by rw [hr0, hdy]; exact hfit)
  have v1 := C17.per_refines_circular g1.reverse dy (by rw [hr1]; exact hLe) (by rw [hr1]; exact hL) he (by rw [hr1, hdy]; exact hfit)
  have ht := C17.per_synthesis_is_transpose g0.reverse g1.reverse dy lo hi lo.length hn hdy rfl (by rw [hr0]; exact hL)
    (by rw [hr0]; exact hLe) (hr1.trans hr0.symm)
  rw [List.reverse_reverse] at v0 v1
  rw [List.reverse_reverse, List.reverse_reverse] at ht
  exact ⟨C10.sfb1dCh_per_eq_idwt_partial g0 g1 lo hi hL hg hn hh (Nat.le_trans (Nat.sub_le _ _) hfit), v0, v1,
    by rw [length_dwt_per, eK], by rw [length_dwt_per, eK], ht⟩

/-- `SFB1D.backward` is the adjoint of `SFB1D.forward` in periodization mode: for any synthesis filters `g0, g1` of one even
length `L ≥ 2`, bands of length `n` with `L ≤ 2n` and every cotangent `dy` of the output length `2n`. -/
theorem SFB1D_per_adjoint (g0 g1 lo hi dy : List R) (hL : 2 ≤ g0.length) (hLe : g0.length % 2 = 0)
    (hg : g1.length = g0.length) (hh : hi.length = lo.length) (hdy : dy.length = 2 * lo.length)
    (hfit : g0.length ≤ 2 * lo.length) :
    ∃ y dlow dhigh, sfb1dCh .periodization g0 g1 lo hi = some y ∧
      afb1dOne .periodization g0 dy = some dlow ∧ afb1dOne .periodization g1 dy = some dhigh ∧
      ∑ u ∈ range dy.length, getN dy u * getN y u
        = ∑ k ∈ range lo.length, getN lo k * getN dlow k + ∑ k ∈ range lo.length, getN hi k * getN dhigh k := by
  obtain ⟨e1, e2, e3, -, -, ht⟩ := SFB1D_per_vals g0 g1 lo hi dy hL hLe hg hh hdy hfit
  exact ⟨_, _, _, e1, e2, e3, by rw [hdy]; exact ht⟩

/-- non-vacuity of `SFB1D_per_adjoint` (hypotheses `hL`, `hLe`, `hdy`, `hfit`): a two-tap filter, bands of length 2 and a
cotangent of length 4 -/
example : (2 ≤ ([1, 1] : List Int).length) ∧ ([1, 1] : List Int).length % 2 = 0 ∧ ([3, 1, 4, 1] : List Int).length = 2 * ([7, 8] : List Int).length
    ∧ ([1, 1] : List Int).length ≤ 2 * ([7, 8] : List Int).length := by decide

section twod
variable (gr0 gr1 gc0 gc1 : List R) (hLr : 2 ≤ gr0.length) (hLre : gr0.length % 2 = 0) (hgr : gr1.length = gr0.length)
    (hLc : 2 ≤ gc0.length) (hLce : gc0.length % 2 = 0) (hgc : gc1.length = gc0.length)

include hLr hLre hgr hLc hLce hgc in
/-- `SFB2D.backward` is the adjoint of `SFB2D.forward` in periodization mode, one channel, any even-length synthesis filters,
every even output size `H × W` not smaller than the filters -/
theorem SFB2D_per_adjoint (H W : Nat) (hHe : H % 2 = 0) (hWe : W % 2 = 0) (hfH : gc0.length ≤ H) (hfW : gr0.length ≤ W)
    (ll lh hl hh dy : Img R) (r1 : Rect ll (H / 2) (W / 2)) (r2 : Rect lh (H / 2) (W / 2)) (r3 : Rect hl (H / 2) (W / 2))
    (r4 : Rect hh (H / 2) (W / 2)) (rdy : Rect dy H W) :
    ∃ y dll dlh dhl dhh, SFB2D_forward .periodization gr0 gr1 gc0 gc1 [ll] [[lh, hl, hh]] = some [y] ∧ Rect y H W ∧
      SFB2D_backward .periodization gr0 gr1 gc0 gc1 [dy] = some ([dll], [[dlh, dhl, dhh]]) ∧
      Rect dll (H / 2) (W / 2) ∧ Rect dlh (H / 2) (W / 2) ∧ Rect dhl (H / 2) (W / 2) ∧ Rect dhh (H / 2) (W / 2) ∧
      dot2 H W dy y = dot2 (H / 2) (W / 2) dll ll + dot2 (H / 2) (W / 2) dlh lh + dot2 (H / 2) (W / 2) dhl hl + dot2 (H / 2) (W / 2) dhh hh := by
  obtain ⟨dll, dlh, dhl, dhh, y, hf, hi, ry, q1, q2, q3, q4, hd⟩ := C17T.inverse_is_transpose gr0.reverse gr1.reverse gc0.reverse gc1.reverse
    (by simpa using hLr) (by simpa using hLre) (by simp [hgr]) (by simpa using hLc) (by simpa using hLce) (by simp [hgc]) H W hHe hWe
    (by simpa using hfH) (by simpa using hfW) dy ll lh hl hh rdy r1 r2 r3 r4
  simp only [List.reverse_reverse] at hf hi
  exact ⟨y, dll, dlh, dhl, dhh, hi, ry, by rw [C05S.SFB2D_backward_eq]; exact hf, q1, q2, q3, q4, hd.symm⟩

include hLr hLre hgr hLc hLce hgc in
/-- with no level crops the chain of `SFB2D.backward` passes through the module's loop is the model of `DWTForward` with the
synthesis filters, applied to the cotangent (one channel) -/
theorem bwd_eq_fwd : ∀ (J : Nat) (dy : Img R) (H W : Nat), Rect dy H W → 1 ≤ H → 1 ≤ W →
    LevelsOK2 gc0.length gr0.length J H W → ∀ (yl : Img R) (yh : List (List (List (Img R)))),
      DWTForward .periodization gc0 gc1 gr0 gr1 J [dy] = some ([yl], yh) →
      DWTInverseBackward .periodization gr0 gr1 gc0 gc1 (List.replicate J (false, false)) dy = some (yl, yh.map fun l => l.getD 0 [])
  | 0, dy, H, W, _, _, _, _, yl, yh, h => by
    simp only [DWTForward, Option.some.injEq, Prod.mk.injEq, List.cons.injEq, and_true] at h
    obtain ⟨rfl, rfl⟩ := h
    simp [DWTInverseBackward]
  | J+1, dy, H, W, hx, hH, hW, hok, yl, yh, h => by
    obtain ⟨hHe, hWe, hfH, hfW, hokr⟩ := hok
    obtain ⟨hKh, -, -, hfH'⟩ := halfUp_even H gc0.length hLc hHe hfH
    obtain ⟨hKw, -, -, hfW'⟩ := halfUp_even W gr0.length hLr hWe hfW
    have hfv := C05P.AFB2D_forward_val gr0.reverse gr1.reverse gc0.reverse gc1.reverse (by simpa using hLr) (by simpa using hLre)
      (by simp [hgr]) (by simpa using hLc) (by simpa using hLce) (by simp [hgc]) H W hH hW (by simpa using hfH') (by simpa using hfW') dy hx
    simp only [List.reverse_reverse] at hfv
    have rll := rect_Ap_band_even gc0.reverse gr0.reverse dy H W hx hH hW hHe hWe
    simp only [DWTForward] at h
    rw [hfv] at h
    simp only [Option.bind_eq_bind, Option.bind_some] at h
    cases hrec : DWTForward .periodization gc0 gc1 gr0 gr1 J [alongH (Ap gc0.reverse) (alongW (Ap gr0.reverse) dy)] with
    | none => rw [hrec] at h; simp at h
    | some p =>
      obtain ⟨yl', yh'⟩ := p
      rw [hrec] at h
      simp only [Option.bind_some, Option.some.injEq, Prod.mk.injEq] at h
      obtain ⟨e1, e2⟩ := h
      subst e1; subst e2
      have ih := bwd_eq_fwd J _ (H / 2) (W / 2) rll hKh hKw hokr yl yh' hrec
      simp only [List.replicate_succ, DWTInverseBackward, C05S.SFB2D_backward_eq]
      rw [hfv]
      simp only [Option.bind_eq_bind, Option.bind_some, List.getD_cons_zero, padBack, Bool.false_eq_true, if_false]
      rw [ih]
      simp

include hLr hLre hgr hLc hLce hgc in
/-- back-propagation through the whole J-level `DWTInverse` in periodization mode is the exact adjoint (one channel): for every J whose
levels have even sides not shorter than the filters, every pyramid `(gl, gh)` of forward shapes and every cotangent `dy` of the
output size, `⟨DWTInverse(gl, gh), dy⟩ = ⟨gl, d gl⟩ + Σ_levels Σ_bands ⟨band, d band⟩` with the gradients returned by the chain
of hand-written backward passes (`pdot` pairs the low-pass and the three bands of every level). -/
theorem DWTInverse_per_adjoint (J : Nat) (dy : Img R) (H W : Nat) (gl : Img R) (gh : List (List (Img R))) (hdy : Rect dy H W)
    (hH : 1 ≤ H) (hW : 1 ≤ W) (hok : LevelsOK2 gc0.length gr0.length J H W) (hp : PyrRect J H W gl gh) :
    ∃ y dl dh, DWTInverse .periodization gc0 gc1 gr0 gr1 [gl] (gh.map fun b => some [b]) = some [y] ∧ Rect y H W ∧
      DWTInverseBackward .periodization gr0 gr1 gc0 gc1 (List.replicate J (false, false)) dy = some (dl, dh.map fun l => l.getD 0 []) ∧
      idot dy y = pdot dl dh gl gh := by
  obtain ⟨yl, yh, y, hf, hi, ry, hd⟩ := C17T.DWT2D_inverse_is_transpose gr0.reverse gr1.reverse gc0.reverse gc1.reverse
    (by simpa using hLr) (by simpa using hLre) (by simp [hgr]) (by simpa using hLc) (by simpa using hLce) (by simp [hgc])
    J dy H W gl gh hdy hH hW (by simpa using hok) hp
  simp only [List.reverse_reverse] at hf hi
  exact ⟨y, yl, yh, hi, ry, bwd_eq_fwd gr0 gr1 gc0 gc1 hLr hLre hgr hLc hLce hgc J dy H W hdy hH hW hok yl yh hf, hd.symm⟩

end twod

section channels
variable (wr0 wr1 wc0 wc1 : List R) (hLr : 2 ≤ wr0.length) (hLre : wr0.length % 2 = 0) (hwr : wr1.length = wr0.length)
    (hLc : 2 ≤ wc0.length) (hLce : wc0.length % 2 = 0) (hwc : wc1.length = wc0.length) (H W : Nat)
    (hHe : H % 2 = 0) (hWe : W % 2 = 0) (hfH : wc0.length ≤ H) (hfW : wr0.length ≤ W)

include hLr hLre hwr hLc hLce hwc hHe hWe hfH hfW in
/-- the channel-stack statement with the buffers written as reversed analysis filters -/
theorem SFB2D_per_adjoint_channels_aux (lows dys : List (Img R)) (highs : List (List (Img R))) (hl1 : highs.length = lows.length)
    (hl2 : dys.length = lows.length)
    (hr : ∀ c < lows.length, Rect (lows.getD c []) (H / 2) (W / 2) ∧ ∀ k < 3, Rect ((highs.getD c []).getD k []) (H / 2) (W / 2))
    (hd : ∀ c < lows.length, Rect (dys.getD c []) H W) :
    ∃ ys dlows dhighs, SFB2D_forward .periodization wr0.reverse wr1.reverse wc0.reverse wc1.reverse lows highs = some ys ∧
      SFB2D_backward .periodization wr0.reverse wr1.reverse wc0.reverse wc1.reverse dys = some (dlows, dhighs) ∧
      ∀ c < lows.length,
        dot2 H W (dys.getD c []) (ys.getD c [])
          = dot2 (H / 2) (W / 2) (dlows.getD c []) (lows.getD c [])
            + dot2 (H / 2) (W / 2) ((dhighs.getD c []).getD 0 []) ((highs.getD c []).getD 0 [])
            + dot2 (H / 2) (W / 2) ((dhighs.getD c []).getD 1 []) ((highs.getD c []).getD 1 [])
            + dot2 (H / 2) (W / 2) ((dhighs.getD c []).getD 2 []) ((highs.getD c []).getD 2 []) := by
  obtain ⟨hKh, hfH2, hH, hfH'⟩ := halfUp_even H wc0.length hLc hHe hfH
  obtain ⟨hKw, hfW2, hW, hfW'⟩ := halfUp_even W wr0.length hLr hWe hfW
  have hfwd := SFB2D_forward_rect_channels .periodization _ _ _ _ (Ip wr0.reverse wr1.reverse) (Ip wc0.reverse wc1.reverse) _ _ _ _
    (synthVal_per wc0 wc1 hLc hwc (H / 2) hKh hfH2) (synthVal_per wr0 wr1 hLr hwr (W / 2) hKw hfW2) hKh hKw lows highs hl1 hr
  have hbwd := AFB2D_forward_rect_channels .periodization _ _ _ _ (Ap wr0) (Ap wr1) (Ap wc0) (Ap wc1) H W
    (afb1dOne_per_pair wr0 wr1 hLr hLre hwr W hW hfW') (afb1dOne_per_pair wc0 wc1 hLc hLce hwc H hH hfH') dys (by rw [hl2]; exact hd)
  refine ⟨_, _, _, hfwd, by rw [C05S.SFB2D_backward_eq]; exact hbwd, ?_⟩
  intro c hc
  simp only [getD_tab, if_pos hc, if_pos (hl2 ▸ hc), List.getD_cons_zero, List.getD_cons_succ]
  rw [← dxFullP_even wr0 wr1 wc0 wc1 H W hHe hWe]
  exact (inverse_is_transpose_val wr0 wr1 wc0 wc1 hLr hLre hwr hLc hLce hwc H W hHe hWe hfH hfW (dys.getD c []) (lows.getD c [])
    ((highs.getD c []).getD 0 []) ((highs.getD c []).getD 1 []) ((highs.getD c []).getD 2 []) (hd c hc) (hr c hc).1
    ((hr c hc).2 0 (by decide)) ((hr c hc).2 1 (by decide)) ((hr c hc).2 2 (by decide))).symm

end channels

section channels_g
variable (gr0 gr1 gc0 gc1 : List R) (hLr : 2 ≤ gr0.length) (hLre : gr0.length % 2 = 0) (hgr : gr1.length = gr0.length)
    (hLc : 2 ≤ gc0.length) (hLce : gc0.length % 2 = 0) (hgc : gc1.length = gc0.length)

include hLr hLre hgr hLc hLce hgc in
/-- `SFB2D.backward` is the adjoint of `SFB2D.forward` in periodization mode on every number of channels, channel by channel,
for any even-length synthesis filters and every even output size `H × W` not smaller than the filters -/
theorem SFB2D_per_adjoint_channels (H W : Nat) (hHe : H % 2 = 0) (hWe : W % 2 = 0) (hfH : gc0.length ≤ H) (hfW : gr0.length ≤ W)
    (lows dys : List (Img R)) (highs : List (List (Img R))) (hl1 : highs.length = lows.length) (hl2 : dys.length = lows.length)
    (hr : ∀ c < lows.length, Rect (lows.getD c []) (H / 2) (W / 2) ∧ ∀ k < 3, Rect ((highs.getD c []).getD k []) (H / 2) (W / 2))
    (hd : ∀ c < lows.length, Rect (dys.getD c []) H W) :
    ∃ ys dlows dhighs, SFB2D_forward .periodization gr0 gr1 gc0 gc1 lows highs = some ys ∧
      SFB2D_backward .periodization gr0 gr1 gc0 gc1 dys = some (dlows, dhighs) ∧
      ∀ c < lows.length,
        dot2 H W (dys.getD c []) (ys.getD c [])
          = dot2 (H / 2) (W / 2) (dlows.getD c []) (lows.getD c [])
            + dot2 (H / 2) (W / 2) ((dhighs.getD c []).getD 0 []) ((highs.getD c []).getD 0 [])
            + dot2 (H / 2) (W / 2) ((dhighs.getD c []).getD 1 []) ((highs.getD c []).getD 1 [])
            + dot2 (H / 2) (W / 2) ((dhighs.getD c []).getD 2 []) ((highs.getD c []).getD 2 []) := by
  have := SFB2D_per_adjoint_channels_aux gr0.reverse gr1.reverse gc0.reverse gc1.reverse (by simpa using hLr) (by simpa using hLre)
    (by simp [hgr]) (by simpa using hLc) (by simpa using hLce) (by simp [hgc]) H W hHe hWe (by simpa using hfH) (by simpa using hfW)
    lows dys highs hl1 hl2 hr hd
  simpa only [List.reverse_reverse] using this

end channels_g

/-- the low-pass half of the per-channel hypothesis `hr` of `SFB2D_per_adjoint_channels` is satisfiable: a two-channel stack of
1 × 1 low-pass images for the output size 2 × 2 -/
example : ∀ c < ([[[1]], [[5]]] : List (Img Int)).length, Rect (([[[1]], [[5]]] : List (Img Int)).getD c []) (2 / 2) (2 / 2) := by
  unfold Rect
  decide

/-- non-vacuity of hypothesis `hok` of `DWTInverse_per_adjoint`: a 4 × 4 cotangent, two levels, two-tap filters meet `LevelsOK2` -/
example : LevelsOK2 2 2 2 4 4 := by simp [LevelsOK2]

end WV.C05T
