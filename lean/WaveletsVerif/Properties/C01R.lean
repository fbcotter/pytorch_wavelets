/-
  C01 — reflect mode through the pyramid: "the call may raise instead when the signal is shorter than the filter; it never
  returns different numbers".

  One level (`C01.afb1dOne_reflect`): `afb1d` in reflect mode returns PyWavelets' coefficients when the pads fit inside the
  signal and raises otherwise.  Hence, by induction over the levels, WHENEVER the J-level module returns (one channel) it
  returns `pywt.wavedec` (`DWT1DForward`) resp. `pywt.wavedec2` (`DWTForward`) — for every J, non-empty input and filter
  lengths ≥ 2 — although it may raise at a level whose input has become shorter than the filter.
-/
import WaveletsVerif.Properties.C01
namespace WV.C01R
open WV WV.C01
variable {R : Type} [CommRing R]

/-- whenever reflect-mode `afb1d` returns, it returns the PyWavelets coefficients (all signal lengths ≥ 1) -/
theorem afb1dOne_reflect_some (h x y : List R) (hL : 2 ≤ h.length) (hN : 1 ≤ x.length)
    (hy : afb1dOne .reflect h.reverse x = some y) : y = Spec.dwt .reflect h x := by
  by_cases h2 : 2 ≤ x.length
  · obtain ⟨hfit, hraise⟩ := afb1dOne_reflect h x hL h2
    by_cases hp : padTotal x.length h.length / 2 < x.length ∧ (padTotal x.length h.length + 1) / 2 < x.length
    · rw [hfit hp] at hy; exact (Option.some.inj hy).symm
    · rw [hraise hp] at hy; exact absurd hy (by simp)
  · -- a single sample: the pad never fits
    have h1 : x.length = 1 := by omega
    have hg : ¬ (h.reverse.length < 2 ∨ x.length < 1) := by rw [List.length_reverse]; omega
    have hc : ¬ ((2 * (dwtCoeffLen x.length h.reverse.length - 1) + h.reverse.length - x.length) / 2 < x.length ∧
        (2 * (dwtCoeffLen x.length h.reverse.length - 1) + h.reverse.length - x.length + 1) / 2 < x.length) := by
      rw [List.length_reverse, h1]; unfold dwtCoeffLen; omega
    simp only [afb1dOne, hg, if_false, hc] at hy
    exact absurd hy (by simp)

theorem alongO_W_some (h : List R) (hL : 2 ≤ h.length) (x y : Img R) (hx : ∀ r ∈ x, 1 ≤ r.length)
    (hy : alongO .W (afb1dOne .reflect h.reverse) x = some y) : y = Spec.rowsMap (Spec.dwt .reflect h) x := by
  unfold alongO alongWO at hy
  exact mapM_some _ _ x y hy (fun r hr z hz => afb1dOne_reflect_some h r z hL (hx r hr) hz)

theorem alongO_H_some (h : List R) (hL : 2 ≤ h.length) (x y : Img R) (hx : 1 ≤ x.length)
    (hy : alongO .H (afb1dOne .reflect h.reverse) x = some y) : y = Spec.colsMap (Spec.dwt .reflect h) x := by
  unfold alongO alongHO at hy
  obtain ⟨ys, e, rfl⟩ := Option.map_eq_some_iff.mp hy
  rw [mapM_some _ (Spec.dwt .reflect h) (tr x) ys e
    (fun r hr z hz => afb1dOne_reflect_some h r z hL (by rw [tr_row_length x r hr]; exact hx) hz)]
  rfl

theorem AFB1D_forward_reflect_some (h0 h1 x : List R) (hL0 : 2 ≤ h0.length) (hL1 : 2 ≤ h1.length) (hN : 1 ≤ x.length)
    (a b : List (List R)) (hy : AFB1D_forward .reflect h0.reverse h1.reverse [x] = some (a, b)) :
    a = [Spec.dwt .reflect h0 x] ∧ b = [Spec.dwt .reflect h1 x] := by
  unfold AFB1D_forward at hy
  rw [List.map_singleton, afb1dT_one] at hy
  simp only [Option.bind_eq_bind, Option.bind_eq_some_iff, Option.some.injEq] at hy
  obtain ⟨_, ⟨lo, e0, hi, e1, rfl⟩, hab⟩ := hy
  obtain ⟨rfl, rfl⟩ := Prod.mk.inj hab
  rw [alongO_W_some h0 hL0 [x] lo (by simpa using hN) e0, alongO_W_some h1 hL1 [x] hi (by simpa using hN) e1]
  simp only [List.map_cons, List.map_nil, List.length_cons, List.length_nil]
  exact ⟨rfl, rfl⟩

theorem dwt_reflect_length (h x : List R) : (Spec.dwt .reflect h x).length = dwtCoeffLen x.length h.length := by
  simp [Spec.dwt]

/-- the J-level 1-D transform in reflect mode never returns different numbers: for every J, signal length ≥ 1 and
filter lengths ≥ 2, if `DWT1DForward(J, wave, 'reflect')` returns on one channel then it returns `pywt.wavedec` in the
library's order -/
theorem DWT1DForward_reflect_some (h0 h1 : List R) (hL0 : 2 ≤ h0.length) (hL1 : 2 ≤ h1.length) :
    ∀ (J : Nat) (x : List R) (yl : List (List R)) (yh : List (List (List R))), 1 ≤ x.length →
      DWT1DForwardM .reflect J h0 h1 [x] = some (yl, yh) →
      yl = [(Spec.wavedec .reflect h0 h1 J x).1] ∧ yh = (Spec.wavedec .reflect h0 h1 J x).2.map fun d => [d]
  | 0, x, yl, yh, _, hy => by
    obtain ⟨rfl, rfl⟩ := Prod.mk.inj (Option.some.inj hy)
    exact ⟨rfl, rfl⟩
  | J+1, x, yl, yh, hN, hy => by
    unfold DWT1DForwardM at hy
    simp only [DWT1DForward, Option.bind_eq_bind, Option.bind_eq_some_iff] at hy
    obtain ⟨⟨a, b⟩, e, ⟨ql, qh⟩, e2, hy⟩ := hy
    obtain ⟨rfl, rfl⟩ := Prod.mk.inj (Option.some.inj hy)
    obtain ⟨rfl, rfl⟩ := AFB1D_forward_reflect_some h0 h1 x hL0 hL1 hN a b e
    have hlen : 1 ≤ (Spec.dwt .reflect h0 x).length := by
      rw [dwt_reflect_length]; unfold dwtCoeffLen; omega
    obtain ⟨rfl, rfl⟩ := DWT1DForward_reflect_some h0 h1 hL0 hL1 J _ ql qh hlen e2
    exact ⟨rfl, rfl⟩

/-- one level of the 2-D module on one channel in reflect mode: if it returns, it returns `pywt.dwt2` -/
theorem AFB2D_forward_reflect_some (c0 c1 r0 r1 : List R) (hc0 : 2 ≤ c0.length) (hc1 : 2 ≤ c1.length) (hr0 : 2 ≤ r0.length)
    (hr1 : 2 ≤ r1.length) (x : Img R) (hH : 1 ≤ x.length) (hW : ∀ r ∈ x, 1 ≤ r.length) (a : List (Img R)) (b : List (List (Img R)))
    (hy : AFB2D_forward .reflect r0.reverse r1.reverse c0.reverse c1.reverse [x] = some (a, b)) :
    a = [(Spec.dwt2 .reflect c0 c1 r0 r1 x).1] ∧
    b = [[(Spec.dwt2 .reflect c0 c1 r0 r1 x).2.1, (Spec.dwt2 .reflect c0 c1 r0 r1 x).2.2.1, (Spec.dwt2 .reflect c0 c1 r0 r1 x).2.2.2]] := by
  unfold AFB2D_forward at hy
  rw [afb1dT_one] at hy
  simp only [Option.bind_eq_bind, Option.bind_eq_some_iff, Option.some.injEq] at hy
  obtain ⟨_, ⟨lo, e0, hi, e1, rfl⟩, y, hy2, hab⟩ := hy
  rw [afb1dT_two] at hy2
  simp only [Option.bind_eq_bind, Option.bind_eq_some_iff, Option.some.injEq] at hy2
  obtain ⟨ll, f0, lh, f1, hl, f2, hh, f3, rfl⟩ := hy2
  obtain ⟨rfl, rfl⟩ := Prod.mk.inj hab
  have rlo := alongO_W_some r0 hr0 x lo hW e0
  have rhi := alongO_W_some r1 hr1 x hi hW e1
  have hlo : 1 ≤ lo.length := by rw [rlo, Spec.rowsMap, List.length_map]; exact hH
  have hhi : 1 ≤ hi.length := by rw [rhi, Spec.rowsMap, List.length_map]; exact hH
  rw [alongO_H_some c0 hc0 lo ll hlo f0, alongO_H_some c1 hc1 lo lh hlo f1,
    alongO_H_some c0 hc0 hi hl hhi f2, alongO_H_some c1 hc1 hi hh hhi f3, rlo, rhi]
  simp only [List.length_cons, List.length_nil]
  exact ⟨rfl, rfl⟩

/-- the J-level 2-D transform in reflect mode never returns different numbers: for every J, every non-empty image and
filter lengths ≥ 2 (per-axis wavelets), if `DWTForward(J, wave, 'reflect')` returns on one channel then it returns
`pywt.wavedec2` with (column wavelet, row wavelet), levels finest first, bands (cH, cV, cD) -/
theorem DWTForward_reflect_some (c0 c1 r0 r1 : List R) (hc0 : 2 ≤ c0.length) (hc1 : 2 ≤ c1.length) (hr0 : 2 ≤ r0.length)
    (hr1 : 2 ≤ r1.length) :
    ∀ (J : Nat) (x : Img R) (yl : List (Img R)) (yh : List (List (List (Img R)))), NonEmptyImg x →
      DWTForward .reflect c0.reverse c1.reverse r0.reverse r1.reverse J [x] = some (yl, yh) →
      yl = [(Spec.wavedec2 .reflect c0 c1 r0 r1 J x).1] ∧ yh = (Spec.wavedec2 .reflect c0 c1 r0 r1 J x).2.map fun d => [d]
  | 0, x, yl, yh, _, hy => by
    obtain ⟨rfl, rfl⟩ := Prod.mk.inj (Option.some.inj hy)
    exact ⟨rfl, rfl⟩
  | J+1, x, yl, yh, hx, hy => by
    simp only [DWTForward, Option.bind_eq_bind, Option.bind_eq_some_iff] at hy
    obtain ⟨⟨a, b⟩, e, ⟨ql, qh⟩, e2, hy⟩ := hy
    obtain ⟨rfl, rfl⟩ := Prod.mk.inj (Option.some.inj hy)
    obtain ⟨rfl, rfl⟩ := AFB2D_forward_reflect_some c0 c1 r0 r1 hc0 hc1 hr0 hr1 x hx.1 hx.2 a b e
    obtain ⟨rfl, rfl⟩ := DWTForward_reflect_some c0 c1 r0 r1 hc0 hc1 hr0 hr1 J _ ql qh
      (dwt2_cA_nonempty .reflect dwt_reflect_length c0 r0 hc0 hr0 x hx) e2
    exact ⟨rfl, rfl⟩

/-- the hypothesis "returns" (`hy` of `afb1dOne_reflect_some`) is satisfiable: one reflect-mode level with a 4-tap integer filter on a length-5 signal returns -/
example : afb1dOne .reflect ([1, 2, 3, 4] : List Int).reverse [1, 2, 3, 4, 5] = some (Spec.dwt .reflect [1, 2, 3, 4] [1, 2, 3, 4, 5]) := by
  decide

end WV.C01R
