/-
  C07 — linearity of the forward DTCWT (`DTCWTForward`, dtcwt/transform2d.py) on one image, all levels kept, for every
  number of levels `J ≥ 1` and every image size.

  The reference pyramid `Spec.refForward` (which the implementation model of `DTCWTForward` equals for every such J and
  image size, C03P) is built from: the border extensions (`extendEven`, `extendMult4`: row / column gathers), the symmetric
  filters `colfilter` / `coldfilt` (sums of products with symmetrically extended samples) along columns and rows, and
  `q2c` (sums and differences of four poly-phase samples).  Each is linear on images of one shape with an output shape
  that depends on the input shape only; composing them gives `refForward(a·x + b·y) = a·refForward(x) + b·refForward(y)`
  (`refForward_linear`) and with C03P the same for the module (`DTCWTForward_linear`: symmetric mode, level-1 filters of odd length,
  q-shift filters non-empty and of pairwise equal lengths).
-/
import WaveletsVerif.Properties.C07L
import WaveletsVerif.Properties.C03P
namespace WV.C07T
open Finset WV WV.C04 WV.C04Q WV.C04P WV.C03P WV.C06 WV.C05D WV.C07 WV.C07L
variable {R : Type} [CommRing R]

theorem sumN_xt_lincomb (a b : R) (x y : List R) (hxy : x.length = y.length) (n : Nat) (c : Nat → R) (t : Nat → Int) :
    sumN n (fun j => c j * Spec.xt (lincomb a b x y) (t j))
      = a * sumN n (fun j => c j * Spec.xt x (t j)) + b * sumN n (fun j => c j * Spec.xt y (t j)) := by
  unfold Spec.xt
  rw [lincomb_length, ← hxy]
  exact sumN_getZ_lincomb a b x y hxy n c _

theorem lin_spec_colfilter (h : List R) : Lin (Spec.colfilter h) :=
  Lin.of_tab (fun n => n + 2 * (h.length / 2) + 1 - h.length) _ (fun _ => rfl)
    (fun a b x y hxy _ => sumN_xt_lincomb a b x y hxy _ _ _)

theorem lin_spec_coldfilt (ha hb : List R) (hp : Bool) : Lin (Spec.coldfilt ha hb hp) := by
  refine Lin.of_tab (fun n => n / 2) _ (fun _ => rfl) ?_
  intro a b x y hxy i
  -- entry `i` is tree `a` or tree `b` at `i / 2`, chosen by the parity of `i` and `hp`
  dsimp only
  by_cases hi : i % 2 = 0
  · rw [if_pos hi, if_pos hi, if_pos hi]
    cases hp <;> exact sumN_xt_lincomb a b x y hxy _ _ _
  · rw [if_neg hi, if_neg hi, if_neg hi]
    cases hp <;> exact sumN_xt_lincomb a b x y hxy _ _ _

/-- `r ↦ r[0:1] ++ r ++ r[-1:]` -/
theorem lin_ext1 : Lin (fun r : List R => slice r 0 1 ++ r ++ sliceFrom r (-1)) :=
  Lin.append (Lin.append (lin_slice 0 1) lin_id) (lin_sliceFrom (-1))

theorem rowsAppendLast_lin (a b : R) (x y : Img R) (H W : Nat) (hx : Rect x H W) (hy : Rect y H W) (_hH : 1 ≤ H) :
    ilin a b x y ++ sliceFrom (ilin a b x y) (-1) = ilin a b (x ++ sliceFrom x (-1)) (y ++ sliceFrom y (-1)) := by
  have hxy : x.length = y.length := hx.1.trans hy.1.symm
  rw [sliceFrom_neg_one, sliceFrom_neg_one, sliceFrom_neg_one, (ilin_rect a b x y H W hx).1, hx.1, hy.1,
    ilin_append a b x _ y _ hxy (by rw [List.length_drop, List.length_drop, hxy]), ilin_drop a b x y _ hxy]

theorem rowsAppendLast_rect (x : Img R) (H W : Nat) (hx : Rect x H W) (hH : 1 ≤ H) : Rect (x ++ sliceFrom x (-1)) (H + 1) W := by
  constructor
  · rw [List.length_append, sliceFrom_neg_one_length x (by rw [hx.1]; omega), hx.1]
  · intro r hr
    rcases List.mem_append.mp hr with h | h
    · exact hx.2 r h
    · exact hx.2 r (sliceFrom_neg_one_mem x r h)

theorem rowsExt1_lin (a b : R) (x y : Img R) (H W : Nat) (hx : Rect x H W) (hy : Rect y H W) (hH : 1 ≤ H) :
    slice (ilin a b x y) 0 1 ++ ilin a b x y ++ sliceFrom (ilin a b x y) (-1)
      = ilin a b (slice x 0 1 ++ x ++ sliceFrom x (-1)) (slice y 0 1 ++ y ++ sliceFrom y (-1)) := by
  have hxy : x.length = y.length := hx.1.trans hy.1.symm
  have rl := ilin_rect a b x y H W hx
  rw [slice_zero_one x (by rw [hx.1]; exact hH), slice_zero_one y (by rw [hy.1]; exact hH),
    slice_zero_one (ilin a b x y) (by rw [rl.1]; exact hH), sliceFrom_neg_one, sliceFrom_neg_one, sliceFrom_neg_one, rl.1, hx.1, hy.1,
    ilin_append a b (x.take 1 ++ x) _ (y.take 1 ++ y) _
      (by rw [List.length_append, List.length_append, List.length_take, List.length_take, hxy])
      (by rw [List.length_drop, List.length_drop, hxy]),
    ilin_append a b (x.take 1) x (y.take 1) y (by rw [List.length_take, List.length_take, hxy]) hxy,
    ilin_take a b x y 1 hxy, ilin_drop a b x y _ hxy]

/-- the two border extensions have one form: rows added by `E` when `p` holds of the height, then every row extended by the
linear `F` when `p` holds of the width -/
theorem extend_lin (a b : R) (p : Nat → Prop) [DecidablePred p] (E : Img R → Img R) (F : List R → List R) (lF : Lin F) (k : Nat)
    (hE : ∀ (x y : Img R) (H W : Nat), Rect x H W → Rect y H W → 1 ≤ H → E (ilin a b x y) = ilin a b (E x) (E y))
    (rE : ∀ (x : Img R) (H W : Nat), Rect x H W → 1 ≤ H → Rect (E x) (H + k) W)
    (x y : Img R) (H W : Nat) (hx : Rect x H W) (hy : Rect y H W) (hH : 1 ≤ H) :
    (if p (Img.width (if p (ilin a b x y).length then E (ilin a b x y) else ilin a b x y))
        then (if p (ilin a b x y).length then E (ilin a b x y) else ilin a b x y).map F
        else (if p (ilin a b x y).length then E (ilin a b x y) else ilin a b x y))
      = ilin a b
          (if p (Img.width (if p x.length then E x else x)) then (if p x.length then E x else x).map F else (if p x.length then E x else x))
          (if p (Img.width (if p y.length then E y else y)) then (if p y.length then E y else y).map F else (if p y.length then E y else y)) := by
  have rl := ilin_rect a b x y H W hx
  rw [rl.1, hx.1, hy.1]
  by_cases c1 : p H
  · rw [if_pos c1, if_pos c1, if_pos c1, hE x y H W hx hy hH]
    have q := rE x H W hx hH
    have q' := rE y H W hy hH
    rw [rect_width _ _ _ q (by omega), rect_width _ _ _ q' (by omega), rect_width _ _ _ (ilin_rect a b _ _ (H + k) W q) (by omega)]
    by_cases c2 : p W
    · rw [if_pos c2, if_pos c2, if_pos c2]
      exact alongW_lin lF a b _ _ (H + k) W q q'
    · rw [if_neg c2, if_neg c2, if_neg c2]
  · rw [if_neg c1, if_neg c1, if_neg c1, rect_width _ _ _ hx hH, rect_width _ _ _ hy hH, rect_width _ _ _ rl hH]
    by_cases c2 : p W
    · rw [if_pos c2, if_pos c2, if_pos c2]
      exact alongW_lin lF a b _ _ H W hx hy
    · rw [if_neg c2, if_neg c2, if_neg c2]

/-- `extendEven` (repeat the last row / column of an odd-sized image) is linear -/
theorem extendEven_lin (a b : R) (x y : Img R) (H W : Nat) (hx : Rect x H W) (hy : Rect y H W) (hH : 1 ≤ H) (_hW : 1 ≤ W) :
    extendEven (ilin a b x y) = ilin a b (extendEven x) (extendEven y) :=
  extend_lin a b (fun n => n % 2 ≠ 0) (fun z => z ++ sliceFrom z (-1)) _ lin_appendLast 1
    (fun x y H W hx hy hH => rowsAppendLast_lin a b x y H W hx hy hH) (fun x H W hx hH => rowsAppendLast_rect x H W hx hH)
    x y H W hx hy hH

/-- `extendMult4` (one replicated sample on either side when the size is not a multiple of 4) is linear -/
theorem extendMult4_lin (a b : R) (x y : Img R) (H W : Nat) (hx : Rect x H W) (hy : Rect y H W) (hH : 1 ≤ H) (_hW : 1 ≤ W) :
    extendMult4 (ilin a b x y) = ilin a b (extendMult4 x) (extendMult4 y) :=
  extend_lin a b (fun n => n % 4 ≠ 0) (fun z => slice z 0 1 ++ z ++ sliceFrom z (-1)) _ lin_ext1 2
    (fun x y H W hx hy hH => rowsExt1_lin a b x y H W hx hy hH) (fun x H W hx hH => ext1_rows_rect x H W hx hH)
    x y H W hx hy hH

/-- `a·c + b·c'` on complex images (pairs real part, imaginary part) -/
def clin (a b : R) (c c' : Cplx R) : Cplx R := (ilin a b c.1 c'.1, ilin a b c.2 c'.2)

theorem q2c_lin (s a b : R) (y y' : Img R) (H W : Nat) (hy : Rect y H W) (hy' : Rect y' H W) (hH : 1 ≤ H) :
    q2c s (ilin a b y y') = (clin a b (q2c s y).1 (q2c s y').1, clin a b (q2c s y).2 (q2c s y').2) := by
  have rl := ilin_rect a b y y' H W hy
  -- rows `2i` and `2i + 1` of the input, for a row `i` of the half-size output
  have g0 : ∀ i j, i < H / 2 → get2 (ilin a b y y') (2*i) j = a * get2 y (2*i) j + b * get2 y' (2*i) j :=
    fun i j hi => get2_ilin a b y y' H W hy hy' _ j (by omega)
  have g1 : ∀ i j, i < H / 2 → get2 (ilin a b y y') (2*i+1) j = a * get2 y (2*i+1) j + b * get2 y' (2*i+1) j :=
    fun i j hi => get2_ilin a b y y' H W hy hy' _ j (by omega)
  unfold q2c clin
  simp only [rl.1, hy.1, hy'.1, rect_width _ _ _ rl hH, rect_width _ _ _ hy hH, rect_width _ _ _ hy' hH]
  refine Prod.ext (Prod.ext ?_ ?_) (Prod.ext ?_ ?_) <;>
    (dsimp only; rw [ilin_tab2]; apply tab2_congr; intro i hi j _; rw [g0 _ _ hi, g1 _ _ hi]; ring)

/-- the six complex bands of one level, combined band by band -/
def blin (a b : R) (u v : List (Cplx R)) : List (Cplx R) := List.zipWith (clin a b) u v

theorem highsToOrientations_lin (s a b : R) (lh lh' hl hl' hh hh' : Img R) (H W : Nat) (hH : 1 ≤ H)
    (r1 : Rect lh H W) (r1' : Rect lh' H W) (r2 : Rect hl H W) (r2' : Rect hl' H W) (r3 : Rect hh H W) (r3' : Rect hh' H W) :
    highsToOrientations s (ilin a b lh lh') (ilin a b hl hl') (ilin a b hh hh')
      = blin a b (highsToOrientations s lh hl hh) (highsToOrientations s lh' hl' hh') := by
  unfold highsToOrientations blin
  rw [q2c_lin s a b lh lh' H W r1 r1' hH, q2c_lin s a b hl hl' H W r2 r2' hH, q2c_lin s a b hh hh' H W r3 r3' hH]
  rfl

theorem outLen_colfilter (h : List R) (n : Nat) : outLen (Spec.colfilter h) n = n + 2 * (h.length / 2) + 1 - h.length := by
  unfold outLen Spec.colfilter
  rw [length_tab, List.length_replicate]

theorem outLen_colfilter_parity (h h' : List R) (hh : h'.length % 2 = h.length % 2) (n : Nat) :
    outLen (Spec.colfilter h') n = outLen (Spec.colfilter h) n := by
  rw [outLen_colfilter, outLen_colfilter]; omega

theorem outLen_colfilter_pos (h : List R) (n : Nat) (hn : 1 ≤ n) : 1 ≤ outLen (Spec.colfilter h) n := by
  rw [outLen_colfilter]; omega

theorem outLen_coldfilt (ha hb : List R) (hp : Bool) (n : Nat) : outLen (Spec.coldfilt ha hb hp) n = n / 2 := by
  unfold outLen Spec.coldfilt
  rw [length_tab, List.length_replicate]

theorem twoPass_lin {F G : List R → List R} (hF : Lin F) (hG : Lin G) (a b : R) (x y : Img R) (H W : Nat) (hx : Rect x H W)
    (hy : Rect y H W) (hH : 1 ≤ H) (hW : 1 ≤ W) :
    alongW F (alongH G (ilin a b x y)) = ilin a b (alongW F (alongH G x)) (alongW F (alongH G y)) ∧
    Rect (alongW F (alongH G x)) (outLen G H) (outLen F W) ∧ Rect (alongW F (alongH G y)) (outLen G H) (outLen F W) := by
  have r := alongH_lin_rect hG x H W hx hH hW
  have r' := alongH_lin_rect hG y H W hy hH hW
  exact ⟨by rw [alongH_lin hG a b x y H W hx hy hH hW, alongW_lin hF a b _ _ _ W r r'], alongW_lin_rect hF _ _ W r,
    alongW_lin_rect hF _ _ W r'⟩

theorem refLevel1_rect (s : R) (h0o h1o : List R) (x : Img R) (H W : Nat) (hx : Rect x H W) (hH : 1 ≤ H) (hW : 1 ≤ W) :
    Rect (Spec.refLevel1 s h0o h1o x).1 (outLen (Spec.colfilter h0o) H) (outLen (Spec.colfilter h0o) W) :=
  alongW_lin_rect (lin_spec_colfilter h0o) _ _ W (alongH_lin_rect (lin_spec_colfilter h0o) x H W hx hH hW)

theorem refLevel2_rect (s : R) (h0a h0b h1a h1b : List R) (x : Img R) (H W : Nat) (hx : Rect x H W) (hH : 1 ≤ H) (hW : 1 ≤ W) :
    Rect (Spec.refLevel2 s h0a h0b h1a h1b x).1 (H / 2) (W / 2) := by
  have r := alongW_lin_rect (lin_spec_coldfilt h0b h0a false) _ _ W (alongH_lin_rect (lin_spec_coldfilt h0b h0a false) x H W hx hH hW)
  rw [outLen_coldfilt, outLen_coldfilt] at r
  exact r

/-- level 1 of the reference DTCWT is linear; its low-pass has a shape that depends on the input shape only -/
theorem refLevel1_lin (s : R) (h0o h1o : List R) (hh1 : h1o.length % 2 = h0o.length % 2) (a b : R) (x y : Img R) (H W : Nat)
    (hx : Rect x H W) (hy : Rect y H W) (hH : 1 ≤ H) (hW : 1 ≤ W) :
    Spec.refLevel1 s h0o h1o (ilin a b x y)
      = (ilin a b (Spec.refLevel1 s h0o h1o x).1 (Spec.refLevel1 s h0o h1o y).1,
         blin a b (Spec.refLevel1 s h0o h1o x).2 (Spec.refLevel1 s h0o h1o y).2) ∧
    Rect (Spec.refLevel1 s h0o h1o x).1 (outLen (Spec.colfilter h0o) H) (outLen (Spec.colfilter h0o) W) := by
  have l0 := lin_spec_colfilter (R := R) h0o
  have l1 := lin_spec_colfilter (R := R) h1o
  have e := outLen_colfilter_parity h0o h1o hh1
  obtain ⟨p00, r00, _⟩ := twoPass_lin l0 l0 a b x y H W hx hy hH hW
  obtain ⟨p01, r01, r01'⟩ := twoPass_lin l0 l1 a b x y H W hx hy hH hW
  obtain ⟨p10, r10, r10'⟩ := twoPass_lin l1 l0 a b x y H W hx hy hH hW
  obtain ⟨p11, r11, r11'⟩ := twoPass_lin l1 l1 a b x y H W hx hy hH hW
  rw [e] at r01 r01' r10 r10' r11 r11'
  rw [e] at r11 r11'
  refine ⟨?_, r00⟩
  unfold Spec.refLevel1
  simp only []
  rw [p00, p01, p10, p11]
  have hpos := outLen_colfilter_pos h0o H hH
  rw [highsToOrientations_lin s a b _ _ _ _ _ _ _ _ hpos r01 r01' r10 r10' r11 r11']

/-- a level ≥ 2 of the reference DTCWT is linear, on images with at least two rows (after `extendMult4`) -/
theorem refLevel2_lin (s : R) (h0a h0b h1a h1b : List R) (a b : R) (x y : Img R) (H W : Nat)
    (hx : Rect x H W) (hy : Rect y H W) (hH : 2 ≤ H) (hW : 1 ≤ W) :
    Spec.refLevel2 s h0a h0b h1a h1b (ilin a b x y)
      = (ilin a b (Spec.refLevel2 s h0a h0b h1a h1b x).1 (Spec.refLevel2 s h0a h0b h1a h1b y).1,
         blin a b (Spec.refLevel2 s h0a h0b h1a h1b x).2 (Spec.refLevel2 s h0a h0b h1a h1b y).2) ∧
    Rect (Spec.refLevel2 s h0a h0b h1a h1b x).1 (H / 2) (W / 2) := by
  have l0 := lin_spec_coldfilt (R := R) h0b h0a false
  have l1 := lin_spec_coldfilt (R := R) h1b h1a true
  have hH1 : 1 ≤ H := by omega
  obtain ⟨p00, r00, _⟩ := twoPass_lin l0 l0 a b x y H W hx hy hH1 hW
  obtain ⟨p01, r01, r01'⟩ := twoPass_lin l0 l1 a b x y H W hx hy hH1 hW
  obtain ⟨p10, r10, r10'⟩ := twoPass_lin l1 l0 a b x y H W hx hy hH1 hW
  obtain ⟨p11, r11, r11'⟩ := twoPass_lin l1 l1 a b x y H W hx hy hH1 hW
  simp only [outLen_coldfilt] at r00 r01 r01' r10 r10' r11 r11'
  refine ⟨?_, r00⟩
  unfold Spec.refLevel2
  simp only []
  rw [p00, p01, p10, p11]
  rw [highsToOrientations_lin s a b _ _ _ _ _ _ _ _ (by omega : 1 ≤ H / 2) r01 r01' r10 r10' r11 r11']

/-- all levels of a pyramid, combined level by level, band by band -/
def plinC (a b : R) (u v : List (List (Cplx R))) : List (List (Cplx R)) := List.zipWith (blin a b) u v

theorem extendMult4_pos (H : Nat) (hH : 1 ≤ H) : 2 ≤ H + (if H % 4 ≠ 0 then 2 else 0) := by
  split <;> omega

/-- the q-shift levels of the reference pyramid are linear, for every number of levels -/
theorem refLoop_lin (s : R) (h0a h0b h1a h1b : List R) (a b : R) :
    ∀ (n : Nat) (x y : Img R) (H W : Nat), Rect x H W → Rect y H W → 1 ≤ H → 1 ≤ W →
      Spec.refLoop s h0a h0b h1a h1b n (ilin a b x y)
        = (ilin a b (Spec.refLoop s h0a h0b h1a h1b n x).1 (Spec.refLoop s h0a h0b h1a h1b n y).1,
           plinC a b (Spec.refLoop s h0a h0b h1a h1b n x).2 (Spec.refLoop s h0a h0b h1a h1b n y).2)
  | 0, _, _, _, _, _, _, _, _ => rfl
  | n+1, x, y, H, W, hx, hy, hH, hW => by
    have rx := extendMult4_rect x H W hx hH hW
    have ry := extendMult4_rect y H W hy hH hW
    have p1 := extendMult4_pos H hH
    have p2 := extendMult4_pos W hW
    obtain ⟨e, r⟩ := refLevel2_lin s h0a h0b h1a h1b a b _ _ _ _ rx ry p1 (by omega)
    have r' := refLevel2_rect s h0a h0b h1a h1b _ _ _ ry (by omega) (by omega)
    have ih := refLoop_lin s h0a h0b h1a h1b a b n _ _ _ _ r r' (by omega) (by omega)
    simp only [Spec.refLoop]
    rw [extendMult4_lin a b x y H W hx hy hH hW, e]
    simp only []
    rw [ih]
    rfl

/-- the reference forward DTCWT is linear: final low-pass and all six complex bands of every level, for every number of
levels `n + 1` and every image size -/
theorem refForward_linear (s : R) (h0o h1o h0a h0b h1a h1b : List R) (hh1 : h1o.length % 2 = h0o.length % 2) (a b : R) (n : Nat)
    (x y : Img R) (H W : Nat) (hx : Rect x H W) (hy : Rect y H W) (hH : 1 ≤ H) (hW : 1 ≤ W) :
    Spec.refForward s h0o h1o h0a h0b h1a h1b n (ilin a b x y)
      = (ilin a b (Spec.refForward s h0o h1o h0a h0b h1a h1b n x).1 (Spec.refForward s h0o h1o h0a h0b h1a h1b n y).1,
         plinC a b (Spec.refForward s h0o h1o h0a h0b h1a h1b n x).2 (Spec.refForward s h0o h1o h0a h0b h1a h1b n y).2) := by
  have rx := extendEven_rect x H W hx hH hW
  have ry := extendEven_rect y H W hy hH hW
  obtain ⟨e, r⟩ := refLevel1_lin s h0o h1o hh1 a b _ _ _ _ rx ry (by omega) (by omega)
  have r' := refLevel1_rect s h0o h1o _ _ _ ry (by omega) (by omega)
  have ih := refLoop_lin s h0a h0b h1a h1b a b n _ _ _ _ r r' (outLen_colfilter_pos h0o _ (Nat.le_add_right_of_le hH))
    (outLen_colfilter_pos h0o _ (Nat.le_add_right_of_le hW))
  simp only [Spec.refForward]
  rw [extendEven_lin a b x y H W hx hy hH hW, e]
  simp only []
  rw [ih]
  rfl

/-- the forward DTCWT of the implementation model is linear (all levels kept): for every number of levels `n + 1`,
every image size, symmetric mode, level-1 filters of odd length, q-shift filters non-empty and of pairwise equal lengths -/
theorem DTCWTForward_linear (s : R) (h0o h1o h0a h0b h1a h1b : List R) (hh0o : h0o.length % 2 = 1) (hh1o : h1o.length % 2 = 1)
    (hl0 : 1 ≤ h0b.length) (hab0 : h0a.length = h0b.length) (hl1 : 1 ≤ h1b.length) (hab1 : h1a.length = h1b.length)
    (a b : R) (n : Nat) (incl : List Bool) (x y : Img R) (H W : Nat) (hH : 1 ≤ H) (hW : 1 ≤ W) (hx : Rect x H W) (hy : Rect y H W) :
    ∃ lx hx' sx ly hy' sy sl,
      DTCWTForward s true (mkFg h0o h1o h0a h0b h1a h1b) (List.replicate (n+1) false) incl x = some (lx, hx'.map some, sx) ∧
      DTCWTForward s true (mkFg h0o h1o h0a h0b h1a h1b) (List.replicate (n+1) false) incl y = some (ly, hy'.map some, sy) ∧
      DTCWTForward s true (mkFg h0o h1o h0a h0b h1a h1b) (List.replicate (n+1) false) incl (ilin a b x y)
        = some (ilin a b lx ly, (plinC a b hx' hy').map some, sl) := by
  obtain ⟨sx, ex⟩ := dtcwt_forward_eq_ref s h0o h1o h0a h0b h1a h1b hh0o hh1o hl0 hab0 hl1 hab1 n incl x H W hH hW hx
  obtain ⟨sy, ey⟩ := dtcwt_forward_eq_ref s h0o h1o h0a h0b h1a h1b hh0o hh1o hl0 hab0 hl1 hab1 n incl y H W hH hW hy
  obtain ⟨sl, el⟩ := dtcwt_forward_eq_ref s h0o h1o h0a h0b h1a h1b hh0o hh1o hl0 hab0 hl1 hab1 n incl _ H W hH hW (ilin_rect a b x y H W hx)
  refine ⟨_, _, sx, _, _, sy, sl, ex, ey, ?_⟩
  rw [el, refForward_linear s h0o h1o h0a h0b h1a h1b (by omega) a b n x y H W hx hy hH hW]

/-- the shape hypothesis `Rect x H W` (with `1 ≤ H`, `1 ≤ W`) of `DTCWTForward_linear` is satisfiable: a 3 × 5 image (odd sizes, extended by the transform) -/
example : Rect ([[1, 2, 3, 4, 5], [6, 7, 8, 9, 10], [11, 12, 13, 14, 15]] : Img Int) 3 5 := by constructor <;> simp

end WV.C07T
