/-
  C03 — the forward DTCWT of the implementation model IS the reference pyramid, for every number of levels ≥ 1 and
  every image size ≥ 1 × 1 (`mode='symmetric'`, no level of `skip_hps`, level-1 filters of odd length, q-shift filters
  of pairwise equal lengths ≥ 1; the `include_scale` outputs are not compared).

  The reference (`dtcwt.numpy.Transform2d.forward`, written out as `Spec.refForward`) filters columns first and then
  rows; the library filters rows first.  Both orders give the same image because every stage is a gather-linear
  column operator (`GL`: each output sample is a fixed linear combination of input samples at positions that depend on
  the length only), and a gather-linear operator along the columns commutes with one along the rows (`alongH_alongW_comm`).
  With the one-dimensional refinements of C03 (`colfilter1_eq_ref`, `coldfilt1_eq_ref`) this gives, by induction over
  the levels, `DTCWTForward = refForward` (`dtcwt_forward_eq_ref`): same low-pass, same six complex bands per level,
  same shapes — odd sizes, sizes that are not multiples of 4, images smaller than the filters included.
-/
import WaveletsVerif.Properties.C04P
import WaveletsVerif.Lemmas.GLAlg
namespace WV.C03P
open Finset WV WV.C04 WV.C04Q WV.C04P
variable {R : Type} [CommRing R]

theorem GL.length {F : List R → List R} {nin nout : Nat} (h : GL F nin nout) (c : List R) (hc : c.length = nin) :
    (F c).length = nout := by
  obtain ⟨K, coef, idx, _, hF⟩ := h
  rw [hF c hc, length_tab]

theorem alongH_alongW_comm (F G : List R → List R) (H H' W W' : Nat) (hF : GL F H H') (hG : GL G W W')
    (x : Img R) (hx : Rect x H W) (hH : 1 ≤ H) (hW : 1 ≤ W) (hH' : 1 ≤ H') (hW' : 1 ≤ W') :
    alongH F (alongW G x) = alongW G (alongH F x) := by
  have lF := fun c hc => GL.length hF c hc
  have lG := fun c hc => GL.length hG c hc
  obtain ⟨KF, cF, iF, hiF, eF⟩ := hF
  obtain ⟨KG, cG, iG, hiG, eG⟩ := hG
  have hrow := row_length x H W hx
  rw [alongW_tab2 G x H W W' hx lG]
  rw [alongH_tab2 F _ H H' W' (tab2_rect H W' _) hH hW' lF]
  rw [alongH_tab2 F x H H' W hx hH hW lF]
  rw [alongW_tab2 G _ H' W W' (tab2_rect H' W _) lG]
  apply tab2_congr; intro i hi l hl
  -- left: F on column l of the row-filtered image
  rw [col_tab2 H W' _ l hl, eF _ (by simp), getN_tab, if_pos hi]
  -- right: G on row i of the column-filtered image
  rw [getD_tab2_row H' W _ i hi, eG _ (by simp), getN_tab, if_pos hl]
  have eL : ∀ j ∈ range KF, cF i j * getN (tab H fun i' => getN (G (x.getD i' [])) l) (iF i j)
      = ∑ k ∈ range KG, cF i j * (cG l k * get2 x (iF i j) (iG l k)) := by
    intro j hj
    have hj' : j < KF := by simpa using hj
    rw [getN_tab, if_pos (hiF i hi j hj'), eG _ (hrow _ (hiF i hi j hj')), getN_tab, if_pos hl, Finset.mul_sum]
    rfl
  have eR : ∀ k ∈ range KG, cG l k * getN (tab W fun l' => getN (F (col x l')) i) (iG l k)
      = ∑ j ∈ range KF, cG l k * (cF i j * get2 x (iF i j) (iG l k)) := by
    intro k hk
    have hk' : k < KG := by simpa using hk
    have hcl : (col x (iG l k)).length = H := by rw [col_length, hx.1]
    rw [getN_tab, if_pos (hiG l hl k hk'), eF _ hcl, getN_tab, if_pos hi, Finset.mul_sum]
    apply Finset.sum_congr rfl; intro j hj
    have hj' : j < KF := by simpa using hj
    rw [get2_eq_getN_col x H W hx _ _ (hiF i hi j hj')]
  rw [Finset.sum_congr rfl eL, Finset.sum_congr rfl eR, Finset.sum_comm]
  apply Finset.sum_congr rfl; intro k _
  apply Finset.sum_congr rfl; intro j _
  ring

/-! ### the reference stages are gather-linear -/

theorem xt_eq_getN (c : List R) (hc : 1 ≤ c.length) (v : Int) :
    Spec.xt c v = getN c (symIdx (c.length:Int) v).toNat := by
  unfold Spec.xt
  have hr := symIdx_range (c.length:Int) v (by omega)
  rw [getN_eq_getZ]
  congr 1; omega

/-- an operator whose output samples are fixed linear combinations of samples of the symmetric extension of its
input is gather-linear -/
theorem GL_of_xt (F : List R → List R) (n m K : Nat) (hn : 1 ≤ n) (coef : Nat → Nat → R) (pos : Nat → Nat → Int)
    (hF : ∀ c : List R, c.length = n → F c = tab m fun i => ∑ j ∈ range K, coef i j * Spec.xt c (pos i j)) :
    GL F n m := by
  refine ⟨K, coef, fun i j => (symIdx (n:Int) (pos i j)).toNat, ?_, ?_⟩
  · intro i _ j _
    have hr := symIdx_range (n:Int) (pos i j) (by omega)
    dsimp only
    omega
  · intro c hc
    rw [hF c hc]
    apply tab_ext rfl
    intro i _
    apply Finset.sum_congr rfl; intro j _
    rw [xt_eq_getN c (by omega), hc]

theorem GL_colfilter (h : List R) (hodd : h.length % 2 = 1) (n : Nat) (hn : 1 ≤ n) : GL (Spec.colfilter h) n n :=
  GL_of_xt _ n n h.length hn (fun _ j => getN h j) (fun i j => (i:Int) + ((h.length/2 : Nat):Int) - (j:Int))
    (fun c hc => by rw [colfilter_eq_tab h c hodd, hc])

theorem GL_coldfilt (ha hb : List R) (hp : Bool) (n : Nat) (hn4 : n % 4 = 0) (hn : 1 ≤ n) :
    GL (Spec.coldfilt ha hb hp) n (n/2) := by
  refine GL_of_xt _ n (n/2) ha.length hn
    (fun i j => if i % 2 = 0 then (if hp then getN hb (ha.length - 1 - j) else getN ha (ha.length - 1 - j))
                else (if hp then getN ha (ha.length - 1 - j) else getN hb (ha.length - 1 - j)))
    (fun i j => 4*((i/2 : Nat):Int) + 2*(j:Int) + (if (i % 2 = 0) = (hp = false) then 2 else 3) - (ha.length:Int)) ?_
  intro c hc
  unfold Spec.coldfilt
  rw [hc]
  apply tab_ext rfl
  intro i _
  simp only [sumN_eq]
  -- tree a reads the samples of phase 2, tree b those of phase 3; `highpass` exchanges the trees
  by_cases hpar : i % 2 = 0
  · cases hp
    · simp only [hpar, if_true, Bool.false_eq_true, if_false]
    · simp only [hpar, if_true, Bool.true_eq_false, eq_iff_iff, iff_false, not_true_eq_false, if_false]
  · cases hp
    · simp only [hpar, if_false, Bool.false_eq_true, eq_iff_iff, iff_true]
    · simp only [hpar, if_false, if_true, Bool.true_eq_false]

/-- `Dg ha hb hp` = `coldfilt(·, ha, hb, hp)` of dtcwt/lowlevel.py on one column, in the reference form `Spec.coldfilt`,
with two independent trees `ha`, `hb` (`C04Q.Dd h` is `Dg h h.reverse`) -/
abbrev Dg (ha hb : List R) (hp : Bool) : List R → List R := Spec.coldfilt ha hb hp

theorem Cf_comm (f g : List R) (hf : f.length % 2 = 1) (hg : g.length % 2 = 1) (x : Img R) (a b : Nat) (ha : 1 ≤ a) (hb : 1 ≤ b)
    (hx : Rect x (2*a) (2*b)) : alongH (Cf f) (alongW (Cf g) x) = alongW (Cf g) (alongH (Cf f) x) := by
  have h2a : 1 ≤ 2*a := by omega
  have h2b : 1 ≤ 2*b := by omega
  exact alongH_alongW_comm (Cf f) (Cf g) (2*a) (2*a) (2*b) (2*b) (GL_colfilter f hf _ h2a) (GL_colfilter g hg _ h2b) x hx h2a h2b h2a h2b

theorem Dg_comm (fa fb : List R) (fp : Bool) (ga gb : List R) (gp : Bool) (x : Img R) (a b : Nat) (ha : 1 ≤ a) (hb : 1 ≤ b)
    (hx : Rect x (4*a) (4*b)) :
    alongH (Dg fa fb fp) (alongW (Dg ga gb gp) x) = alongW (Dg ga gb gp) (alongH (Dg fa fb fp) x) := by
  have h4a : 1 ≤ 4*a := by omega
  have h4b : 1 ≤ 4*b := by omega
  have gF := GL_coldfilt fa fb fp (4*a) (Nat.mul_mod_right 4 a) h4a
  have gG := GL_coldfilt ga gb gp (4*b) (Nat.mul_mod_right 4 b) h4b
  rw [show 4*a / 2 = 2*a by omega] at gF
  rw [show 4*b / 2 = 2*b by omega] at gG
  exact alongH_alongW_comm (Dg fa fb fp) (Dg ga gb gp) (4*a) (2*a) (4*b) (2*b) gF gG x hx h4a h4b (by omega) (by omega)

/-- level 1 of the model is level 1 of the reference (rows-then-columns = columns-then-rows) -/
theorem fwdJ1_eq_ref (s : R) (h0 h1 : List R) (hh0 : h0.length % 2 = 1) (hh1 : h1.length % 2 = 1) (x : Img R) (a b : Nat)
    (ha : 1 ≤ a) (hb : 1 ≤ b) (hx : Rect x (2*a) (2*b)) :
    fwdJ1 s true (prepFilt h0) (prepFilt h1) false x
      = ((Spec.refLevel1 s h0 h1 x).1, some (Spec.refLevel1 s h0 h1 x).2) := by
  rw [fwdJ1_eq s h0 h1 hh0 hh1 x (2*a) (2*b) (by omega) (by omega) hx, Cf_comm h0 h0 hh0 hh0 x a b ha hb hx,
    Cf_comm h1 h0 hh1 hh0 x a b ha hb hx, Cf_comm h0 h1 hh0 hh1 x a b ha hb hx, Cf_comm h1 h1 hh1 hh1 x a b ha hb hx]
  rfl

theorem fwdJ2_eq_ref (s : R) (h0a h0b h1a h1b : List R) (hl0 : 1 ≤ h0b.length) (hab0 : h0a.length = h0b.length)
    (hl1 : 1 ≤ h1b.length) (hab1 : h1a.length = h1b.length) (x : Img R) (a b : Nat) (ha : 1 ≤ a) (hb : 1 ≤ b)
    (hx : Rect x (4*a) (4*b)) :
    fwdJ2 s (prepFilt h0a) (prepFilt h1a) (prepFilt h0b) (prepFilt h1b) false x
      = some ((Spec.refLevel2 s h0a h0b h1a h1b x).1, some (Spec.refLevel2 s h0a h0b h1a h1b x).2) := by
  rw [fwdJ2_eq s h0a h0b h1a h1b hl0 hab0 hl1 hab1 x a b ha hb hx, Dg_comm h0b h0a false h0b h0a false x a b ha hb hx,
    Dg_comm h1b h1a true h0b h0a false x a b ha hb hx, Dg_comm h0b h0a false h1b h1a true x a b ha hb hx,
    Dg_comm h1b h1a true h1b h1a true x a b ha hb hx]
  rfl

theorem refLevel2_rect (s : R) (h0a h0b h1a h1b : List R) (x : Img R) (a b : Nat) (ha : 1 ≤ a) (hb : 1 ≤ b)
    (hx : Rect x (4*a) (4*b)) : Rect (Spec.refLevel2 s h0a h0b h1a h1b x).1 (2*a) (2*b) := by
  unfold Spec.refLevel2
  simp only
  have hx' : Rect x (2*(2*a)) (4*b) := by rw [show 2*(2*a) = 4*a by ring]; exact hx
  have r1 : Rect (alongH (Dg h0b h0a false) x) (2*a) (4*b) := coldfilt_alongH_rect _ _ _ x _ _ hx' (by omega) (by omega)
  have r1' : Rect (alongH (Dg h0b h0a false) x) (2*a) (2*(2*b)) := by rw [show 2*(2*b) = 4*b by ring]; exact r1
  exact coldfilt_alongW_rect _ _ _ _ _ _ r1'

theorem refLevel1_rect (s : R) (h0 h1 : List R) (hh0 : h0.length % 2 = 1) (x : Img R) (a b : Nat) (ha : 1 ≤ a) (hb : 1 ≤ b)
    (hx : Rect x (2*a) (2*b)) : Rect (Spec.refLevel1 s h0 h1 x).1 (2*a) (2*b) := by
  unfold Spec.refLevel1
  simp only
  exact alongW_rect h0 hh0 _ _ _ (alongH_rect h0 hh0 x _ _ hx (by omega) (by omega))

def mkFg (h0o h1o h0a h0b h1a h1b : List R) : FwdFilters R :=
  { h0o := prepFilt h0o, h1o := prepFilt h1o, h0a := prepFilt h0a, h0b := prepFilt h0b, h1a := prepFilt h1a, h1b := prepFilt h1b }

theorem loop_eq_ref (s : R) (h0o h1o h0a h0b h1a h1b : List R) (hl0 : 1 ≤ h0b.length) (hab0 : h0a.length = h0b.length)
    (hl1 : 1 ≤ h1b.length) (hab1 : h1a.length = h1b.length) :
    ∀ (n : Nat) (incl : List Bool) (low : Img R) (a b : Nat), 1 ≤ a → 1 ≤ b → Rect low (2*a) (2*b) →
      ∃ scs, dtcwtFwdLoop s (mkFg h0o h1o h0a h0b h1a h1b) (List.replicate n false) incl low
        = some ((Spec.refLoop s h0a h0b h1a h1b n low).1, (Spec.refLoop s h0a h0b h1a h1b n low).2.map some, scs) := by
  intro n
  induction n with
  | zero => intro incl low a b _ _ _; exact ⟨[], by simp [dtcwtFwdLoop, Spec.refLoop]⟩
  | succ n ih =>
    intro incl low a b ha hb hx
    have re := extendMult4_rect_even low a b ha hb hx
    have hf := fwdJ2_eq_ref s h0a h0b h1a h1b hl0 hab0 hl1 hab1 (extendMult4 low) ((a+1)/2) ((b+1)/2) (half_up_pos ha) (half_up_pos hb) re
    have rl := refLevel2_rect s h0a h0b h1a h1b (extendMult4 low) ((a+1)/2) ((b+1)/2) (half_up_pos ha) (half_up_pos hb) re
    obtain ⟨scs, hloop⟩ := ih (incl.drop 1) _ ((a+1)/2) ((b+1)/2) (half_up_pos ha) (half_up_pos hb) rl
    refine ⟨(if incl.headD false then some (Spec.refLevel2 s h0a h0b h1a h1b (extendMult4 low)).1 else none) :: scs, ?_⟩
    rw [List.replicate_succ]
    exact dtcwtFwdLoop_cons_of s (mkFg h0o h1o h0a h0b h1a h1b) false _ incl low _ _ _ _ scs hf hloop

/-- the forward DTCWT of the implementation model is the reference pyramid: same final low-pass, same six complex
bands at every level (finest first), for every number of levels `n+1 ≥ 1` and every image with at least one row and one
column; level-1 filters of odd length, q-shift filters of any (pairwise equal) lengths.
What the statement has: `sym = true` (`mode='symmetric'`) and `skips = replicate (n+1) false` (no level of `skip_hps`)
are fixed; `incl` (`include_scale`) is arbitrary, and the returned scales are only `∃ scs` — they are not compared with
the reference. -/
theorem dtcwt_forward_eq_ref (s : R) (h0o h1o h0a h0b h1a h1b : List R) (hh0o : h0o.length % 2 = 1) (hh1o : h1o.length % 2 = 1)
    (hl0 : 1 ≤ h0b.length) (hab0 : h0a.length = h0b.length) (hl1 : 1 ≤ h1b.length) (hab1 : h1a.length = h1b.length)
    (n : Nat) (incl : List Bool) (x : Img R) (H W : Nat) (hH : 1 ≤ H) (hW : 1 ≤ W) (hx : Rect x H W) :
    ∃ scs, DTCWTForward s true (mkFg h0o h1o h0a h0b h1a h1b) (List.replicate (n+1) false) incl x
      = some ((Spec.refForward s h0o h1o h0a h0b h1a h1b n x).1,
              (Spec.refForward s h0o h1o h0a h0b h1a h1b n x).2.map some, scs) := by
  have rxe := extendEven_rect_even x H W hx hH hW
  have h1 := fwdJ1_eq_ref s h0o h1o hh0o hh1o (extendEven x) ((H+1)/2) ((W+1)/2) (half_up_pos hH) (half_up_pos hW) rxe
  have r1 := refLevel1_rect s h0o h1o hh0o (extendEven x) ((H+1)/2) ((W+1)/2) (half_up_pos hH) (half_up_pos hW) rxe
  obtain ⟨scs, hloop⟩ := loop_eq_ref s h0o h1o h0a h0b h1a h1b hl0 hab0 hl1 hab1 n (incl.drop 1) _ _ _ (half_up_pos hH) (half_up_pos hW) r1
  refine ⟨(if incl.headD false then some (Spec.refLevel1 s h0o h1o (extendEven x)).1 else none) :: scs, ?_⟩
  rw [List.replicate_succ]
  exact DTCWTForward_cons_of s true (mkFg h0o h1o h0a h0b h1a h1b) false _ incl x _ _ _ _ scs h1 hloop

end WV.C03P
