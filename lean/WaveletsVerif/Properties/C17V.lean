/-
  C17 — "it preserves inner products": for an orthonormal bank in periodization mode, whenever every level's input length is even
  and at least the filter length, the J-level 1-D transform (one channel) preserves the inner product of ANY two signals of one
  length `N ≥ 1`,
      `⟨DWT1DForward x, DWT1DForward z⟩ = ⟨x, z⟩`      (`DWT1D_preserves_inner`; energy, `C17J.DWT1D_isometry`, is the case `z = x`).

  Proof: the inverse is the transpose for any filters (`C17U.DWT1D_inverse_is_transpose`, with the cotangent pyramid `P := DWT1DForward z`,
  which has forward shapes: `forward_shapes`), and for an orthonormal bank the inverse undoes the forward transform
  (`C02Q.DWT1D_roundtrip_per` with the reversed filters as synthesis bank): `⟨T x, T z⟩ = ⟨x, Tᵀ T z⟩ = ⟨x, z⟩`.
-/
import WaveletsVerif.Properties.C17U
import WaveletsVerif.Properties.C02Q
namespace WV.C17V
open Finset WV WV.C05U WV.C17J WV.C17U
variable {R : Type} [CommRing R]

/-- the output pyramid of the forward transform has forward shapes (whenever one level returns with the lengths `K`) -/
theorem forward_shapes (m : Mode) (w0 w1 : List R) (Lvl : Nat → Prop) (K : Nat → Nat) (hA : LevelAdj m w0 w1 Lvl K) :
    ∀ (J : Nat) (x : List R), LvlsOK Lvl K J x.length →
      ∃ yl ds, DWT1DForward m w0 w1 J [x] = some ([yl], ds.map fun d => [d]) ∧ PyrOK1 K J x.length yl ds
  | 0, x, _ => ⟨x, [], by simp [DWT1DForward], by simp [PyrOK1]⟩
  | J+1, x, hok => by
    obtain ⟨hl, hokr⟩ := hok
    obtain ⟨lo, hi, e0, e1, llo, lhi, _⟩ := hA x hl
    rw [← llo] at hokr
    obtain ⟨yl, ds, hf, hp⟩ := forward_shapes m w0 w1 Lvl K hA J lo hokr
    refine ⟨yl, hi :: ds, ?_, ⟨lhi, by rw [← llo]; exact hp⟩⟩
    simp only [DWT1DForward]
    rw [AFB1D_forward_one m w0 w1 x lo hi e0 e1]
    simp only [Option.bind_eq_bind, Option.bind_some]
    rw [hf]
    simp

theorem fit_of_levelsOK (L : Nat) : ∀ (J N : Nat), LevelsOK L J N → C02Q.LevelsFit1 L J N
  | 0, _, _ => trivial
  | J+1, N, ⟨he, hl, hr⟩ => by
    obtain ⟨e, hf⟩ : (N + N % 2) / 2 = N / 2 ∧ L ≤ N + N % 2 := by omega
    exact ⟨hf, by rw [e]; exact fit_of_levelsOK L J _ hr⟩

/-- the J-level 1-D transform with an orthonormal bank preserves inner products (one channel, periodization, two signals of one
length `≥ 1`, every level of even length not shorter than the filters): the pairing of the two output pyramids — low-pass with low-pass, every band-pass level with the same
level — equals the inner product of the two signals -/
theorem DWT1D_preserves_inner (h0 h1 : List R) (hL : 2 ≤ h0.length) (hLe : h0.length % 2 = 0) (hh1 : h1.length = h0.length)
    (horth : PRBank h0 h1 h0.reverse h1.reverse) (J : Nat) (x z : List R) (hxz : z.length = x.length) (hN : 1 ≤ x.length)
    (hok : LevelsOK h0.length J x.length) :
    ∃ yl yh zl zs, DWT1DForward .periodization h0.reverse h1.reverse J [x] = some ([yl], yh) ∧
      DWT1DForward .periodization h0.reverse h1.reverse J [z] = some ([zl], zs.map fun d => [d]) ∧
      pdot1 yl yh zl zs = dotN x.length x z := by
  have hokz : LevelsOK h0.length J z.length := by rw [hxz]; exact hok
  obtain ⟨zl, zs, hfz, hpz⟩ := forward_shapes .periodization h0.reverse h1.reverse _ _ (levelAdj_per h0 h1 hL hLe hh1) J z
    (lvls_of_levelsOK h0.length hL J _ hokz)
  rw [hxz] at hpz
  obtain ⟨yl, yh, y, hfx, hi, ly, hd⟩ := DWT1D_inverse_is_transpose h0 h1 hL hLe hh1 J x zl zs hok hpz
  obtain ⟨zl', zh', y', hf', hi', htake, _⟩ := C02Q.DWT1D_roundtrip_per h0 h1 h0.reverse h1.reverse hL hLe hh1 (by simp) (by simp [hh1]) horth J z
    (by omega) (fit_of_levelsOK h0.length J _ hokz)
  have hf'' : DWT1DForward .periodization h0.reverse h1.reverse J [z] = some (zl', zh') := hf'
  rw [hfz] at hf''
  simp only [Option.some.injEq, Prod.mk.injEq] at hf''
  obtain ⟨e1, e2⟩ := hf''
  subst e1 e2
  rw [List.map_map] at hi'
  have hy : some [y] = some [y'] := by
    rw [← hi, ← hi']
    congr 1
  have hyy : y = y' := by simpa using hy
  subst hyy
  have hyz : y = z := by
    rw [← htake, hxz, ← ly, List.take_length]
  refine ⟨yl, yh, zl, zs, hfx, hfz, ?_⟩
  rw [hd, hyz]

/-- the hypothesis `LevelsOK` of `DWT1D_preserves_inner` holds for 4 taps, two levels, length 8; the orthonormality hypothesis is
met by the delayed lazy wavelet `h0 = (0,1,0,0)`, `h1 = (0,0,1,0)` (example in `C17`) -/
example : LevelsOK 4 2 8 := by simp [LevelsOK]

end WV.C17V
