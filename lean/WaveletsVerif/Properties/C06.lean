/-
  C06 — DTCWT back-propagation is the exact adjoint: level 1 (`FWD_J1.backward`, `INV_J1.backward` of
  dtcwt/transform_funcs.py), symmetric mode, even-sized images.

  * `q2c` and `c2q` are mutual adjoints (inner-product identity over every block
    image): this is why `FWD_*.backward` may use `c2q` where the forward used `q2c`
    and vice versa — no hypothesis on `s` is needed.
  * the backward passes are *by definition of the code* the opposite transform run
    with the same buffers (level 1) or with the two trees exchanged (level ≥ 2);
    that these equal the adjoint needs identities of the filters, hypotheses of the theorems:
    `h` symmetric (`Symm`) at level 1, `hb = reverse ha` at level ≥ 2 (C18 checks them on the shipped tables,
    the level-1 symmetry up to 2^-40, the reversal exactly, the two tables of `C18.notQshift` excepted).
  * level 1: `colfilter` with a symmetric odd-length filter is self-adjoint (its matrix `Kf` on the symmetric
    extension is symmetric); `level_adjoint` carries one analysis / synthesis level across the inner product,
    `bands_adjoint` the six bands.  Results: `fwdJ1_backward_adjoint`, `INV_J1_backward_adjoint`.
  Level ≥ 2 (`fwdJ2_backward_adjoint`) is in C06Q, the pyramid in C06J – C06M.
-/
import WaveletsVerif.Lemmas.Img
import WaveletsVerif.Model.Dtcwt
import WaveletsVerif.Properties.C04
namespace WV.C06
open Finset WV WV.C04
variable {R : Type} [CommRing R]

theorem q2c_tab2 (s : R) (h w : Nat) (hh : 0 < h) (f : Nat → Nat → R) :
    q2c s (tab2 (2*h) (2*w) f)
      = ((tab2 h w fun i j => s * f (2*i) (2*j) - s * f (2*i+1) (2*j+1),
          tab2 h w fun i j => s * f (2*i) (2*j+1) + s * f (2*i+1) (2*j)),
         (tab2 h w fun i j => s * f (2*i) (2*j) + s * f (2*i+1) (2*j+1),
          tab2 h w fun i j => s * f (2*i) (2*j+1) - s * f (2*i+1) (2*j))) := by
  have hH : (tab2 (2*h) (2*w) f).length = 2*h := length_tab2 _ _ _
  have hW : (tab2 (2*h) (2*w) f).width = 2*w := width_tab2 _ _ _ (by omega)
  have g : ∀ a b, a < 2*h → b < 2*w → get2 (tab2 (2*h) (2*w) f) a b = f a b := get2_tab2 _ _ f
  unfold q2c
  simp only [hH, hW, Nat.mul_div_cancel_left _ Nat.zero_lt_two]
  refine Prod.ext (Prod.ext ?_ ?_) (Prod.ext ?_ ?_)
  all_goals
    refine tab2_congr _ _ _ _ fun i hi j hj => ?_
    rw [g _ _ (by omega) (by omega), g _ _ (by omega) (by omega)]

theorem c2q_tab2 (s : R) (h w : Nat) (hh : 0 < h) (a1 b1 a2 b2 : Nat → Nat → R) :
    c2q s (tab2 h w a1, tab2 h w b1) (tab2 h w a2, tab2 h w b2)
      = tab2 (2*h) (2*w) fun i j =>
          s * (if i % 2 = 0 then
                (if j % 2 = 0 then a1 (i/2) (j/2) + a2 (i/2) (j/2) else b1 (i/2) (j/2) + b2 (i/2) (j/2))
               else
                (if j % 2 = 0 then b1 (i/2) (j/2) - b2 (i/2) (j/2) else -(a1 (i/2) (j/2)) + a2 (i/2) (j/2))) := by
  have hl : (tab2 h w a1).length = h := length_tab2 _ _ _
  unfold c2q
  simp only [hl, width_tab2 h w a1 hh]
  refine tab2_congr _ _ _ _ fun i hi j hj => ?_
  have hp : i / 2 < h := by omega
  have hq : j / 2 < w := by omega
  rw [get2_tab2 h w a1 _ _ hp hq, get2_tab2 h w b1 _ _ hp hq, get2_tab2 h w a2 _ _ hp hq, get2_tab2 h w b2 _ _ hp hq]

/-- `⟨q2c y, (w1, w2)⟩ = ⟨y, c2q(w1, w2)⟩` for every `2h×2w` image `y` and every pair of complex
`h×w` sub-images: `q2c` and `c2q` are mutual adjoints. -/
theorem q2c_c2q_adjoint (s : R) (h w : Nat) (hh : 0 < h) (f : Nat → Nat → R)
    (a1 b1 a2 b2 : Nat → Nat → R) :
    let y := tab2 (2*h) (2*w) f
    let w1 : Cplx R := (tab2 h w a1, tab2 h w b1)
    let w2 : Cplx R := (tab2 h w a2, tab2 h w b2)
    dot2 h w (q2c s y).1.1 w1.1 + dot2 h w (q2c s y).1.2 w1.2 + dot2 h w (q2c s y).2.1 w2.1 + dot2 h w (q2c s y).2.2 w2.2
      = dot2 (2*h) (2*w) y (c2q s w1 w2) := by
  intro y w1 w2
  simp only [y, w1, w2, q2c_tab2 s h w hh f, c2q_tab2 s h w hh, dot2_tab2]
  -- both sides block by block: the `2 × 2` block `(p, q)` of `y` against the entries `(p, q)` of the four parts
  rw [sum_range_two_mul]
  simp only [← Finset.sum_add_distrib]
  apply Finset.sum_congr rfl; intro p _
  rw [sum_range_two_mul]
  apply Finset.sum_congr rfl; intro q _
  have d2 : (2*p+1) / 2 = p := by omega
  have d4 : (2*q+1) / 2 = q := by omega
  simp only [Nat.mul_mod_right, Nat.mul_add_mod, Nat.one_mod, Nat.one_ne_zero, if_true, if_false,
    Nat.mul_div_cancel_left _ Nat.zero_lt_two, d2, d4]
  ring

theorem FWD_J1_backward_def (s : R) (sym : Bool) (h0 h1 : List R) (rc : Nat × Nat) (dl : Img R)
    (dh : Option (List (Cplx R))) :
    FWD_J1_backward s sym h0 h1 rc dl dh = invJ1 s sym h0 h1 rc (some dl) dh := rfl

theorem FWD_J2PLUS_backward_def (s : R) (h0a h1a h0b h1b : List R) (dl : Img R) (dh : Option (List (Cplx R))) :
    FWD_J2PLUS_backward s h0a h1a h0b h1b dl dh = invJ2 s h0b h1b h0a h1a (some dl) dh := rfl

/-- symmetric tap function `c(d) = h[m − d]`, `d ∈ [−m, m]` -/
def tapc (h : List R) (d : Int) : R := getZ h (((h.length/2 : Nat):Int) - d)

theorem tapc_even (h : List R) (hodd : h.length % 2 = 1) (hs : Symm h) (d : Int) : tapc h (-d) = tapc h d := by
  unfold tapc
  set m : Int := ((h.length/2 : Nat):Int) with hm
  have hL : (h.length:Int) = 2*m + 1 := by omega
  by_cases hin : -m ≤ d ∧ d ≤ m
  · have h1 : m - -d = ((h.length - 1 - (m - d).toNat : Nat) : Int) := by omega
    have h2 : m - d = (((m - d).toNat : Nat) : Int) := by omega
    rw [h1, h2, ← getN_eq_getZ, ← getN_eq_getZ]
    exact hs _ (by omega)
  · rw [getZ_outside h (m - -d) (by omega), getZ_outside h (m - d) (by omega)]

theorem colfilter_get_c (h x : List R) (hodd : h.length % 2 = 1) (i : Nat) (hi : i < x.length) :
    getN (Spec.colfilter h x) i
      = ∑ d ∈ Finset.Icc (-((h.length/2 : Nat):Int)) ((h.length/2 : Nat):Int), tapc h d * Spec.xt x ((i:Int) + d) := by
  rw [colfilter_get h x hodd i hi]
  set m : Int := ((h.length/2 : Nat):Int) with hm
  have hL : (h.length:Int) = 2*m + 1 := by omega
  apply Finset.sum_bij' (fun (j : Nat) _ => m - (j:Int)) (fun (d : Int) _ => (m - d).toNat)
  · intro j hj; have : j < h.length := by simpa using hj
    rw [Finset.mem_Icc]; omega
  · intro d hd; rw [Finset.mem_Icc] at hd; rw [Finset.mem_range]; omega
  · intro j hj; have : j < h.length := by simpa using hj
    show (m - (m - (j:Int))).toNat = j; omega
  · intro d hd; rw [Finset.mem_Icc] at hd; show m - (((m - d).toNat : Nat) : Int) = d; omega
  · intro j hj; have hj' : j < h.length := by simpa using hj
    unfold tapc
    have : m - (m - (j:Int)) = (j:Int) := by ring
    rw [this, ← getN_eq_getZ]
    congr 2; ring

theorem symIdx_eq_iff (n u k : Int) (hn : 0 < n) (hk0 : 0 ≤ k) (hk1 : k < n) :
    symIdx n u = k ↔ ((2*n) ∣ (u - k) ∨ (2*n) ∣ (u + 1 + k)) := by
  constructor
  · intro h
    rcases symIdx_cases n u hn with ⟨q, hq⟩ | ⟨q, hq⟩
    · left; exact ⟨-q, by rw [mul_neg]; omega⟩
    · right; exact ⟨q, by omega⟩
  · rintro (⟨q, hq⟩ | ⟨q, hq⟩)
    · have hu : u = k + 2*n*q := by omega
      have : u % (2*n) = k := by
        rw [hu, Int.add_mul_emod_self_left]; exact Int.emod_eq_of_lt hk0 (by omega)
      unfold symIdx; simp only [this, hk1, if_true]
    · have hu : u = (2*n - 1 - k) + 2*n*(q-1) := by rw [mul_sub, mul_one]; omega
      have : u % (2*n) = 2*n - 1 - k := by
        rw [hu, Int.add_mul_emod_self_left]; exact Int.emod_eq_of_lt (by omega) (by omega)
      unfold symIdx; simp only [this]
      rw [if_neg (by omega)]; omega

theorem not_both (n u k : Int) (hn : 0 < n) : ¬ ((2*n) ∣ (u - k) ∧ (2*n) ∣ (u + 1 + k)) := by
  rintro ⟨⟨a, ha⟩, ⟨b, hb⟩⟩
  have : 2 * k + 1 = 2 * n * (b - a) := by linarith
  have h2 : (2 * k + 1) % 2 = 1 := by omega
  have h3 : (2 * n * (b - a)) % 2 = 0 := by
    rw [mul_assoc]; exact Int.mul_emod_right 2 _
  omega

/-- matrix entry of `colfilter h` on columns of length `n`: `K(i,k) = Σ_d c(d)·[sym(i+d) = k]` -/
def Kf (h : List R) (n : Nat) (i k : Nat) : R :=
  ∑ d ∈ Finset.Icc (-((h.length/2 : Nat):Int)) ((h.length/2 : Nat):Int),
    tapc h d * (if symIdx (n:Int) ((i:Int) + d) = (k:Int) then 1 else 0)

theorem sum_Icc_neg (m : Int) (f : Int → R) : ∑ d ∈ Finset.Icc (-m) m, f d = ∑ d ∈ Finset.Icc (-m) m, f (-d) := by
  apply Finset.sum_bij' (fun d _ => -d) (fun d _ => -d)
  · intro d _; exact neg_neg d
  · intro d _; exact neg_neg d
  · intro d _; rw [neg_neg]
  · intro d hd; rw [Finset.mem_Icc] at hd ⊢; omega
  · intro d hd; rw [Finset.mem_Icc] at hd ⊢; omega

theorem Kf_symm (h : List R) (hodd : h.length % 2 = 1) (hs : Symm h) (n i k : Nat) (hi : i < n) (hk : k < n) :
    Kf h n i k = Kf h n k i := by
  have hn : (0:Int) < n := by omega
  have split : ∀ (a b : Nat), a < n → b < n → Kf h n a b
      = (∑ d ∈ Finset.Icc (-((h.length/2 : Nat):Int)) ((h.length/2 : Nat):Int), tapc h d * (if (2*(n:Int)) ∣ ((a:Int) + d - b) then 1 else 0))
      + (∑ d ∈ Finset.Icc (-((h.length/2 : Nat):Int)) ((h.length/2 : Nat):Int), tapc h d * (if (2*(n:Int)) ∣ ((a:Int) + d + 1 + b) then 1 else 0)) := by
    intro a b ha hb
    unfold Kf
    rw [← Finset.sum_add_distrib]
    apply Finset.sum_congr rfl; intro d _
    rw [← mul_add]
    congr 1
    have hiff := symIdx_eq_iff (n:Int) ((a:Int) + d) (b:Int) hn (by omega) (by omega)
    have hnb := not_both (n:Int) ((a:Int) + d) (b:Int) hn
    by_cases h1 : (2*(n:Int)) ∣ ((a:Int) + d - b)
    · have h2 : ¬ (2*(n:Int)) ∣ ((a:Int) + d + 1 + b) := fun h2 => hnb ⟨h1, h2⟩
      rw [if_pos (hiff.mpr (Or.inl h1)), if_pos h1, if_neg h2]; ring
    · by_cases h2 : (2*(n:Int)) ∣ ((a:Int) + d + 1 + b)
      · rw [if_pos (hiff.mpr (Or.inr h2)), if_neg h1, if_pos h2]; ring
      · rw [if_neg (fun hc => (hiff.mp hc).elim h1 h2), if_neg h1, if_neg h2]; ring
  rw [split i k hi hk, split k i hk hi]
  congr 1
  · rw [sum_Icc_neg _ (fun d => tapc h d * (if (2*(n:Int)) ∣ ((k:Int) + d - i) then 1 else 0))]
    apply Finset.sum_congr rfl; intro d _
    rw [tapc_even h hodd hs]
    congr 1
    have e : (k:Int) + -d - i = -((i:Int) + d - k) := by ring
    rw [e]
    by_cases h1 : (2*(n:Int)) ∣ ((i:Int) + d - k)
    · rw [if_pos h1, if_pos ((dvd_neg).mpr h1)]
    · rw [if_neg h1, if_neg (fun hc => h1 ((dvd_neg).mp hc))]
  · apply Finset.sum_congr rfl; intro d _
    have e : (i:Int) + d + 1 + k = (k:Int) + d + 1 + i := by ring
    rw [e]

/-- `colfilter` with a symmetric odd-length filter is self-adjoint on columns of any length `n ≥ 1`:
`⟨colfilter h x, y⟩ = ⟨x, colfilter h y⟩` — the reason the level-1 backward pass may re-use the forward filters -/
theorem colfilter_self_adjoint (h x y : List R) (hodd : h.length % 2 = 1) (hs : Symm h) (n : Nat) (hn : 1 ≤ n)
    (hx : x.length = n) (hy : y.length = n) :
    ∑ i ∈ range n, getN (Spec.colfilter h x) i * getN y i = ∑ i ∈ range n, getN x i * getN (Spec.colfilter h y) i := by
  have expand : ∀ (z : List R), z.length = n → ∀ i < n,
      getN (Spec.colfilter h z) i = ∑ k ∈ range n, getN z k * Kf h n i k := by
    intro z hz i hi
    rw [colfilter_get_c h z hodd i (by omega)]
    unfold Kf
    simp only [Finset.mul_sum]
    rw [Finset.sum_comm]
    apply Finset.sum_congr rfl; intro d _
    unfold Spec.xt
    rw [getZ_eq_sum, hz, Finset.mul_sum]
    apply Finset.sum_congr rfl; intro k _
    by_cases hc : (k:Int) = symIdx (n:Int) ((i:Int) + d)
    · rw [if_pos hc, if_pos hc.symm]; ring
    · rw [if_neg hc, if_neg (fun h' => hc h'.symm)]; ring
  have l : ∀ i ∈ range n, getN (Spec.colfilter h x) i * getN y i = ∑ k ∈ range n, getN x k * getN y i * Kf h n i k := by
    intro i hi
    rw [expand x hx i (by simpa using hi), Finset.sum_mul]
    apply Finset.sum_congr rfl; intro k _; ring
  have r : ∀ k ∈ range n, getN x k * getN (Spec.colfilter h y) k = ∑ i ∈ range n, getN x k * getN y i * Kf h n i k := by
    intro k hk
    have hk' : k < n := by simpa using hk
    rw [expand y hy k hk', Finset.mul_sum]
    apply Finset.sum_congr rfl; intro i hi
    rw [Kf_symm h hodd hs n k i hk' (by simpa using hi)]; ring
  rw [Finset.sum_congr rfl l, Finset.sum_congr rfl r, Finset.sum_comm]

theorem dot2_congr_right (H W : Nat) (x y : Img R) (g : Nat → Nat → R) (h : ∀ i < H, ∀ j < W, get2 y i j = g i j) :
    dot2 H W x y = ∑ i ∈ range H, ∑ j ∈ range W, get2 x i j * g i j := by
  unfold dot2
  apply Finset.sum_congr rfl; intro i hi
  apply Finset.sum_congr rfl; intro j hj
  rw [h i (by simpa using hi) j (by simpa using hj)]

theorem alongH_self_adjoint (h : List R) (hodd : h.length % 2 = 1) (hs : Symm h) (x y : Img R) (H W : Nat)
    (hx : Rect x H W) (hy : Rect y H W) (hH : 1 ≤ H) (hW : 1 ≤ W) :
    dot2 H W (alongH (Cf h) x) y = dot2 H W x (alongH (Cf h) y) := by
  refine alongH_adjoint_of (Cf h) (Cf h) x y H H W hx hy hH hH hW (Cf_length h hodd H) (Cf_length h hodd H) fun j _ => ?_
  exact colfilter_self_adjoint h (col x j) (col y j) hodd hs H hH (by rw [col_length, hx.1]) (by rw [col_length, hy.1])

theorem alongW_self_adjoint (h : List R) (hodd : h.length % 2 = 1) (hs : Symm h) (x y : Img R) (H W : Nat)
    (hx : Rect x H W) (hy : Rect y H W) (hW : 1 ≤ W) :
    dot2 H W (alongW (Cf h) x) y = dot2 H W x (alongW (Cf h) y) := by
  refine alongW_adjoint_of (Cf h) (Cf h) x y H W W hx hy fun i hi => ?_
  exact colfilter_self_adjoint h (x.getD i []) (y.getD i []) hodd hs W hW (row_length x H W hx i hi) (row_length y H W hy i hi)

/-- `c2q` reads the shape off the real part of its first argument -/
theorem c2q_rect' (s : R) (w1 w2 : Cplx R) (r c : Nat) (hl : w1.1.length = r) (hw : Img.width w1.1 = c) :
    Rect (c2q s w1 w2) (2*r) (2*c) := by
  unfold c2q
  obtain ⟨w1r, w1i⟩ := w1
  obtain ⟨w2r, w2i⟩ := w2
  simp only at hl hw ⊢
  rw [hl, hw]
  exact tab2_rect _ _ _

theorem c2q_rect (s : R) (H W : Nat) (hH : 1 ≤ H) (a1 b1 a2 b2 : Nat → Nat → R) :
    Rect (c2q s (tab2 H W a1, tab2 H W b1) (tab2 H W a2, tab2 H W b2)) (2*H) (2*W) :=
  c2q_rect' s _ _ H W (length_tab2 _ _ _) (width_tab2 _ _ _ hH)

theorem q2c_rect (s : R) (y : Img R) (H W : Nat) (hy : Rect y (2*H) (2*W)) (hH : 1 ≤ H) :
    Rect (q2c s y).1.1 H W ∧ Rect (q2c s y).1.2 H W ∧ Rect (q2c s y).2.1 H W ∧ Rect (q2c s y).2.2 H W := by
  rw [rect_eq_tab2 y _ _ hy, q2c_tab2 s H W hH]
  exact ⟨tab2_rect _ _ _, tab2_rect _ _ _, tab2_rect _ _ _, tab2_rect _ _ _⟩

theorem highsToOrientations_eq (s : R) (lh hl hh : Img R) :
    highsToOrientations s lh hl hh
      = [(q2c s lh).1, (q2c s hh).1, (q2c s hl).1, (q2c s hl).2, (q2c s hh).2, (q2c s lh).2] := rfl

theorem highsToOrientations_rect (s : R) (lh hl hh : Img R) (H W : Nat) (hH : 1 ≤ H) (r1 : Rect lh (2*H) (2*W)) (r2 : Rect hl (2*H) (2*W))
    (r3 : Rect hh (2*H) (2*W)) (k : Nat) (hk : k < 6) :
    Rect ((highsToOrientations s lh hl hh).getD k ([], [])).1 H W ∧ Rect ((highsToOrientations s lh hl hh).getD k ([], [])).2 H W := by
  obtain ⟨a1, a2, a3, a4⟩ := q2c_rect s lh H W r1 hH
  obtain ⟨b1, b2, b3, b4⟩ := q2c_rect s hh H W r3 hH
  obtain ⟨c1, c2, c3, c4⟩ := q2c_rect s hl H W r2 hH
  rw [highsToOrientations_eq]
  have : k = 0 ∨ k = 1 ∨ k = 2 ∨ k = 3 ∨ k = 4 ∨ k = 5 := by omega
  rcases this with rfl | rfl | rfl | rfl | rfl | rfl
  · exact ⟨a1, a2⟩
  · exact ⟨b1, b2⟩
  · exact ⟨c1, c2⟩
  · exact ⟨c3, c4⟩
  · exact ⟨b3, b4⟩
  · exact ⟨a3, a4⟩

/-- the six cotangent bands as `orientations_to_highs` regroups them: 15°/165° to `lh`, 75°/105° to `hl`, 45°/135° to `hh` -/
theorem orientationsToHighs_range6 (s : R) (c : Nat → Cplx R) :
    orientationsToHighs s ((List.range 6).map c) = (c2q s (c 0) (c 5), c2q s (c 2) (c 3), c2q s (c 1) (c 4)) := rfl

/-- the band part of the level adjoint identity: pairing `highs_to_orientations (lh, hl, hh)` with six complex
cotangents is pairing `lh`, `hl`, `hh` with `orientations_to_highs` of the cotangents (`q2c_c2q_adjoint`, three times) -/
theorem bands_adjoint (s : R) (H W : Nat) (hH : 1 ≤ H) (lh hl hh : Img R) (rlh : Rect lh (2*H) (2*W))
    (rhl : Rect hl (2*H) (2*W)) (rhh : Rect hh (2*H) (2*W)) (a b : Nat → Nat → Nat → R) :
    let c : Nat → Cplx R := fun k => (tab2 H W (a k), tab2 H W (b k))
    ∑ k ∈ range 6, (dot2 H W ((highsToOrientations s lh hl hh).getD k ([], [])).1 (((List.range 6).map c).getD k ([], [])).1
                    + dot2 H W ((highsToOrientations s lh hl hh).getD k ([], [])).2 (((List.range 6).map c).getD k ([], [])).2)
      = dot2 (2*H) (2*W) lh (c2q s (c 0) (c 5)) + dot2 (2*H) (2*W) hl (c2q s (c 2) (c 3))
        + dot2 (2*H) (2*W) hh (c2q s (c 1) (c 4)) := by
  intro c
  have k1 := q2c_c2q_adjoint s H W hH (get2 lh) (a 0) (b 0) (a 5) (b 5)
  have k2 := q2c_c2q_adjoint s H W hH (get2 hl) (a 2) (b 2) (a 3) (b 3)
  have k3 := q2c_c2q_adjoint s H W hH (get2 hh) (a 1) (b 1) (a 4) (b 4)
  simp only [← rect_eq_tab2 lh _ _ rlh, ← rect_eq_tab2 hl _ _ rhl, ← rect_eq_tab2 hh _ _ rhh] at k1 k2 k3
  rw [← k1, ← k2, ← k3]
  have hc : (List.range 6).map c = [c 0, c 1, c 2, c 3, c 4, c 5] := rfl
  rw [hc, highsToOrientations_eq]
  simp only [Finset.sum_range_succ, Finset.sum_range_zero, List.getD_cons_zero, List.getD_cons_succ, c]
  ring

/-- one analysis/synthesis level across the inner product: when the synthesis stages `E0`, `E1` are the adjoints of the
analysis stages `D0`, `D1` along rows (`P × Q` against `P × q`) and along columns (`P × q` against `p × q`), the
four sub-images of `x` pair with four cotangents as `x` pairs with the synthesis of the cotangents -/
theorem level_adjoint (D0 D1 E0 E1 : List R → List R) (P Q p q : Nat)
    (aW0 : ∀ u v, Rect u P Q → Rect v P q → dot2 P q (alongW D0 u) v = dot2 P Q u (alongW E0 v))
    (aW1 : ∀ u v, Rect u P Q → Rect v P q → dot2 P q (alongW D1 u) v = dot2 P Q u (alongW E1 v))
    (aH0 : ∀ u v, Rect u P q → Rect v p q → dot2 p q (alongH D0 u) v = dot2 P q u (alongH E0 v))
    (aH1 : ∀ u v, Rect u P q → Rect v p q → dot2 p q (alongH D1 u) v = dot2 P q u (alongH E1 v))
    (x dl lh' hl' hh' : Img R) (hx : Rect x P Q)
    (rlo : Rect (alongW D0 x) P q) (rhi : Rect (alongW D1 x) P q)
    (hdl : Rect dl p q) (r1 : Rect lh' p q) (r2 : Rect hl' p q) (r3 : Rect hh' p q)
    (q1 : Rect (alongH E1 hh') P q) (q2 : Rect (alongH E0 hl') P q) (q3 : Rect (alongH E1 lh') P q)
    (q4 : Rect (alongH E0 dl) P q)
    (wHI : Rect (alongW E1 (iadd (alongH E1 hh') (alongH E0 hl'))) P Q)
    (wLO : Rect (alongW E0 (iadd (alongH E1 lh') (alongH E0 dl))) P Q) :
    dot2 p q (alongH D0 (alongW D0 x)) dl
        + (dot2 p q (alongH D1 (alongW D0 x)) lh' + dot2 p q (alongH D0 (alongW D1 x)) hl'
          + dot2 p q (alongH D1 (alongW D1 x)) hh')
      = dot2 P Q x (iadd (alongW E1 (iadd (alongH E1 hh') (alongH E0 hl')))
          (alongW E0 (iadd (alongH E1 lh') (alongH E0 dl)))) := by
  rw [dot2_iadd _ _ x _ _ wHI wLO, ← aW1 x _ hx (iadd_rect _ _ _ _ q1 q2), ← aW0 x _ hx (iadd_rect _ _ _ _ q3 q4),
    dot2_iadd _ _ _ _ _ q1 q2, dot2_iadd _ _ _ _ _ q3 q4, ← aH1 _ hh' rhi r3, ← aH0 _ hl' rhi r2, ← aH1 _ lh' rlo r1,
    ← aH0 _ dl rlo hdl]
  ring

/-- `FWD_J1.backward` is the adjoint of `fwd_j1` (implementation models, symmetric mode): for symmetric
odd-length level-1 filters, every even-sized image `x`, every low-pass cotangent `dl` and every six complex
band cotangents, `⟨fwd_j1 x, (dl, dh)⟩ = ⟨x, backward(dl, dh)⟩`. -/
theorem fwdJ1_backward_adjoint_rect (s : R) (h0 h1 : List R) (hh0 : h0.length % 2 = 1) (hh1 : h1.length % 2 = 1)
    (hs0 : Symm h0) (hs1 : Symm h1) (x dl : Img R) (H W : Nat) (hH : 1 ≤ H) (hW : 1 ≤ W)
    (hx : Rect x (2*H) (2*W)) (hdl : Rect dl (2*H) (2*W)) (a b : Nat → Nat → Nat → R) :
    let dh : List (Cplx R) := (List.range 6).map fun k => (tab2 H W (a k), tab2 H W (b k))
    let F := fwdJ1 s true (prepFilt h0) (prepFilt h1) false x
    ∃ hs y, F.2 = some hs ∧ FWD_J1_backward s true (prepFilt h0) (prepFilt h1) (H, W) dl (some dh) = some y ∧ Rect y (2*H) (2*W) ∧
      dot2 (2*H) (2*W) F.1 dl
        + ∑ k ∈ range 6, (dot2 H W (hs.getD k ([], [])).1 (dh.getD k ([], [])).1
                          + dot2 H W (hs.getD k ([], [])).2 (dh.getD k ([], [])).2)
        = dot2 (2*H) (2*W) x y := by
  intro dh F
  have h2H : 1 ≤ 2 * H := by omega
  have h2W : 1 ≤ 2 * W := by omega
  have hF : F = _ := fwdJ1_eq s h0 h1 hh0 hh1 x (2*H) (2*W) h2H h2W hx
  have rLo := alongW_rect h0 hh0 x _ _ hx
  have rHi := alongW_rect h1 hh1 x _ _ hx
  have rlh := alongH_rect h1 hh1 _ _ _ rLo h2H h2W
  have rhl := alongH_rect h0 hh0 _ _ _ rHi h2H h2W
  have rhh := alongH_rect h1 hh1 _ _ _ rHi h2H h2W
  set lh' := c2q s (tab2 H W (a 0), tab2 H W (b 0)) (tab2 H W (a 5), tab2 H W (b 5)) with hlh'
  set hl' := c2q s (tab2 H W (a 2), tab2 H W (b 2)) (tab2 H W (a 3), tab2 H W (b 3)) with hhl'
  set hh' := c2q s (tab2 H W (a 1), tab2 H W (b 1)) (tab2 H W (a 4), tab2 H W (b 4)) with hhh'
  have r1 : Rect lh' (2*H) (2*W) := c2q_rect s H W hH _ _ _ _
  have r2 : Rect hl' (2*H) (2*W) := c2q_rect s H W hH _ _ _ _
  have r3 : Rect hh' (2*H) (2*W) := c2q_rect s H W hH _ _ _ _
  have hoth : orientationsToHighs s dh = (lh', hl', hh') := orientationsToHighs_range6 s _
  have hB := invJ1_eq s h0 h1 hh0 hh1 dl dh H W hH hW hdl (by rw [hoth]; exact r1) (by rw [hoth]; exact r2)
    (by rw [hoth]; exact r3)
  rw [hoth] at hB
  simp only [] at hB
  have q1 := alongH_rect h1 hh1 hh' _ _ r3 h2H h2W
  have q2 := alongH_rect h0 hh0 hl' _ _ r2 h2H h2W
  have q3 := alongH_rect h1 hh1 lh' _ _ r1 h2H h2W
  have q4 := alongH_rect h0 hh0 dl _ _ hdl h2H h2W
  have wHI := alongW_rect h1 hh1 _ _ _ (iadd_rect _ _ _ _ q1 q2)
  have wLO := alongW_rect h0 hh0 _ _ _ (iadd_rect _ _ _ _ q3 q4)
  refine ⟨_, _, by rw [hF], hB, iadd_rect _ _ _ _ wHI wLO, ?_⟩
  rw [hF]
  simp only []
  -- the six band pairs through q2c / c2q, then every filter across the inner product
  have kb := bands_adjoint s H W hH _ _ _ rlh rhl rhh a b
  simp only [← hlh', ← hhl', ← hhh'] at kb
  rw [kb]
  exact level_adjoint (Cf h0) (Cf h1) (Cf h0) (Cf h1) (2*H) (2*W) (2*H) (2*W)
    (fun u v hu hv => alongW_self_adjoint h0 hh0 hs0 u v _ _ hu hv h2W)
    (fun u v hu hv => alongW_self_adjoint h1 hh1 hs1 u v _ _ hu hv h2W)
    (fun u v hu hv => alongH_self_adjoint h0 hh0 hs0 u v _ _ hu hv h2H h2W)
    (fun u v hu hv => alongH_self_adjoint h1 hh1 hs1 u v _ _ hu hv h2H h2W)
    x dl lh' hl' hh' hx rLo rHi hdl r1 r2 r3 q1 q2 q3 q4 wHI wLO

theorem fwdJ1_backward_adjoint (s : R) (h0 h1 : List R) (hh0 : h0.length % 2 = 1) (hh1 : h1.length % 2 = 1)
    (hs0 : Symm h0) (hs1 : Symm h1) (x dl : Img R) (H W : Nat) (hH : 1 ≤ H) (hW : 1 ≤ W)
    (hx : Rect x (2*H) (2*W)) (hdl : Rect dl (2*H) (2*W)) (a b : Nat → Nat → Nat → R) :
    let dh : List (Cplx R) := (List.range 6).map fun k => (tab2 H W (a k), tab2 H W (b k))
    let F := fwdJ1 s true (prepFilt h0) (prepFilt h1) false x
    ∃ hs y, F.2 = some hs ∧ FWD_J1_backward s true (prepFilt h0) (prepFilt h1) (H, W) dl (some dh) = some y ∧
      dot2 (2*H) (2*W) F.1 dl
        + ∑ k ∈ range 6, (dot2 H W (hs.getD k ([], [])).1 (dh.getD k ([], [])).1
                          + dot2 H W (hs.getD k ([], [])).2 (dh.getD k ([], [])).2)
        = dot2 (2*H) (2*W) x y := by
  intro dh F
  obtain ⟨hs, y, h1, h2, _, h3⟩ := fwdJ1_backward_adjoint_rect s h0 h1 hh0 hh1 hs0 hs1 x dl H W hH hW hx hdl a b
  exact ⟨hs, y, h1, h2, h3⟩

/-- `INV_J1.backward` is the adjoint of `inv_j1` (both inputs requiring grad): it runs `fwd_j1` with the
synthesis filters, and `⟨inv_j1(ll, highs), dy⟩ = ⟨(ll, highs), fwd_j1_g(dy)⟩` is `fwdJ1_backward_adjoint` read
from right to left with the (symmetric, odd-length) synthesis filters in place of the analysis filters. -/
theorem INV_J1_backward_adjoint (s : R) (g0 g1 : List R) (hg0 : g0.length % 2 = 1) (hg1 : g1.length % 2 = 1)
    (hs0 : Symm g0) (hs1 : Symm g1) (dy ll : Img R) (H W : Nat) (hH : 1 ≤ H) (hW : 1 ≤ W)
    (hdy : Rect dy (2*H) (2*W)) (hll : Rect ll (2*H) (2*W)) (a b : Nat → Nat → Nat → R) :
    let highs : List (Cplx R) := (List.range 6).map fun k => (tab2 H W (a k), tab2 H W (b k))
    let B := INV_J1_backward s true (prepFilt g0) (prepFilt g1) true true dy
    ∃ dl dh y, B = (some dl, some dh) ∧ invJ1 s true (prepFilt g0) (prepFilt g1) (H, W) (some ll) (some highs) = some y ∧
      dot2 (2*H) (2*W) dy y
        = dot2 (2*H) (2*W) dl ll
          + ∑ k ∈ range 6, (dot2 H W (dh.getD k ([], [])).1 (highs.getD k ([], [])).1
                            + dot2 H W (dh.getD k ([], [])).2 (highs.getD k ([], [])).2) := by
  intro highs B
  obtain ⟨hs, y, h1, h2, h3⟩ := fwdJ1_backward_adjoint s g0 g1 hg0 hg1 hs0 hs1 dy ll H W hH hW hdy hll a b
  refine ⟨(fwdJ1 s true (prepFilt g0) (prepFilt g1) false dy).1, hs, y, ?_, ?_, h3.symm⟩
  · show INV_J1_backward s true (prepFilt g0) (prepFilt g1) true true dy = _
    unfold INV_J1_backward
    simp [h1]
  · exact h2

end WV.C06
