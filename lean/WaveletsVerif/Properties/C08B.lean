/-
  C08 — the BAND-PASS filter families (`near_sym_b_bp` / `qshift_b_bp`: a third, band-pass filter `h2` for the diagonal pair) of the
  DTCWT levels and of both scattering layers.

  The library's `fwd_j1_rot` / `fwd_j2plus_rot` filter rows first and columns second; the reference (`dtcwt.numpy.Transform2d` with a
  six-filter `biort` / twelve-filter `qshift` set, written out as `Spec.refLevel1Rot` / `Spec.refLevel2Rot` and validated against the
  package on every run) filters columns first.  Both orders agree because every stage is gather-linear (`C03P.alongH_alongW_comm`):
  `fwdJ1Rot_eq_ref`, `fwdJ2Rot_eq_ref`.  Hence the first-order layer and the second-order layer (with and without colour
  combination) built on the band-pass families equal the reference levels composed with the scattering formulas
  (`ScatLayer_rot_eq_spec`, `scatJ2_rot_eq_spec`), for ANY square-root operation.  Scope: `mode='symmetric'`, level-1 filters of
  odd length, q-shift pairs equally long of length ≥ 1, all images of one size, 3 channels with colour combination; first-order
  layer: every size ≥ 1 × 1; second-order Function `scatJ2`: sides positive multiples of 8; second-order module `ScatLayerj2`
  (`ScatLayerj2_rot_eq_spec`, `ScatLayerj2_rot_colour_eq_spec`): sides ≥ 4, compared with the reference on the padded images.
-/
import WaveletsVerif.Properties.C08R
namespace WV
namespace Spec
variable {α : Type}

/-- reference first-order scattering with a band-pass family -/
def scat1Rot [Add α] [Sub α] [Mul α] [OfNat α 0] (m : MagOps α) (h0o h1o h2o : List α) (colour : Bool) (x : List (Img α)) :
    List (Img α) :=
  let r := x.map fun im => refLevel1Rot m.s h0o h1o h2o (extendEven im)
  let lls := r.map fun p => avgPool2 m.q p.1
  if colour then
    let g := fun c o => ((r.getD c ([], [])).2).getD o ([], [])
    lls ++ (List.range 6).map fun o => subBias m (magR3 m (g 0 o) (g 1 o) (g 2 o))
  else
    lls ++ ((List.range 6).map fun o => r.map fun p => subBias m (magR m (p.2.getD o ([], [])))).flatten

/-- reference second-order scattering with band-pass families (no colour combination; sides multiples of 8) -/
def scat2Rot [Add α] [Sub α] [Mul α] [OfNat α 0] (m : MagOps α) (h0o h1o h2o h0a h0b h1a h1b h2a h2b : List α) (x : List (Img α)) :
    List (Img α) :=
  let r1 := x.map fun im => refLevel1Rot m.s h0o h1o h2o im
  let s1j1 := ((List.range 6).map fun o => r1.map fun p => subBias m (magR m (p.2.getD o ([], [])))).flatten
  let r2 := r1.map fun p => refLevel2Rot m.s h0a h0b h1a h1b h2a h2b p.1
  let s1j2 := ((List.range 6).map fun o => r2.map fun p => subBias m (magR m (p.2.getD o ([], [])))).flatten
  let s0 := r2.map fun p => avgPool2 m.q p.1
  let r3 := s1j1.map fun im => refLevel1Rot m.s h0o h1o h2o im
  let s2 := ((List.range 6).map fun o2 => r3.map fun p => subBias m (magR m (p.2.getD o2 ([], [])))).flatten
  let s1p := r3.map fun p => avgPool2 m.q p.1
  s0 ++ s1p ++ s1j2 ++ s2

/-- reference second-order scattering of one RGB item with colour combination on band-pass families -/
def scat2cRot [Add α] [Sub α] [Mul α] [OfNat α 0] (m : MagOps α) (h0o h1o h2o h0a h0b h1a h1b h2a h2b : List α) (x : List (Img α)) :
    List (Img α) :=
  let r1 := x.map fun im => refLevel1Rot m.s h0o h1o h2o im
  let g1 := fun c o => ((r1.getD c ([], [])).2).getD o ([], [])
  let s1j1 := (List.range 6).map fun o => subBias m (magR3 m (g1 0 o) (g1 1 o) (g1 2 o))
  let r2 := r1.map fun p => refLevel2Rot m.s h0a h0b h1a h1b h2a h2b p.1
  let g2 := fun c o => ((r2.getD c ([], [])).2).getD o ([], [])
  let s1j2 := (List.range 6).map fun o => subBias m (magR3 m (g2 0 o) (g2 1 o) (g2 2 o))
  let s0 := r2.map fun p => avgPool2 m.q p.1
  let r3 := s1j1.map fun im => refLevel1Rot m.s h0o h1o h2o im
  let s2 := ((List.range 6).map fun o2 => r3.map fun p => subBias m (magR m (p.2.getD o2 ([], [])))).flatten
  let s1p := r3.map fun p => avgPool2 m.q p.1
  s0 ++ s1p ++ s1j2 ++ s2

end Spec

namespace C08B
open WV.C04 WV.C04Q WV.C04P WV.C03P WV.C11P WV.C08Q WV.C08R
variable {R : Type} [CommRing R]

theorem fwdJ1Rot_eq_ref (s : R) (h0 h1 h2 : List R) (hh0 : h0.length % 2 = 1) (hh1 : h1.length % 2 = 1) (hh2 : h2.length % 2 = 1)
    (x : Img R) (a b : Nat) (ha : 1 ≤ a) (hb : 1 ≤ b) (hx : Rect x (2*a) (2*b)) :
    fwdJ1Rot s true (prepFilt h0) (prepFilt h1) (prepFilt h2) false x
      = ((Spec.refLevel1Rot s h0 h1 h2 x).1, some (Spec.refLevel1Rot s h0 h1 h2 x).2) := by
  have L0 : 1 ≤ h0.length := by omega
  have L1 : 1 ≤ h1.length := by omega
  have L2 : 1 ≤ h2.length := by omega
  have h2a : 1 ≤ 2*a := by omega
  have h2b : 1 ≤ 2*b := by omega
  have eLo : rowfilter true (prepFilt h0) x = alongW (Cf h0) x := rowfilter_model h0 L0 x (2*b) h2b hx.2
  have eHi : rowfilter true (prepFilt h1) x = alongW (Cf h1) x := rowfilter_model h1 L1 x (2*b) h2b hx.2
  have eBa : rowfilter true (prepFilt h2) x = alongW (Cf h2) x := rowfilter_model h2 L2 x (2*b) h2b hx.2
  have cm : ∀ (f g : List R), f.length % 2 = 1 → g.length % 2 = 1 →
      colfilter true (prepFilt f) (alongW (Cf g) x) = alongW (Cf g) (alongH (Cf f) x) := by
    intro f g hf hg
    rw [colfilter_model f (by omega) _ (by rw [(alongW_rect g hg x _ _ hx).1]; exact h2a)]
    exact Cf_comm f g hf hg x a b ha hb hx
  unfold fwdJ1Rot Spec.refLevel1Rot
  simp only [Bool.false_eq_true, if_false, eLo, eHi, eBa]
  rw [cm h0 h0 hh0 hh0, cm h1 h0 hh1 hh0, cm h0 h1 hh0 hh1, cm h2 h2 hh2 hh2]

theorem fwdJ2Rot_eq_ref (s : R) (h0a h0b h1a h1b h2a h2b : List R) (hl0 : 1 ≤ h0b.length) (hab0 : h0a.length = h0b.length)
    (hl1 : 1 ≤ h1b.length) (hab1 : h1a.length = h1b.length) (hl2 : 1 ≤ h2b.length) (hab2 : h2a.length = h2b.length)
    (x : Img R) (a b : Nat) (ha : 1 ≤ a) (hb : 1 ≤ b) (hx : Rect x (4*a) (4*b)) :
    fwdJ2Rot s (prepFilt h0a) (prepFilt h1a) (prepFilt h0b) (prepFilt h1b) (prepFilt h2a) (prepFilt h2b) false x
      = some ((Spec.refLevel2Rot s h0a h0b h1a h1b h2a h2b x).1, some (Spec.refLevel2Rot s h0a h0b h1a h1b h2a h2b x).2) := by
  have eLo := rowdfilt_spec h0b h0a false hl0 hab0 x b hb hx.2
  have eHi := rowdfilt_spec h1b h1a true hl1 hab1 x b hb hx.2
  have eBa := rowdfilt_spec h2b h2a true hl2 hab2 x b hb hx.2
  have hx' : Rect x (4*a) (2*(2*b)) := by rw [show 2*(2*b) = 4*b by ring]; exact hx
  have cm : ∀ (fa fb : List R) (fp : Bool) (ga gb : List R) (gp : Bool), 1 ≤ fa.length → fb.length = fa.length →
      coldfilt (prepFilt fa) (prepFilt fb) fp (alongW (Dg ga gb gp) x)
        = some (alongW (Dg ga gb gp) (alongH (Dg fa fb fp) x)) := by
    intro fa fb fp ga gb gp hfl hfab
    rw [coldfilt_spec fa fb fp hfl hfab _ a ha (coldfilt_alongW_rect _ _ _ x (4*a) (2*b) hx').1, Dg_comm fa fb fp ga gb gp x a b ha hb hx]
  unfold fwdJ2Rot Spec.refLevel2Rot
  simp only [eLo, eHi, eBa, Option.bind_eq_bind, Option.bind_some, Bool.false_eq_true, if_false]
  rw [cm h0b h0a false h0b h0a false hl0 hab0, cm h1b h1a true h0b h0a false hl1 hab1,
    cm h0b h0a false h1b h1a true hl0 hab0, cm h2b h2a true h2b h2a true hl2 hab2]
  simp only [Option.bind_some]

theorem fwd1Rot_eq (m : MagOps R) (h0o h1o h2o : List R) (hh0 : h0o.length % 2 = 1) (hh1 : h1o.length % 2 = 1)
    (hh2 : h2o.length % 2 = 1) (im : Img R) (a b : Nat) (ha : 1 ≤ a) (hb : 1 ≤ b) (hx : Rect im (2*a) (2*b)) :
    fwd1 m true (prepFilt h0o) (prepFilt h1o) (some (prepFilt h2o)) im = Spec.refLevel1Rot m.s h0o h1o h2o im := by
  simp only [fwd1]
  rw [fwdJ1Rot_eq_ref m.s h0o h1o h2o hh0 hh1 hh2 im a b ha hb hx]
  rfl

theorem scat1Rot_eq_scat1Of (m : MagOps R) (h0o h1o h2o : List R) (colour : Bool) (x : List (Img R)) :
    Spec.scat1Rot m h0o h1o h2o colour x = C08P.scat1Of m (Spec.refLevel1Rot m.s h0o h1o h2o) colour x := rfl

theorem ScatLayer_rot_eq_spec (m : MagOps R) (h0o h1o h2o : List R) (hh0 : h0o.length % 2 = 1) (hh1 : h1o.length % 2 = 1)
    (hh2 : h2o.length % 2 = 1) (colour : Bool) (x : List (Img R)) (H W : Nat) (hH : 1 ≤ H) (hW : 1 ≤ W) (hx : ∀ im ∈ x, Rect im H W)
    (hc : colour = true → x.length = 3) :
    ScatLayer m true (prepFilt h0o) (prepFilt h1o) (some (prepFilt h2o)) colour x = some (Spec.scat1Rot m h0o h1o h2o colour x) := by
  rw [scat1Rot_eq_scat1Of]
  exact C08P.ScatLayer_of_level m _ _ _ _ (fwd1Rot_eq m h0o h1o h2o hh0 hh1 hh2) colour x H W hH hW hx hc

theorem fwd2Rot_eq (m : MagOps R) (h0a h0b h1a h1b h2a h2b : List R) (hl0 : 1 ≤ h0b.length) (hab0 : h0a.length = h0b.length)
    (hl1 : 1 ≤ h1b.length) (hab1 : h1a.length = h1b.length) (hl2 : 1 ≤ h2b.length) (hab2 : h2a.length = h2b.length)
    (im : Img R) (a b : Nat) (ha : 1 ≤ a) (hb : 1 ≤ b) (hx : Rect im (4*a) (4*b)) :
    fwd2 m (prepFilt h0a) (prepFilt h1a) (prepFilt h0b) (prepFilt h1b) (some (prepFilt h2a, prepFilt h2b)) im
      = some (Spec.refLevel2Rot m.s h0a h0b h1a h1b h2a h2b im) := by
  simp only [fwd2]
  rw [fwdJ2Rot_eq_ref m.s h0a h0b h1a h1b h2a h2b hl0 hab0 hl1 hab1 hl2 hab2 im a b ha hb hx]
  rfl

theorem refLevel1Rot_rect (s : R) (h0 h1 h2 : List R) (hh0 : h0.length % 2 = 1) (x : Img R) (a b : Nat) (ha : 1 ≤ a) (hb : 1 ≤ b)
    (hx : Rect x (2*a) (2*b)) : Rect (Spec.refLevel1Rot s h0 h1 h2 x).1 (2*a) (2*b) := by
  unfold Spec.refLevel1Rot
  simp only
  exact alongW_rect h0 hh0 _ _ _ (alongH_rect h0 hh0 x _ _ hx (by omega) (by omega))

theorem refLevel1Rot_bands (s : R) (h0 h1 h2 : List R) (hh0 : h0.length % 2 = 1) (hh1 : h1.length % 2 = 1) (hh2 : h2.length % 2 = 1)
    (x : Img R) (a b : Nat) (ha : 1 ≤ a) (hb : 1 ≤ b) (hx : Rect x (2*a) (2*b)) : BandOK (Spec.refLevel1Rot s h0 h1 h2 x).2 a b := by
  have h2a : 1 ≤ 2 * a := by omega
  have h2b : 1 ≤ 2 * b := by omega
  have rLo := alongH_rect h0 hh0 x _ _ hx h2a h2b
  have rHi := alongH_rect h1 hh1 x _ _ hx h2a h2b
  have rBa := alongH_rect h2 hh2 x _ _ hx h2a h2b
  exact bandOK_highsToOrientations s _ _ _ a b ha (alongW_rect h0 hh0 _ _ _ rHi) (alongW_rect h1 hh1 _ _ _ rLo)
    (alongW_rect h2 hh2 _ _ _ rBa)

/-- the module's filter record for the band-pass families -/
def mkS2Rot (h0o h1o h2o h0a h0b h1a h1b h2a h2b : List R) : Scat2Filters R :=
  { h0o := prepFilt h0o, h1o := prepFilt h1o, h2o := some (prepFilt h2o), h0a := prepFilt h0a, h0b := prepFilt h0b,
    h1a := prepFilt h1a, h1b := prepFilt h1b, h2ab := some (prepFilt h2a, prepFilt h2b) }

theorem scat2Rot_eq_scat2Of (m : MagOps R) (h0o h1o h2o h0a h0b h1a h1b h2a h2b : List R) (x : List (Img R)) :
    Spec.scat2Rot m h0o h1o h2o h0a h0b h1a h1b h2a h2b x
      = scat2Of m (Spec.refLevel1Rot m.s h0o h1o h2o) (Spec.refLevel2Rot m.s h0a h0b h1a h1b h2a h2b) false x := rfl

theorem scat2cRot_eq_scat2Of (m : MagOps R) (h0o h1o h2o h0a h0b h1a h1b h2a h2b : List R) (x : List (Img R)) :
    Spec.scat2cRot m h0o h1o h2o h0a h0b h1a h1b h2a h2b x
      = scat2Of m (Spec.refLevel1Rot m.s h0o h1o h2o) (Spec.refLevel2Rot m.s h0a h0b h1a h1b h2a h2b) true x := rfl

theorem scatJ2_rot_eq_spec (m : MagOps R) (h0o h1o h2o h0a h0b h1a h1b h2a h2b : List R) (hh0 : h0o.length % 2 = 1)
    (hh1 : h1o.length % 2 = 1) (hh2 : h2o.length % 2 = 1)
    (hl0 : 1 ≤ h0b.length) (hab0 : h0a.length = h0b.length) (hl1 : 1 ≤ h1b.length) (hab1 : h1a.length = h1b.length)
    (hl2 : 1 ≤ h2b.length) (hab2 : h2a.length = h2b.length)
    (x : List (Img R)) (a b : Nat) (ha : 1 ≤ a) (hb : 1 ≤ b) (hx : ∀ im ∈ x, Rect im (8*a) (8*b)) :
    scatJ2 m true (mkS2Rot h0o h1o h2o h0a h0b h1a h1b h2a h2b) false x
      = some (Spec.scat2Rot m h0o h1o h2o h0a h0b h1a h1b h2a h2b x) := by
  rw [scat2Rot_eq_scat2Of]
  exact scatJ2_of_levels m (mkS2Rot h0o h1o h2o h0a h0b h1a h1b h2a h2b) _ _ (fwd1Rot_eq m h0o h1o h2o hh0 hh1 hh2)
    (fwd2Rot_eq m h0a h0b h1a h1b h2a h2b hl0 hab0 hl1 hab1 hl2 hab2) (refLevel1Rot_rect m.s h0o h1o h2o hh0)
    (refLevel1Rot_bands m.s h0o h1o h2o hh0 hh1 hh2) false x (by simp) a b ha hb hx

/-- the module `ScatLayerj2`: extension to multiples of 8, then the Function -/
theorem ScatLayerj2_rot_eq_spec (m : MagOps R) (h0o h1o h2o h0a h0b h1a h1b h2a h2b : List R) (hh0 : h0o.length % 2 = 1)
    (hh1 : h1o.length % 2 = 1) (hh2 : h2o.length % 2 = 1)
    (hl0 : 1 ≤ h0b.length) (hab0 : h0a.length = h0b.length) (hl1 : 1 ≤ h1b.length) (hab1 : h1a.length = h1b.length)
    (hl2 : 1 ≤ h2b.length) (hab2 : h2a.length = h2b.length)
    (x : List (Img R)) (H W : Nat) (hH : 4 ≤ H) (hW : 4 ≤ W) (hx : ∀ im ∈ x, Rect im H W) :
    ScatLayerj2 m true (mkS2Rot h0o h1o h2o h0a h0b h1a h1b h2a h2b) false x
      = some (Spec.scat2Rot m h0o h1o h2o h0a h0b h1a h1b h2a h2b (x.map pad8Img)) := by
  unfold ScatLayerj2
  exact scatJ2_rot_eq_spec m h0o h1o h2o h0a h0b h1a h1b h2a h2b hh0 hh1 hh2 hl0 hab0 hl1 hab1 hl2 hab2 _
    ((H + 7) / 8) ((W + 7) / 8) (by omega) (by omega) (pad8Img_map_rect x H W hH hW hx)

theorem scatJ2_rot_colour_eq_spec (m : MagOps R) (h0o h1o h2o h0a h0b h1a h1b h2a h2b : List R) (hh0 : h0o.length % 2 = 1)
    (hh1 : h1o.length % 2 = 1) (hh2 : h2o.length % 2 = 1)
    (hl0 : 1 ≤ h0b.length) (hab0 : h0a.length = h0b.length) (hl1 : 1 ≤ h1b.length) (hab1 : h1a.length = h1b.length)
    (hl2 : 1 ≤ h2b.length) (hab2 : h2a.length = h2b.length)
    (x : List (Img R)) (hx3 : x.length = 3) (a b : Nat) (ha : 1 ≤ a) (hb : 1 ≤ b) (hx : ∀ im ∈ x, Rect im (8*a) (8*b)) :
    scatJ2 m true (mkS2Rot h0o h1o h2o h0a h0b h1a h1b h2a h2b) true x
      = some (Spec.scat2cRot m h0o h1o h2o h0a h0b h1a h1b h2a h2b x) := by
  rw [scat2cRot_eq_scat2Of]
  exact scatJ2_of_levels m (mkS2Rot h0o h1o h2o h0a h0b h1a h1b h2a h2b) _ _ (fwd1Rot_eq m h0o h1o h2o hh0 hh1 hh2)
    (fwd2Rot_eq m h0a h0b h1a h1b h2a h2b hl0 hab0 hl1 hab1 hl2 hab2) (refLevel1Rot_rect m.s h0o h1o h2o hh0)
    (refLevel1Rot_bands m.s h0o h1o h2o hh0 hh1 hh2) true x (fun _ => hx3) a b ha hb hx

/-- the module `ScatLayerj2(combine_colour=True)`: extension to multiples of 8, then the Function -/
theorem ScatLayerj2_rot_colour_eq_spec (m : MagOps R) (h0o h1o h2o h0a h0b h1a h1b h2a h2b : List R) (hh0 : h0o.length % 2 = 1)
    (hh1 : h1o.length % 2 = 1) (hh2 : h2o.length % 2 = 1)
    (hl0 : 1 ≤ h0b.length) (hab0 : h0a.length = h0b.length) (hl1 : 1 ≤ h1b.length) (hab1 : h1a.length = h1b.length)
    (hl2 : 1 ≤ h2b.length) (hab2 : h2a.length = h2b.length)
    (x : List (Img R)) (hx3 : x.length = 3) (H W : Nat) (hH : 4 ≤ H) (hW : 4 ≤ W) (hx : ∀ im ∈ x, Rect im H W) :
    ScatLayerj2 m true (mkS2Rot h0o h1o h2o h0a h0b h1a h1b h2a h2b) true x
      = some (Spec.scat2cRot m h0o h1o h2o h0a h0b h1a h1b h2a h2b (x.map pad8Img)) := by
  unfold ScatLayerj2
  exact scatJ2_rot_colour_eq_spec m h0o h1o h2o h0a h0b h1a h1b h2a h2b hh0 hh1 hh2 hl0 hab0 hl1 hab1 hl2 hab2 _
    (by rw [List.length_map, hx3]) ((H + 7) / 8) ((W + 7) / 8) (by omega) (by omega) (pad8Img_map_rect x H W hH hW hx)

/-- the length hypotheses (`hh0`, `hh1`, `hh2`, `hl0`…`hl2`, `hab0`…`hab2`) of the theorems above hold for the tap counts of the
shipped tables — `near_sym_b_bp` has 13/19/19 taps, `qshift_b_bp` 14 taps in every filter; arithmetic on the counts only, the
tables are not read here -/
example : 13 % 2 = 1 ∧ 19 % 2 = 1 ∧ 1 ≤ 14 ∧ (14 : Nat) = 14 := by decide

end C08B
end WV
