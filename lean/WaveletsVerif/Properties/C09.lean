/-
  C09 — scattering layers back-propagate the true gradient, finite everywhere.

  Proved over ℝ (the analytic part):
  * the partial derivative of the smoothed modulus: `d/dt √(t² + c) = t / √(t² + c)` for
    `c > 0` (with `c = im² + b²` this is `∂mag/∂re = re / r`, what the layers save as `drdx`);
  * with a positive bias `r = √(re² + im² + b²) ≥ b > 0` and `|re / r| ≤ 1`, `|im / r| ≤ 1`:
    the saved factors — hence the gradient — are finite for every input, the all-zero image
    included.
  The linear part is C09P / C09Q: the backward pass of either layer is the adjoint of its linearisation with the
  saved factors as coefficients (DTCWT adjoints of C06 / C06Q, `avg_pool2dᵀ = ¼·nearest-upsample`).  Assumed, not
  proved (hence the status partial): the multivariate chain rule gluing these into "is the gradient", which is
  standard mathematics.  The whole backward pass is tied to the code by the Float-tier correspondence and checked
  against central differences on the real code.
-/
import WaveletsVerif.Model.Scat
import Mathlib.Analysis.SpecialFunctions.Sqrt
import Mathlib.Analysis.Calculus.Deriv.Mul
import Mathlib.Analysis.Calculus.Deriv.Add
namespace WV.C09

theorem r_ge_bias (re im b : ℝ) (_hb : 0 < b) : b ≤ Real.sqrt (re*re + im*im + b*b) := by
  apply Real.le_sqrt_of_sq_le
  nlinarith [mul_self_nonneg re, mul_self_nonneg im]

theorem abs_div_sqrt_le_one (t c : ℝ) (hc : 0 < c) : |t / Real.sqrt (t*t + c)| ≤ 1 := by
  have hr : 0 < Real.sqrt (t*t + c) := Real.sqrt_pos.mpr (add_pos_of_nonneg_of_pos (mul_self_nonneg t) hc)
  rw [abs_div, abs_of_pos hr, div_le_one hr]
  apply Real.abs_le_sqrt
  rw [sq]
  exact le_add_of_nonneg_right hc.le

theorem ratio_le_one (re im b : ℝ) (hb : 0 < b) : |re / Real.sqrt (re*re + im*im + b*b)| ≤ 1 := by
  have h := abs_div_sqrt_le_one re (im*im + b*b) (add_pos_of_nonneg_of_pos (mul_self_nonneg im) (mul_pos hb hb))
  rwa [← add_assoc] at h

theorem ratio_le_one_im (re im b : ℝ) (hb : 0 < b) : |im / Real.sqrt (re*re + im*im + b*b)| ≤ 1 := by
  have h := abs_div_sqrt_le_one im (re*re + b*b) (add_pos_of_nonneg_of_pos (mul_self_nonneg re) (mul_pos hb hb))
  rwa [← add_assoc, add_comm (im*im)] at h

/-- `d/dt √(t² + c) = t / √(t² + c)` for `c > 0` — also at `t = 0`, where the plain modulus
(`c = 0`) is not differentiable -/
theorem hasDerivAt_smoothmag (c : ℝ) (hc : 0 < c) (t : ℝ) :
    HasDerivAt (fun t => Real.sqrt (t*t + c)) (t / Real.sqrt (t*t + c)) t := by
  have hpos : 0 < t*t + c := by nlinarith [mul_self_nonneg t]
  have h1 : HasDerivAt (fun t : ℝ => t*t + c) (t + t) t := by
    have := ((hasDerivAt_id' t).mul (hasDerivAt_id' t)).add_const c
    simpa using this
  have h2 := h1.sqrt (ne_of_gt hpos)
  convert h2 using 1
  field_simp
  ring

theorem smoothmag_deriv_at_zero (b : ℝ) (hb : 0 < b) :
    HasDerivAt (fun t => Real.sqrt (t*t + b*b)) 0 0 := by
  have := hasDerivAt_smoothmag (b*b) (by positivity) 0
  simpa using this

/-- the factor `re / r` the model saves for its backward pass, with `r` written out (`magR` unfolded) -/
theorem saved_factor_def {R : Type} [Add R] [Mul R] [OfNat R 0] (m : WV.MagOps R) (c : WV.Cplx R) :
    WV.imap2 m.dv c.1 (WV.magR m c) = WV.imap2 m.dv c.1 (WV.imap2 (fun re im => m.sq (re*re + im*im + m.b*m.b)) c.1 c.2) := rfl

end WV.C09
