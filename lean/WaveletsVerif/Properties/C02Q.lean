/-
  C01 / C10 / C02 — the whole 1-D pyramid in PERIODIZATION mode, every number of levels, every signal length (odd
  lengths included), one channel, wherever the even filter length fits the levels (`LevelsFit1`: `L ≤ N + N % 2` at every
  level); the two reconstruction statements are for every even-length bank with `PRBank`:

    `DWT1DForward = pywt.wavedec`                         (`DWT1DForward_per_eq_wavedec_all`),
    `DWT1DInverse = pywt.waverec` on compatible pyramids  (`DWT1DInverse_per_eq_waverec`, `None` levels and un-pad rule included),
    `waverec(wavedec(x))` starts with `x`, ≤ 1 sample longer, for every J and every length (`pyramid_pr_per`, no fit needed),
    `DWT1DInverse(DWT1DForward(x))` returns `x` (plus at most one trailing sample)        (`DWT1D_roundtrip_per`).
-/
import WaveletsVerif.Lemmas.BandSizes
import WaveletsVerif.Properties.C02J
import WaveletsVerif.Properties.C10P
namespace WV.C02Q
open Finset WV WV.C02 WV.C02J WV.C10 WV.C10P
variable {R : Type} [CommRing R]

/-- at every level the filter fits: `L ≤ N + N % 2`; the next level has `⌈N/2⌉` samples -/
def LevelsFit1 (L : Nat) : Nat → Nat → Prop
  | 0, _ => True
  | J+1, N => L ≤ N + N % 2 ∧ LevelsFit1 L J ((N + N % 2) / 2)

/-- `DWT1DForward` in periodization mode = `pywt.wavedec` (one channel) for every J and every length, odd lengths
included, wherever the even filter length fits the levels -/
theorem DWT1DForward_per_eq_wavedec_all (h0 h1 : List R) (hL : 2 ≤ h0.length) (hLe : h0.length % 2 = 0) (hh1 : h1.length = h0.length) :
    ∀ (J : Nat) (x : List R), 1 ≤ x.length → LevelsFit1 h0.length J x.length →
    DWT1DForwardM .periodization J h0 h1 [x]
      = some ([(Spec.wavedec .periodization h0 h1 J x).1], (Spec.wavedec .periodization h0 h1 J x).2.map fun d => [d]) := by
  intro J x hN hfit
  apply C01.DWT1DForward_one_channel
  apply C01.DWT1DForward_of_levels .periodization h0 h1 (fun J x => 1 ≤ x.length ∧ LevelsFit1 h0.length J x.length) _ J [x]
  · intro y hy
    rw [List.mem_singleton.mp hy]
    exact ⟨hN, hfit⟩
  · intro J x ⟨hN, hLN, hrest⟩
    refine ⟨C01.afb1dOne_per_eq_dwt_partial_all h0 x hLe hL hN hLN,
      C01.afb1dOne_per_eq_dwt_partial_all h1 x (hh1 ▸ hLe) (hh1 ▸ hL) hN (hh1 ▸ hLN), ?_⟩
    rw [length_dwt_per]
    exact ⟨halfUp_pos x.length hN, hrest⟩

/-- shapes a forward transform in periodization produces, with the fit condition of the periodized synthesis -/
def StepOKP (g0 : List R) (a : List R) (d : Option (List R)) : Prop :=
  let n := match d with
    | some v => v.length
    | none => a.length
  (a.length = n ∨ a.length = n + 1) ∧ 1 ≤ n ∧ g0.length - 2 ≤ 2 * n

def CompatP (g0 g1 : List R) : List R → List (Option (List R)) → Prop
  | _, [] => True
  | a, d :: rest => StepOKP g0 a d ∧ CompatP g0 g1 (stepS .periodization g0 g1 a d) rest

/-- one level of `DWT1DInverse` in periodization = one level of `waverec` -/
theorem step_eq_per (g0 g1 : List R) (hL : 2 ≤ g0.length) (hg : g1.length = g0.length) (a : List R) (d : Option (List R))
    (hok : StepOKP g0 a d) :
    DWT1DInverse_step .periodization g0 g1 [a] (d.map fun v => [v]) = some [stepS .periodization g0 g1 a d] := by
  exact step_eq_of synthOK_per g0 g1 hL hg a d hok

/-- the J-level 1-D synthesis in periodization mode is `pywt.waverec` on every compatible pyramid -/
theorem DWT1DInverse_per_eq_waverec (g0 g1 : List R) (hL : 2 ≤ g0.length) (hg : g1.length = g0.length) (a : List R)
    (ds : List (Option (List R))) (hc : CompatP g0 g1 a ds.reverse) :
    DWT1DInverse .periodization g0 g1 [a] (ds.map fun d => d.map fun v => [v]) = some [Spec.waverec .periodization g0 g1 a ds] := by
  rw [waverec_eq_foldl]
  unfold DWT1DInverse
  rw [← List.map_reverse]
  exact foldlM_sim _ (stepS .periodization g0 g1) (fun a => [a]) (fun d => d.map fun v => [v]) (CompatP g0 g1)
    (fun a d _ hc => ⟨step_eq_per g0 g1 hL hg a d hc.1, hc.2⟩) ds.reverse a hc

section pr
variable (h0 h1 g0 g1 : List R) (hL : 2 ≤ h0.length) (hLe : h0.length % 2 = 0) (hh1 : h1.length = h0.length)
  (hg0 : g0.length = h0.length) (hg1 : g1.length = h0.length) (hpr : PRBank h0 h1 g0 g1)

include hL hLe hh1 hg0 hg1 hpr in
/-- one level: `idwt(dwt x)` starts with `x` and has `2⌈N/2⌉` samples -/
theorem level_pr_per (x : List R) (hN : 1 ≤ x.length) :
    (Spec.idwt .periodization g0 g1 (Spec.dwt .periodization h0 x) (Spec.dwt .periodization h1 x)).take x.length = x ∧
    ((Spec.idwt .periodization g0 g1 (Spec.dwt .periodization h0 x) (Spec.dwt .periodization h1 x)).length = x.length ∨
     (Spec.idwt .periodization g0 g1 (Spec.dwt .periodization h0 x) (Spec.dwt .periodization h1 x)).length = x.length + 1) := by
  have hlen : (Spec.idwt .periodization g0 g1 (Spec.dwt .periodization h0 x) (Spec.dwt .periodization h1 x)).length
      = 2 * ((x.length + x.length % 2) / 2) := by rw [length_idwt_per, length_dwt_per]
  have hK := two_mul_halfUp_eq x.length
  have hK' := two_mul_halfUp x.length
  refine ⟨?_, by rw [hlen]; exact hK'⟩
  apply take_eq_of_getN
  · rw [hlen, hK]; exact Nat.le_add_right _ _
  · intro t ht
    exact pr_periodization h0 h1 g0 g1 x hL hLe hh1 hg0 hg1 hpr hN t ht

include hL hLe hh1 hg0 hg1 hpr in
/-- `waverec(wavedec(x))` in periodization starts with `x` and is at most one sample longer, for every J and length -/
theorem pyramid_pr_per : ∀ (J : Nat) (x : List R), 1 ≤ x.length →
    (Spec.waverec .periodization g0 g1 (Spec.wavedec .periodization h0 h1 J x).1 ((Spec.wavedec .periodization h0 h1 J x).2.map some)).take x.length = x ∧
    ((Spec.waverec .periodization g0 g1 (Spec.wavedec .periodization h0 h1 J x).1 ((Spec.wavedec .periodization h0 h1 J x).2.map some)).length = x.length ∨
     (Spec.waverec .periodization g0 g1 (Spec.wavedec .periodization h0 h1 J x).1 ((Spec.wavedec .periodization h0 h1 J x).2.map some)).length = x.length + 1) := by
  exact pyramid_pr_of .periodization h0 h1 g0 g1 fun x hN =>
    ⟨by rw [length_dwt_per, length_dwt_per], by rw [length_dwt_per]; exact halfUp_pos x.length hN, level_pr_per h0 h1 g0 g1 hL hLe hh1 hg0 hg1 hpr x hN⟩

include hL hLe hh1 hg0 hg1 hpr in
/-- the pyramid of a signal has the shapes the inverse accepts, wherever the filter fits the levels -/
theorem compat_wavedec_per : ∀ (J : Nat) (x : List R), 1 ≤ x.length → LevelsFit1 h0.length J x.length →
    CompatP g0 g1 (Spec.wavedec .periodization h0 h1 J x).1 ((Spec.wavedec .periodization h0 h1 J x).2.map some).reverse := by
  intro J x hN hfit
  apply compat_wavedec_of .periodization h0 h1 g0 g1 (StepOKP g0) (CompatP g0 g1) (fun _ => trivial) (fun _ _ _ => Iff.rfl)
    (fun J x => 1 ≤ x.length ∧ LevelsFit1 h0.length J x.length) _ J x ⟨hN, hfit⟩
  intro J x ⟨hN, hLN, hfrest⟩
  have hK : (Spec.dwt .periodization h0 x).length = (x.length + x.length % 2) / 2 := length_dwt_per h0 x
  have hKpos := halfUp_pos x.length hN
  obtain ⟨_, p2⟩ := pyramid_pr_per h0 h1 g0 g1 hL hLe hh1 hg0 hg1 hpr J (Spec.dwt .periodization h0 x) (by rw [hK]; exact hKpos)
  refine ⟨⟨by rw [hK]; exact hKpos, by rw [hK]; exact hfrest⟩, ?_⟩
  unfold StepOKP
  simp only
  rw [length_dwt_per h1 x]
  refine ⟨by rw [hK] at p2; exact p2, hKpos, ?_⟩
  rw [hg0, two_mul_halfUp_eq x.length]
  exact le_trans (Nat.sub_le _ _) hLN

include hL hLe hh1 hg0 hg1 hpr in
/-- J-level 1-D perfect reconstruction of the implementation models in periodization mode, one channel `[x]`, every J, every length
(odd included) whose levels the filter fits, every even-length bank with `PRBank` -/
theorem DWT1D_roundtrip_per (J : Nat) (x : List R) (hN : 1 ≤ x.length) (hfit : LevelsFit1 h0.length J x.length) :
    ∃ yl yh y, DWT1DForwardM .periodization J h0 h1 [x] = some (yl, yh) ∧
      DWT1DInverse .periodization g0 g1 yl (yh.map some) = some [y] ∧ y.take x.length = x ∧ (y.length = x.length ∨ y.length = x.length + 1) := by
  have hf := DWT1DForward_per_eq_wavedec_all h0 h1 hL hLe hh1 J x hN hfit
  have hc := compat_wavedec_per h0 h1 g0 g1 hL hLe hh1 hg0 hg1 hpr J x hN hfit
  have hi := DWT1DInverse_per_eq_waverec g0 g1 (hg0 ▸ hL) (hg1.trans hg0.symm) (Spec.wavedec .periodization h0 h1 J x).1
    ((Spec.wavedec .periodization h0 h1 J x).2.map some) hc
  obtain ⟨p1, p2⟩ := pyramid_pr_per h0 h1 g0 g1 hL hLe hh1 hg0 hg1 hpr J x hN
  refine ⟨_, _, _, hf, ?_, p1, p2⟩
  rw [map_some_map]
  exact hi

end pr

/-- the level condition is satisfiable with odd lengths: 7 → 4 → 2 with a 4-tap filter -/
example : LevelsFit1 4 2 7 := by simp [LevelsFit1]

end WV.C02Q
