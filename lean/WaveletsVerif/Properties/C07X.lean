/-
  C07 / C01 — the dependence window of the two-dimensional decimated transform (mode zero), on the PyWavelets reference.
  One level: every coefficient `(p, q)` of every band of `pywt.dwt2` reads the samples of the rows `2p+1-(Lc-1) … 2p+1` and
  the columns `2q+1-(Lr-1) … 2q+1` of its own image and nothing else (`dwt2_zero_local`, the two filters of an axis having one length `Lc`, `Lr`): two images of the same shape that
  agree on that rectangle - whatever they hold elsewhere - have the same coefficient.  `J` levels: the low-pass coefficients
  of `pywt.wavedec2` read the product of the two 1-D cones of `C07W` (`wavedec2_low_agree`, low-pass filters of length ≥ 2).  This is "far along either
  axis" as the special-values oracle uses it.
-/
import WaveletsVerif.Properties.C07W
import WaveletsVerif.Lemmas.Img
namespace WV.C07X
open WV WV.C04 WV.C07W
variable {R : Type} [CommRing R]

theorem rowsMap_rect (h : List R) (x : Img R) (H W : Nat) (hx : Rect x H W) :
    Rect (Spec.rowsMap (Spec.dwt .zero h) x) H (dwtCoeffLen W h.length) :=
  alongW_rect_of_length _ x H W _ hx (fun c hc => by rw [dwt_zero_len, hc])

theorem rowsMap_get2 (h : List R) (x : Img R) (H W : Nat) (hx : Rect x H W) (i j : Nat) (hi : i < H) :
    get2 (Spec.rowsMap (Spec.dwt .zero h) x) i j = getN (Spec.dwt .zero h (x.getD i [])) j :=
  get2_alongW _ x i j (by rw [hx.1]; exact hi)

theorem colsMap_get2 (h : List R) (x : Img R) (H W : Nat) (hx : Rect x H W) (hH : 1 ≤ H) (hW : 1 ≤ W) (i j : Nat) (hj : j < W) :
    get2 (Spec.colsMap (Spec.dwt .zero h) x) i j = getN (Spec.dwt .zero h (col x j)) i :=
  (get2_alongH _ x H _ W hx hH hW (fun c hc => by rw [dwt_zero_len, hc]) i j).trans (if_pos hj)

/-- two images agree on a rectangle of (row, column) indices -/
def AgreeOn2 (x x' : Img R) (r0 r1 c0 c1 : Int) : Prop :=
  ∀ (i j : Nat), r0 ≤ (i : Int) → (i : Int) ≤ r1 → c0 ≤ (j : Int) → (j : Int) ≤ c1 → get2 x i j = get2 x' i j

/-- one band of one 2-D level (column filter `hc` after row filter `hr`) reads a rectangle -/
theorem band_zero_local (hc hr : List R) (x x' : Img R) (H W : Nat) (hx : Rect x H W) (hx' : Rect x' H W) (hH : 1 ≤ H) (hW : 1 ≤ W)
    (p q : Nat) (hq : q < dwtCoeffLen W hr.length)
    (hw : AgreeOn2 x x' (2 * (p : Int) + 1 - ((hc.length : Int) - 1)) (2 * (p : Int) + 1)
      (2 * (q : Int) + 1 - ((hr.length : Int) - 1)) (2 * (q : Int) + 1)) :
    get2 (Spec.colsMap (Spec.dwt .zero hc) (Spec.rowsMap (Spec.dwt .zero hr) x)) p q
      = get2 (Spec.colsMap (Spec.dwt .zero hc) (Spec.rowsMap (Spec.dwt .zero hr) x')) p q := by
  have rr := fun (y : Img R) (hy : Rect y H W) => rowsMap_rect hr y H W hy
  rw [colsMap_get2 hc _ H _ (rr x hx) hH (by omega) p q hq, colsMap_get2 hc _ H _ (rr x' hx') hH (by omega) p q hq]
  apply dwt_zero_local hc _ _ (by rw [col_length, col_length, (rr x hx).1, (rr x' hx').1]) p
  intro t ht1 ht2
  -- entry `t` of column `q` of the two row-filtered images
  by_cases ht : 0 ≤ t ∧ t < H
  · have e : ∀ y : Img R, Rect y H W → getZ (col (Spec.rowsMap (Spec.dwt .zero hr) y) q) t = getN (Spec.dwt .zero hr (y.getD t.toNat [])) q := by
      intro y hy
      unfold col; rw [(rr y hy).1, getZ_tab]
      have : 0 ≤ t ∧ t < (H : Int) := ht
      rw [if_pos this]
      exact rowsMap_get2 hr y H W hy t.toNat q (by omega)
    rw [e x hx, e x' hx']
    apply dwt_zero_local hr _ _ (by rw [row_length x H W hx t.toNat (by omega), row_length x' H W hx' t.toNat (by omega)]) q
    intro u hu1 hu2
    by_cases hu : 0 ≤ u
    · have g : ∀ y : Img R, getZ (y.getD t.toNat []) u = get2 y t.toNat u.toNat := by
        intro y; unfold getZ get2; rw [if_pos hu]
      rw [g, g]
      have et : ((t.toNat : Nat) : Int) = t := Int.toNat_of_nonneg ht.1
      have eu : ((u.toNat : Nat) : Int) = u := Int.toNat_of_nonneg hu
      exact hw t.toNat u.toNat (by rw [et]; exact ht1) (by rw [et]; exact ht2) (by rw [eu]; exact hu1) (by rw [eu]; exact hu2)
    · unfold getZ; rw [if_neg hu, if_neg hu]
  · have e : ∀ y : Img R, Rect y H W → getZ (col (Spec.rowsMap (Spec.dwt .zero hr) y) q) t = 0 := by
      intro y hy
      unfold col; rw [(rr y hy).1, getZ_tab, if_neg ht]
    rw [e x hx, e x' hx']

/-- every band of `pywt.dwt2` (mode zero) reads the rectangle of its own coefficient: the four bands are the four combinations of
a column filter after a row filter -/
theorem dwt2_zero_local (hc0 hc1 hr0 hr1 : List R) (hLc : hc1.length = hc0.length) (hLr : hr1.length = hr0.length)
    (x x' : Img R) (H W : Nat) (hx : Rect x H W) (hx' : Rect x' H W) (hH : 1 ≤ H) (hW : 1 ≤ W)
    (p q : Nat) (hq : q < dwtCoeffLen W hr0.length)
    (hw : AgreeOn2 x x' (2 * (p : Int) + 1 - ((hc0.length : Int) - 1)) (2 * (p : Int) + 1)
      (2 * (q : Int) + 1 - ((hr0.length : Int) - 1)) (2 * (q : Int) + 1)) :
    let S := Spec.dwt2 .zero hc0 hc1 hr0 hr1 x
    let S' := Spec.dwt2 .zero hc0 hc1 hr0 hr1 x'
    get2 S.1 p q = get2 S'.1 p q ∧ get2 S.2.1 p q = get2 S'.2.1 p q ∧ get2 S.2.2.1 p q = get2 S'.2.2.1 p q ∧
      get2 S.2.2.2 p q = get2 S'.2.2.2 p q := by
  intro S S'
  refine ⟨band_zero_local hc0 hr0 x x' H W hx hx' hH hW p q hq hw,
    band_zero_local hc1 hr0 x x' H W hx hx' hH hW p q hq (by rw [hLc]; exact hw),
    band_zero_local hc0 hr1 x x' H W hx hx' hH hW p q (by rw [hLr]; exact hq) (by rw [hLr]; exact hw),
    band_zero_local hc1 hr1 x x' H W hx hx' hH hW p q (by rw [hLr]; exact hq) (by rw [hLc, hLr]; exact hw)⟩

theorem band_rect (hc hr : List R) (x : Img R) (H W : Nat) (hx : Rect x H W) (hH : 1 ≤ H) (hW : 1 ≤ W) (hLr : 2 ≤ hr.length) :
    Rect (Spec.colsMap (Spec.dwt .zero hc) (Spec.rowsMap (Spec.dwt .zero hr) x)) (dwtCoeffLen H hc.length) (dwtCoeffLen W hr.length) :=
  alongH_rect_of_length _ _ H _ _ (rowsMap_rect hr x H W hx) hH (bandLen_pos W hr.length hLr hW) (fun c hc' => by rw [dwt_zero_len, hc'])

theorem win_lo_mono (L r p : Int) (h : r ≤ p) : 2 * r + 1 - (L - 1) ≤ 2 * p + 1 - (L - 1) := by omega

theorem win_hi_mono (p r : Int) (h : p ≤ r) : 2 * p + 1 ≤ 2 * r + 1 := by omega

/-- `band_zero_local` on a rectangle of coefficient indices (used for the low-pass band); beyond the band width both sides are 0 -/
theorem low_zero_agree (hc hr : List R) (hLr : 2 ≤ hr.length) (x x' : Img R) (H W : Nat) (hx : Rect x H W) (hx' : Rect x' H W) (hH : 1 ≤ H) (hW : 1 ≤ W)
    (r0 r1 c0 c1 : Int)
    (hw : AgreeOn2 x x' (2 * r0 + 1 - ((hc.length : Int) - 1)) (2 * r1 + 1) (2 * c0 + 1 - ((hr.length : Int) - 1)) (2 * c1 + 1)) :
    AgreeOn2 (Spec.colsMap (Spec.dwt .zero hc) (Spec.rowsMap (Spec.dwt .zero hr) x))
      (Spec.colsMap (Spec.dwt .zero hc) (Spec.rowsMap (Spec.dwt .zero hr) x')) r0 r1 c0 c1 := by
  intro p q hp0 hp1 hq0 hq1
  by_cases hq : q < dwtCoeffLen W hr.length
  · apply band_zero_local hc hr x x' H W hx hx' hH hW p q hq
    intro i j hi0 hi1 hj0 hj1
    exact hw i j (le_trans (win_lo_mono _ _ _ hp0) hi0) (le_trans hi1 (win_hi_mono _ _ hp1))
      (le_trans (win_lo_mono _ _ _ hq0) hj0) (le_trans hj1 (win_hi_mono _ _ hq1))
  · rw [get2_oob _ _ _ (band_rect hc hr x H W hx hH hW hLr) p q (Or.inr (Nat.le_of_not_lt hq)),
      get2_oob _ _ _ (band_rect hc hr x' H W hx' hH hW hLr) p q (Or.inr (Nat.le_of_not_lt hq))]

/-- `J` levels of `pywt.wavedec2` (mode zero, low-pass filters of length ≥ 2): the low-pass coefficients with indices in `[r0, r1] × [c0, c1]` read the rectangle
`[2^J r0 − (2^J − 1)(Lc − 1), 2^J r1 + 2^J − 1] × [2^J c0 − (2^J − 1)(Lr − 1), 2^J c1 + 2^J − 1]` of their image -/
theorem wavedec2_low_agree (hc0 hc1 hr0 hr1 : List R) (hLc : 2 ≤ hc0.length) (hLr : 2 ≤ hr0.length) :
    ∀ (J : Nat) (x x' : Img R) (H W : Nat) (r0 r1 c0 c1 : Int), Rect x H W → Rect x' H W → 1 ≤ H → 1 ≤ W →
    AgreeOn2 x x' ((2:Int) ^ J * r0 - ((2:Int) ^ J - 1) * ((hc0.length : Int) - 1)) ((2:Int) ^ J * r1 + (2:Int) ^ J - 1)
      ((2:Int) ^ J * c0 - ((2:Int) ^ J - 1) * ((hr0.length : Int) - 1)) ((2:Int) ^ J * c1 + (2:Int) ^ J - 1) →
    AgreeOn2 (Spec.wavedec2 .zero hc0 hc1 hr0 hr1 J x).1 (Spec.wavedec2 .zero hc0 hc1 hr0 hr1 J x').1 r0 r1 c0 c1
  | 0, x, x', H, W, r0, r1, c0, c1, _, _, _, _, hw => by
    simp only [pow_zero, one_mul, sub_self, zero_mul, sub_zero, add_sub_cancel_right] at hw
    exact hw
  | J+1, x, x', H, W, r0, r1, c0, c1, hx, hx', hH, hW, hw => by
    simp only [Spec.wavedec2, Spec.dwt2]
    have e2 : (2:Int) ^ (J + 1) = 2 * (2:Int) ^ J := by rw [pow_succ]; ring
    rw [e2] at hw
    have hK : 1 ≤ dwtCoeffLen H hc0.length := bandLen_pos H hc0.length hLc hH
    have hKw : 1 ≤ dwtCoeffLen W hr0.length := bandLen_pos W hr0.length hLr hW
    apply wavedec2_low_agree hc0 hc1 hr0 hr1 hLc hLr J _ _ _ _ r0 r1 c0 c1 (band_rect hc0 hr0 x H W hx hH hW hLr)
      (band_rect hc0 hr0 x' H W hx' hH hW hLr) hK hKw
    apply low_zero_agree hc0 hr0 hLr x x' H W hx hx' hH hW
    intro i j h1 h2 h3 h4
    obtain ⟨a1, a2⟩ := win_step ((2:Int) ^ J) ((hc0.length : Int)) r0 r1
    obtain ⟨b1, b2⟩ := win_step ((2:Int) ^ J) ((hr0.length : Int)) c0 c1
    exact hw i j (le_trans a1 h1) (le_trans h2 a2) (le_trans b1 h3) (le_trans h4 b2)

end WV.C07X
