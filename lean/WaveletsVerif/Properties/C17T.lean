/-
  C17 — "its inverse is its transpose, so applying the inverse transform to a cotangent equals back-propagating it",
  in two dimensions and for the whole J-level pyramid.

  One level, one channel, periodization, even sides not shorter than the filters:
    * the model of `AFB2D.backward` IS the model of `SFB2D.forward` on the same buffers (`backprop_eq_inverse`): both
      synthesise columns then rows, and the fold/crop of the backward pass is the identity on an image that already has
      the saved size (`foldCrop2_id`);
    * hence, with `C05P.AFB2D_per_adjoint`, `⟨AFB2D.forward x, g⟩ = ⟨x, SFB2D.forward g⟩` for every image and every
      cotangent (`inverse_is_transpose`) — for ANY even-length filters: orthonormality is what makes this transpose the
      inverse (C02K / C17K), not what makes it the transpose.
  J levels (one channel, every level with even sides not shorter than the filters, `C17K.LevelsOK2`):
  `⟨DWTForward x, P⟩ = ⟨x, DWTInverse P⟩` for every cotangent pyramid `P` of forward shapes (`DWT2D_inverse_is_transpose`),
  by induction over the levels (the coarsest levels are synthesised first; no un-padding occurs at even sizes).
-/
import WaveletsVerif.Properties.C17K
import WaveletsVerif.Properties.C05P
namespace WV.C17T
open Finset WV WV.C04 WV.C06 WV.C05D WV.C05P WV.C17K
variable {R : Type} [CommRing R]

/-- the fold / crop of the backward pass does nothing to an image that already has the saved size -/
theorem foldCrop2_id (m : Mode) (d : Img R) (H W : Nat) (hd : Rect d H W) (hH : 1 ≤ H) (hW : 1 ≤ W) : foldCrop2 m H W d = d := by
  rw [foldCrop2_val m d H W H W hd hH hW (fun c hc => by rw [foldCrop_id m H c (le_of_eq hc), hc])
    (fun c hc => by rw [foldCrop_id m W c (le_of_eq hc), hc])]
  conv_rhs => rw [rect_eq_tab2 d H W hd]
  apply tab2_congr; intro i hi j hj
  rw [foldCrop_id m W _ (by simp), getN_tab, if_pos hj, foldCrop_id m H _ (by simp [col, hd.1]), get2_eq_getN_col d H W hd i j hi]

theorem AFB2D_backward_eq_map (m : Mode) (wr0 wr1 wc0 wc1 : List R) (H W : Nat) (low : List (Img R)) (highs : List (List (Img R))) :
    AFB2D_backward m wr0 wr1 wc0 wc1 H W low highs
      = (SFB2D_forward m wr0 wr1 wc0 wc1 low highs).map (List.map (foldCrop2 m H W)) :=
  AFB2D_backward_eq_SFB2D_forward m wr0 wr1 wc0 wc1 H W low highs

theorem dxFullP_even (wr0 wr1 wc0 wc1 : List R) (H W : Nat) (hHe : H % 2 = 0) (hWe : W % 2 = 0) (gll glh ghl ghh : Img R) :
    dxFullP wr0 wr1 wc0 wc1 H W gll glh ghl ghh = rowzip (Ip wr0.reverse wr1.reverse) (2 * (H / 2)) (2 * (W / 2))
      (colzip (Ip wc0.reverse wc1.reverse) (2 * (H / 2)) (W / 2) gll glh) (colzip (Ip wc0.reverse wc1.reverse) (2 * (H / 2)) (W / 2) ghl ghh) := by
  unfold dxFullP
  simp only [half_even H hHe, half_even W hWe]

section onelevel
variable (wr0 wr1 wc0 wc1 : List R) (hLr : 2 ≤ wr0.length) (hLre : wr0.length % 2 = 0) (hwr : wr1.length = wr0.length)
    (hLc : 2 ≤ wc0.length) (hLce : wc0.length % 2 = 0) (hwc : wc1.length = wc0.length) (H W : Nat)
    (hHe : H % 2 = 0) (hWe : W % 2 = 0) (hfH : wc0.length ≤ H) (hfW : wr0.length ≤ W)

include hLr hwr hLc hwc hHe hWe hfH hfW in
/-- the value of the model of `SFB2D.forward` in periodization on one channel: column synthesis of (ll, lh) and of (hl, hh),
then row synthesis; the result has the size `H × W` -/
theorem SFB2D_forward_per_val (gll glh ghl ghh : Img R)
    (r1 : Rect gll (H / 2) (W / 2)) (r2 : Rect glh (H / 2) (W / 2)) (r3 : Rect ghl (H / 2) (W / 2)) (r4 : Rect ghh (H / 2) (W / 2)) :
    SFB2D_forward .periodization wr0.reverse wr1.reverse wc0.reverse wc1.reverse [gll] [[glh, ghl, ghh]]
      = some [dxFullP wr0 wr1 wc0 wc1 H W gll glh ghl ghh] ∧ Rect (dxFullP wr0 wr1 wc0 wc1 H W gll glh ghl ghh) H W := by
  have eH := two_mul_half H hHe
  have eW := two_mul_half W hWe
  have hKh : 1 ≤ H / 2 := Nat.div_pos (Nat.le_trans hLc hfH) (by decide)
  have hKw : 1 ≤ W / 2 := Nat.div_pos (Nat.le_trans hLr hfW) (by decide)
  have hv := SFB2D_forward_one .periodization _ _ _ _ (Ip wr0.reverse wr1.reverse) (Ip wc0.reverse wc1.reverse) _ _ _ _
    (synthVal_per wc0 wc1 hLc hwc (H / 2) hKh (eH.symm ▸ hfH)) (synthVal_per wr0 wr1 hLr hwr (W / 2) hKw (eW.symm ▸ hfW))
    gll glh ghl ghh r1 r2 r3 r4 hKh hKw
  rw [dxFullP_even wr0 wr1 wc0 wc1 H W hHe hWe]
  refine ⟨hv, ?_⟩
  have := rowzip_rect (Ip wr0.reverse wr1.reverse) (2 * (H / 2)) (2 * (W / 2))
    (colzip (Ip wc0.reverse wc1.reverse) (2 * (H / 2)) (W / 2) gll glh) (colzip (Ip wc0.reverse wc1.reverse) (2 * (H / 2)) (W / 2) ghl ghh)
  rwa [eH, eW] at this ⊢

include hLr hwr hLc hwc hHe hWe hfH hfW in
/-- back-propagating a cotangent through one level IS applying the inverse level to it (same buffers, even sizes) -/
theorem backprop_eq_inverse (gll glh ghl ghh : Img R)
    (r1 : Rect gll (H / 2) (W / 2)) (r2 : Rect glh (H / 2) (W / 2)) (r3 : Rect ghl (H / 2) (W / 2)) (r4 : Rect ghh (H / 2) (W / 2)) :
    AFB2D_backward .periodization wr0.reverse wr1.reverse wc0.reverse wc1.reverse H W [gll] [[glh, ghl, ghh]]
      = SFB2D_forward .periodization wr0.reverse wr1.reverse wc0.reverse wc1.reverse [gll] [[glh, ghl, ghh]] := by
  obtain ⟨hv, hr⟩ := SFB2D_forward_per_val wr0 wr1 wc0 wc1 hLr hwr hLc hwc H W hHe hWe hfH hfW gll glh ghl ghh r1 r2 r3 r4
  rw [AFB2D_backward_eq_map, hv]
  simp only [Option.map_some, List.map_cons, List.map_nil]
  rw [foldCrop2_id .periodization _ H W hr (by omega) (by omega)]

include hLr hLre hwr hLc hLce hwc hHe hWe hfH hfW in
theorem inverse_is_transpose_val (x gll glh ghl ghh : Img R) (hx : Rect x H W)
    (r1 : Rect gll (H / 2) (W / 2)) (r2 : Rect glh (H / 2) (W / 2)) (r3 : Rect ghl (H / 2) (W / 2)) (r4 : Rect ghh (H / 2) (W / 2)) :
    dot2 (H / 2) (W / 2) (alongH (Ap wc0) (alongW (Ap wr0) x)) gll + dot2 (H / 2) (W / 2) (alongH (Ap wc1) (alongW (Ap wr0) x)) glh
        + dot2 (H / 2) (W / 2) (alongH (Ap wc0) (alongW (Ap wr1) x)) ghl + dot2 (H / 2) (W / 2) (alongH (Ap wc1) (alongW (Ap wr1) x)) ghh
      = dot2 H W x (dxFullP wr0 wr1 wc0 wc1 H W gll glh ghl ghh) := by
  have eH := half_even H hHe
  have eW := half_even W hWe
  have hH : 1 ≤ H := Nat.le_trans (Nat.le_trans (by decide) hLc) hfH
  have hW : 1 ≤ W := Nat.le_trans (Nat.le_trans (by decide) hLr) hfW
  have hd := AFB2D_per_adjoint_val wr0 wr1 wc0 wc1 hLr hLre hwr hLc hLce hwc H W hH hW (Nat.le_trans hfH (Nat.le_add_right _ _))
    (Nat.le_trans hfW (Nat.le_add_right _ _)) x gll glh ghl ghh hx
    (by rw [eH, eW]; exact r1) (by rw [eH, eW]; exact r2) (by rw [eH, eW]; exact r3) (by rw [eH, eW]; exact r4)
  rwa [eH, eW, foldCrop2_id .periodization _ H W
    (SFB2D_forward_per_val wr0 wr1 wc0 wc1 hLr hwr hLc hwc H W hHe hWe hfH hfW gll glh ghl ghh r1 r2 r3 r4).2 hH hW] at hd

include hLr hLre hwr hLc hLce hwc hHe hWe hfH hfW in
/-- one level: the inverse is the transpose of the forward transform, `⟨AFB2D.forward x, g⟩ = ⟨x, SFB2D.forward g⟩` -/
theorem inverse_is_transpose (x gll glh ghl ghh : Img R) (hx : Rect x H W)
    (r1 : Rect gll (H / 2) (W / 2)) (r2 : Rect glh (H / 2) (W / 2)) (r3 : Rect ghl (H / 2) (W / 2)) (r4 : Rect ghh (H / 2) (W / 2)) :
    ∃ ll lh hl hh y, AFB2D_forward .periodization wr0.reverse wr1.reverse wc0.reverse wc1.reverse [x] = some ([ll], [[lh, hl, hh]]) ∧
      SFB2D_forward .periodization wr0.reverse wr1.reverse wc0.reverse wc1.reverse [gll] [[glh, ghl, ghh]] = some [y] ∧
      Rect y H W ∧ Rect ll (H / 2) (W / 2) ∧ Rect lh (H / 2) (W / 2) ∧ Rect hl (H / 2) (W / 2) ∧ Rect hh (H / 2) (W / 2) ∧
      dot2 (H / 2) (W / 2) ll gll + dot2 (H / 2) (W / 2) lh glh + dot2 (H / 2) (W / 2) hl ghl + dot2 (H / 2) (W / 2) hh ghh
        = dot2 H W x y := by
  obtain ⟨hv, hr⟩ := SFB2D_forward_per_val wr0 wr1 wc0 wc1 hLr hwr hLc hwc H W hHe hWe hfH hfW gll glh ghl ghh r1 r2 r3 r4
  have hH : 1 ≤ H := Nat.le_trans (Nat.le_trans (by decide) hLc) hfH
  have hW : 1 ≤ W := Nat.le_trans (Nat.le_trans (by decide) hLr) hfW
  have rB := fun wc wr : List R => rect_Ap_band_even wc wr x H W hx hH hW hHe hWe
  exact ⟨_, _, _, _, _, C05P.AFB2D_forward_val wr0 wr1 wc0 wc1 hLr hLre hwr hLc hLce hwc H W hH hW
      (Nat.le_trans hfH (Nat.le_add_right _ _)) (Nat.le_trans hfW (Nat.le_add_right _ _)) x hx,
    hv, hr, rB _ _, rB _ _, rB _ _, rB _ _,
    inverse_is_transpose_val wr0 wr1 wc0 wc1 hLr hLre hwr hLc hLce hwc H W hHe hWe hfH hfW x gll glh ghl ghh hx r1 r2 r3 r4⟩

end onelevel

/-- inner product of two images of the shape of the first -/
def idot (x y : Img R) : R := dot2 x.length x.width x y

theorem idot_rect (x y : Img R) (H W : Nat) (hx : Rect x H W) (hH : 1 ≤ H) : idot x y = dot2 H W x y := by
  unfold idot; rw [hx.1, rect_width x H W hx hH]

/-- a cotangent pyramid of the shapes a `J`-level forward transform of an `H × W` image produces (finest level first) -/
def PyrRect : Nat → Nat → Nat → Img R → List (List (Img R)) → Prop
  | 0, H, W, gl, [] => Rect gl H W
  | J+1, H, W, gl, b :: rest =>
    (∃ glh ghl ghh, b = [glh, ghl, ghh] ∧ Rect glh (H / 2) (W / 2) ∧ Rect ghl (H / 2) (W / 2) ∧ Rect ghh (H / 2) (W / 2)) ∧
      PyrRect J (H / 2) (W / 2) gl rest
  | _, _, _, _, _ => False

/-- inner product of an output pyramid (one channel) with a cotangent pyramid -/
def pdot (yl : Img R) (yh : List (List (List (Img R)))) (gl : Img R) (gh : List (List (Img R))) : R :=
  idot yl gl + (List.zipWith (fun lvl b => idot ((lvl.getD 0 []).getD 0 []) (b.getD 0 []) + idot ((lvl.getD 0 []).getD 1 []) (b.getD 1 [])
    + idot ((lvl.getD 0 []).getD 2 []) (b.getD 2 [])) yh gh).sum

theorem pdot_nil (yl gl : Img R) : pdot yl [] gl [] = idot yl gl := by
  simp only [pdot, List.zipWith_nil_left, List.sum_nil, add_zero]

theorem pdot_cons (yl gl lh hl hh glh ghl ghh : Img R) (yh : List (List (List (Img R)))) (gh : List (List (Img R))) :
    pdot yl ([[lh, hl, hh]] :: yh) gl ([glh, ghl, ghh] :: gh) = idot lh glh + idot hl ghl + idot hh ghh + pdot yl yh gl gh := by
  simp only [pdot, List.zipWith_cons_cons, List.sum_cons, List.getD_cons_zero, List.getD_cons_succ]
  ring

/-- the J-level inverse is the transpose of the J-level forward transform (one channel, periodization, every level with even sides
not shorter than the filters, any even-length filters): `⟨DWTForward x, P⟩ = ⟨x, DWTInverse P⟩` for every image and every
cotangent pyramid `P` of forward shapes -/
theorem DWT2D_inverse_is_transpose (hr0 hr1 hc0 hc1 : List R) (hLr : 2 ≤ hr0.length) (hLre : hr0.length % 2 = 0) (hwr : hr1.length = hr0.length)
    (hLc : 2 ≤ hc0.length) (hLce : hc0.length % 2 = 0) (hwc : hc1.length = hc0.length) :
    ∀ (J : Nat) (x : Img R) (H W : Nat) (gl : Img R) (gh : List (List (Img R))), Rect x H W → 1 ≤ H → 1 ≤ W →
      LevelsOK2 hc0.length hr0.length J H W → PyrRect J H W gl gh →
      ∃ yl yh y, DWTForward .periodization hc0.reverse hc1.reverse hr0.reverse hr1.reverse J [x] = some ([yl], yh) ∧
        DWTInverse .periodization hc0.reverse hc1.reverse hr0.reverse hr1.reverse [gl] (gh.map fun b => some [b]) = some [y] ∧
        Rect y H W ∧ pdot yl yh gl gh = idot x y
  | 0, x, H, W, gl, gh, hx, hH, _, _, hp => by
    cases gh with
    | nil =>
      exact ⟨x, [], gl, by simp [DWTForward], by simp [DWTInverse], hp, pdot_nil x gl⟩
    | cons b rest => exact absurd hp (by simp [PyrRect])
  | J+1, x, H, W, gl, gh, hx, hH, hW, hok, hp => by
    cases gh with
    | nil => exact absurd hp (by simp [PyrRect])
    | cons b rest =>
      obtain ⟨⟨glh, ghl, ghh, rfl, r2, r3, r4⟩, hrest⟩ := hp
      obtain ⟨hHe, hWe, hfH, hfW, hokr⟩ := hok
      have hH2 : 1 ≤ H / 2 := Nat.div_pos (Nat.le_trans hLc hfH) (by decide)
      have hW2 : 1 ≤ W / 2 := Nat.div_pos (Nat.le_trans hLr hfW) (by decide)
      have hfv := C05P.AFB2D_forward_val hr0 hr1 hc0 hc1 hLr hLre hwr hLc hLce hwc H W hH hW
        (Nat.le_trans hfH (Nat.le_add_right _ _)) (Nat.le_trans hfW (Nat.le_add_right _ _)) x hx
      have rB := fun wc wr : List R => rect_Ap_band_even wc wr x H W hx hH hW hHe hWe
      obtain ⟨yl, yh, y', hfr, hir, ry', hdr⟩ := DWT2D_inverse_is_transpose hr0 hr1 hc0 hc1 hLr hLre hwr hLc hLce hwc J _ (H / 2) (W / 2)
        gl rest (rB hc0 hr0) hH2 hW2 hokr hrest
      obtain ⟨hi, ry⟩ := SFB2D_forward_per_val hr0 hr1 hc0 hc1 hLr hwr hLc hwc H W hHe hWe hfH hfW y' glh ghl ghh ry' r2 r3 r4
      refine ⟨yl, [[alongH (Ap hc1) (alongW (Ap hr0) x), alongH (Ap hc0) (alongW (Ap hr1) x), alongH (Ap hc1) (alongW (Ap hr1) x)]] :: yh,
        dxFullP hr0 hr1 hc0 hc1 H W y' glh ghl ghh, ?_, ?_, ry, ?_⟩
      · exact DWTForward_succ _ _ _ _ _ J _ _ _ _ _ hfv hfr
      · rw [List.map_cons, DWTInverse_cons, hir, Option.bind_some]
        have hstep : DWTInverse_step .periodization hc0.reverse hc1.reverse hr0.reverse hr1.reverse [y'] (some [[glh, ghl, ghh]])
            = SFB2D_forward .periodization hr0.reverse hr1.reverse hc0.reverse hc1.reverse [y'] [[glh, ghl, ghh]] := by
          unfold DWTInverse_step
          simp only [List.headD_cons, ry'.1, r2.1, rect_width _ _ _ ry' hH2, rect_width _ _ _ r2 hH2, gt_iff_lt, lt_self_iff_false, if_false]
        rw [hstep, hi]
      · rw [pdot_cons, hdr, idot_rect _ _ _ _ (rB hc1 hr0) hH2, idot_rect _ _ _ _ (rB hc0 hr1) hH2, idot_rect _ _ _ _ (rB hc1 hr1) hH2,
          idot_rect _ _ _ _ (rB hc0 hr0) hH2, idot_rect x _ H W hx hH,
          ← inverse_is_transpose_val hr0 hr1 hc0 hc1 hLr hLre hwr hLc hLce hwc H W hHe hWe hfH hfW x y' glh ghl ghh hx ry' r2 r3 r4]
        ring

/-- the shape hypothesis `PyrRect` of `DWT2D_inverse_is_transpose` is satisfiable: a one-level cotangent pyramid for a 4 × 4 image -/
example : PyrRect 1 4 4 ([[1, 2], [3, 4]] : Img Int) [[[[1, 0], [0, 1]], [[2, 0], [0, 2]], [[0, 3], [3, 0]]]] := by
  refine ⟨⟨_, _, _, rfl, ?_, ?_, ?_⟩, ?_⟩ <;> (constructor <;> simp)

end WV.C17T
