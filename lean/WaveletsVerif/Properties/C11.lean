/-
  C11 — DTCWT synthesis on arbitrary pyramids; absent inputs.

  * the four poly-phase branches of `colifilt` are interleaved as rows `4t … 4t+3`, and with `prep_filt` buffers they
    are the reference's interpolating filter (`colifilt1_eq_ref`);
  * `colifilt` raises exactly for odd (or empty) columns;
  * with the band-pass level absent, `inv_j2plus` is the low-pass-only synthesis
    `rowifilt(colifilt(ll, g0b, g0a), g0b, g0a)`; that an absent input computes what an input of zeros does is C11Z;
  * `DTCWTInverse` with nothing present raises.
-/
import WaveletsVerif.Lemmas.Basic
import WaveletsVerif.Model.Dtcwt
import WaveletsVerif.Properties.C03
namespace WV.C11
open Finset WV
variable {R : Type} [CommRing R]

theorem interleave4_get (a b c d : List R) (t : Nat) (ht : t < a.length) :
    getN (interleave4 a b c d) (4*t) = getN a t ∧ getN (interleave4 a b c d) (4*t+1) = getN b t ∧
    getN (interleave4 a b c d) (4*t+2) = getN c t ∧ getN (interleave4 a b c d) (4*t+3) = getN d t := by
  unfold interleave4
  have hlt : 4*t + 3 < 4 * a.length := by omega
  refine ⟨?_, ?_, ?_, ?_⟩
  · rw [getN_tab, if_pos (by omega), Nat.mul_mod_right, Nat.mul_div_cancel_left t (by decide)]; rfl
  · rw [getN_tab, if_pos (by omega), Nat.mul_add_mod, Nat.mul_add_div (by decide)]; rfl
  · rw [getN_tab, if_pos (by omega), Nat.mul_add_mod, Nat.mul_add_div (by decide)]; rfl
  · rw [getN_tab, if_pos hlt, Nat.mul_add_mod, Nat.mul_add_div (by decide)]; rfl

theorem interleave4_ext (a b c d : List R) (n N : Nat) (F : Nat → R) (hl : a.length = n) (hN : N = 4 * n)
    (h0 : ∀ i, i / 4 < n → i % 4 = 0 → getN a (i/4) = F i) (h1 : ∀ i, i / 4 < n → i % 4 = 1 → getN b (i/4) = F i)
    (h2 : ∀ i, i / 4 < n → i % 4 = 2 → getN c (i/4) = F i) (h3 : ∀ i, i / 4 < n → i % 4 = 3 → getN d (i/4) = F i) :
    interleave4 a b c d = tab N F := by
  unfold interleave4
  rw [hl]
  apply tab_ext hN.symm
  intro i hi
  have hv : i / 4 < n := by omega
  have hmod : i % 4 = 0 ∨ i % 4 = 1 ∨ i % 4 = 2 ∨ i % 4 = 3 := by omega
  rcases hmod with h | h | h | h
  · simp only [h]; exact h0 i hv h
  · simp only [h]; exact h1 i hv h
  · simp only [h]; exact h2 i hv h
  · simp only [h]; exact h3 i hv h

def everyOther (x : List R) (st cnt : Nat) : List R := tab cnt fun i => getN x (st + 2*i)

/-- the slices `x[a:-k:2]` that leave out two or three of the `2c + 2` samples -/
theorem slice2_everyOther (x : List R) (a k c : Nat) (hx : x.length = 2*c + 2) (hc : 1 ≤ c) (hk0 : 0 < k)
    (hak : a + k = 2 ∨ a + k = 3) : slice2 x (a:Int) (-(k:Int)) = everyOther x a c := by
  have h1 : a ≤ x.length := by omega
  have h2 : k ≤ x.length := by omega
  have h3 : (x.length - k - a + 1) / 2 = c := by omega
  unfold slice2 everyOther
  rw [pyBound_nat _ _ h1, pyBound_neg _ _ h2 hk0, ← h3]

theorem slice2From_everyOther (x : List R) (a c : Nat) (hx : x.length = 2*c + 2) (hc : 1 ≤ c) (ha : a = 2 ∨ a = 3) :
    slice2From x (a:Int) = everyOther x a c := by
  have h1 : a ≤ x.length := by omega
  have h3 : (x.length - a + 1) / 2 = c := by omega
  rw [C03.slice2From_eq x a h1, h3]; rfl

/-- taps of the poly-phase split of the reversed buffer: `prep_filt(h)[off::2][j] = h[m−1−off−2j]` -/
theorem taps_get (h : List R) (off j : Nat) (hoff : off ≤ 1) (hm : h.length % 2 = 0) (hj : j < h.length / 2) :
    getN (slice2From h.reverse (off:Int)) j = getN h (h.length - 1 - off - 2*j) := by
  have hl : off ≤ h.reverse.length := by rw [List.length_reverse]; omega
  have hj2 : j < (h.reverse.length - off + 1) / 2 := by rw [List.length_reverse]; omega
  rw [C03.slice2From_eq _ _ hl, getN_tab, if_pos hj2]
  rw [getN_reverse' h (off + 2*j) (by omega)]
  congr 1
  omega

theorem taps_length (h : List R) (off : Nat) (hoff : off ≤ 1) (hm : h.length % 2 = 0) (hm2 : 2 ≤ h.length) :
    (slice2From h.reverse (off:Int)).length = h.length / 2 := by
  have hl : off ≤ h.reverse.length := by rw [List.length_reverse]; omega
  rw [C03.slice2From_eq _ _ hl, length_tab, List.length_reverse]; omega

theorem branch_length (h x : List R) (off st : Nat) (hoff : off ≤ 1) (hm : h.length % 2 = 0) (hm2 : 2 ≤ h.length)
    (hr : x.length % 2 = 0) (hr0 : 0 < x.length) :
    (corr (slice2From h.reverse (off:Int)) (everyOther (symmPad x (h.length/2)) st (x.length/2 + h.length/2 - 1)) 1 1).length
      = x.length / 2 := by
  rw [corr_length, taps_length h off hoff hm hm2]
  unfold everyOther corrLen
  rw [length_tab, if_neg (by omega)]
  omega

/-- one poly-phase branch: stride-1 correlation of `m/2` taps with every second extended sample from `st` -/
theorem branch_get (h x : List R) (off st v : Nat) (hoff : off ≤ 1) (hst : st ≤ 3) (hm : h.length % 2 = 0)
    (hm2 : 2 ≤ h.length) (hr : x.length % 2 = 0) (hr0 : 0 < x.length) (hv : v < x.length / 2) :
    getN (corr (slice2From h.reverse (off:Int)) (everyOther (symmPad x (h.length/2)) st (x.length/2 + h.length/2 - 1)) 1 1) v
      = ∑ j ∈ range (h.length/2), getN h (h.length - 1 - off - 2*j) * Spec.xt x (2*((v:Int) + j) + st - ((h.length/2 : Nat):Int)) := by
  have hl := taps_length h off hoff hm hm2
  have hk : v < corrLen (everyOther (symmPad x (h.length/2)) st (x.length/2 + h.length/2 - 1)).length
      (slice2From h.reverse (off:Int)).length 1 1 := by
    have := branch_length h x off st hoff hm hm2 hr hr0
    rw [corr_length] at this
    rw [this]; exact hv
  rw [getN_corr1 _ _ 1 v hk, hl]
  apply Finset.sum_congr rfl; intro j hj
  have hj' : j < h.length / 2 := by simpa using hj
  rw [taps_get h off j hoff hm hj', ← getN_eq_getZ]
  unfold everyOther
  rw [getN_tab]
  have hlt : v + 1 * j < x.length / 2 + h.length / 2 - 1 := by omega
  simp only [hlt, if_true]
  rw [C03.getN_symmPad _ _ _ (by omega)]
  congr 2
  push_cast; ring

/-- `branch_get` for a filter of length `m`, with the tap index and the sum written as in `Spec.colifilt` -/
theorem branch_spec (h x : List R) (m off st v : Nat) (hh : h.length = m) (hoff : off ≤ 1) (hst : st ≤ 3)
    (hm : m % 2 = 0) (hm2 : 2 ≤ m) (hr : x.length % 2 = 0) (hr0 : 0 < x.length) (hv : v < x.length / 2) :
    getN (corr (slice2From h.reverse (off:Int)) (everyOther (symmPad x (m/2)) st (x.length/2 + m/2 - 1)) 1 1) v
      = sumN (m/2) fun j => getN h (m - (1 + off) - 2*j) * Spec.xt x (2*((v:Int) + j) + (st:Int) - ((m/2 : Nat):Int)) := by
  subst hh
  rw [branch_get h x off st v hoff hst hm hm2 hr hr0 hv, sumN_eq]
  apply Finset.sum_congr rfl; intro j _
  rw [show h.length - (1 + off) - 2*j = h.length - 1 - off - 2*j by omega]

/-- a column of even length `N`, extended by `m ≥ 1` samples on either side, holds `2(N/2 + m − 1) + 2` samples -/
theorem symmPad_even_size (N m : Nat) (hN : N % 2 = 0) (hN0 : 0 < N) (hm : 1 ≤ m) :
    m + N + m = 2 * (N / 2 + m - 1) + 2 ∧ 1 ≤ N / 2 + m - 1 := by
  omega

/-- `colifilt(X, prep_filt(ha), prep_filt(hb), highpass)` is the reference's interpolating filter: the four
poly-phase branches with the reference's tap and phase assignment for both parities of `m/2` and both
`highpass` flags — every positive even column length, every even filter length ≥ 2 common to the two trees
(`hb.length = ha.length`). -/
theorem colifilt1_eq_ref (ha hb x : List R) (hp : Bool) (hr : x.length % 2 = 0) (hr0 : 0 < x.length)
    (hm : ha.length % 2 = 0) (hm2 : 2 ≤ ha.length) (hab : hb.length = ha.length) :
    colifilt1 (prepFilt ha) (prepFilt hb) hp x = some (Spec.colifilt ha hb hp x) := by
  obtain ⟨hsz, hc1⟩ := symmPad_even_size x.length (ha.length/2) hr hr0 (by omega)
  have hxe : (symmPad x (ha.length/2)).length = 2 * (x.length/2 + ha.length/2 - 1) + 2 := by
    rw [C03.length_symmPad, hsz]
  -- each of the six slices of the extended column that occur holds its `x.length/2 + m/2 − 1` samples from
  -- `a = 0 … 3` on, every second one
  have s0 : slice2 (symmPad x (ha.length/2)) 0 (-2) = everyOther (symmPad x (ha.length/2)) 0 (x.length/2 + ha.length/2 - 1) :=
    slice2_everyOther _ 0 2 _ hxe hc1 (by decide) (Or.inl rfl)
  have s1 : slice2 (symmPad x (ha.length/2)) 1 (-2) = everyOther (symmPad x (ha.length/2)) 1 (x.length/2 + ha.length/2 - 1) :=
    slice2_everyOther _ 1 2 _ hxe hc1 (by decide) (Or.inr rfl)
  have s2 : slice2From (symmPad x (ha.length/2)) 2 = everyOther (symmPad x (ha.length/2)) 2 (x.length/2 + ha.length/2 - 1) :=
    slice2From_everyOther _ 2 _ hxe hc1 (Or.inl rfl)
  have s3 : slice2From (symmPad x (ha.length/2)) 3 = everyOther (symmPad x (ha.length/2)) 3 (x.length/2 + ha.length/2 - 1) :=
    slice2From_everyOther _ 3 _ hxe hc1 (Or.inr rfl)
  have t1 : slice2 (symmPad x (ha.length/2)) 1 (-1) = everyOther (symmPad x (ha.length/2)) 1 (x.length/2 + ha.length/2 - 1) :=
    slice2_everyOther _ 1 1 _ hxe hc1 (by decide) (Or.inl rfl)
  have t2 : slice2 (symmPad x (ha.length/2)) 2 (-1) = everyOther (symmPad x (ha.length/2)) 2 (x.length/2 + ha.length/2 - 1) :=
    slice2_everyOther _ 2 1 _ hxe hc1 (by decide) (Or.inr rfl)
  -- branch `(h, off, st)`: taps `h[m−1−off−2j]` against the samples of phase `st`
  have B := fun (h : List R) (hh : h.length = ha.length) (off st : Nat) (hoff : off ≤ 1) (hst : st ≤ 3) (i : Nat)
      (hv : i / 4 < x.length / 2) => branch_spec h x ha.length off st (i/4) hh hoff hst hm hm2 hr hr0 hv
  have L := fun (off st : Nat) (hoff : off ≤ 1) => branch_length ha x off st hoff hm hm2 hr hr0
  have hN : 2 * x.length = 4 * (x.length / 2) := by omega
  unfold colifilt1 prepFilt Spec.colifilt
  rw [if_neg (by omega : ¬ (x.length % 2 ≠ 0 ∨ x.length = 0))]
  simp only [List.length_reverse]
  by_cases hpar : ha.length / 2 % 2 = 0
  · simp only [hpar, if_true]
    cases hp
    · simp only [Bool.false_eq_true, if_false, s0, s1, s2, s3]
      refine congrArg some (interleave4_ext _ _ _ _ _ _ _ (L 0 0 (by decide)) hN ?_ ?_ ?_ ?_)
      · intro i hv h; rw [h]; exact B ha rfl 0 0 (by decide) (by decide) i hv
      · intro i hv h; rw [h]; exact B hb hab 0 1 (by decide) (by decide) i hv
      · intro i hv h; rw [h]; exact B ha rfl 1 2 (by decide) (by decide) i hv
      · intro i hv h; rw [h]; exact B hb hab 1 3 (by decide) (by decide) i hv
    · simp only [if_true, s0, s1, s2, s3]
      refine congrArg some (interleave4_ext _ _ _ _ _ _ _ (L 0 1 (by decide)) hN ?_ ?_ ?_ ?_)
      · intro i hv h; rw [h]; exact B ha rfl 0 1 (by decide) (by decide) i hv
      · intro i hv h; rw [h]; exact B hb hab 0 0 (by decide) (by decide) i hv
      · intro i hv h; rw [h]; exact B ha rfl 1 3 (by decide) (by decide) i hv
      · intro i hv h; rw [h]; exact B hb hab 1 2 (by decide) (by decide) i hv
  · simp only [hpar, if_false]
    cases hp
    · simp only [Bool.false_eq_true, if_false, t1, t2]
      refine congrArg some (interleave4_ext _ _ _ _ _ _ _ (L 1 1 (by decide)) hN ?_ ?_ ?_ ?_)
      · intro i hv h; rw [h]; exact B ha rfl 1 1 (by decide) (by decide) i hv
      · intro i hv h; rw [h]; exact B hb hab 1 2 (by decide) (by decide) i hv
      · intro i hv h; rw [h]; exact B ha rfl 0 1 (by decide) (by decide) i hv
      · intro i hv h; rw [h]; exact B hb hab 0 2 (by decide) (by decide) i hv
    · simp only [if_true, t1, t2]
      refine congrArg some (interleave4_ext _ _ _ _ _ _ _ (L 1 2 (by decide)) hN ?_ ?_ ?_ ?_)
      · intro i hv h; rw [h]; exact B ha rfl 1 2 (by decide) (by decide) i hv
      · intro i hv h; rw [h]; exact B hb hab 1 1 (by decide) (by decide) i hv
      · intro i hv h; rw [h]; exact B ha rfl 0 2 (by decide) (by decide) i hv
      · intro i hv h; rw [h]; exact B hb hab 0 1 (by decide) (by decide) i hv

theorem colifilt1_raises_iff (ha hb x : List R) (hp : Bool) :
    colifilt1 ha hb hp x = none ↔ (x.length % 2 ≠ 0 ∨ x.length = 0) := by
  unfold colifilt1
  split
  · simp_all
  · simp only [*]
    split <;> simp

theorem invJ2_absent_high (s : R) (g0a g1a g0b g1b : List R) (ll : Img R) :
    invJ2 s g0a g1a g0b g1b (some ll) none = (colifilt g0b g0a false ll).bind (rowifilt g0b g0a false) := by
  simp [invJ2]

theorem DTCWTInverse_all_absent (s : R) (sym : Bool) (f : InvFilters R) (sz : List (Nat × Nat)) (s5 : Nat × Nat)
    (highs : List (Option (List (Cplx R)))) (h : highs.all (·.isNone) = true) :
    DTCWTInverse s sym f sz s5 none highs = none := by
  unfold DTCWTInverse
  simp [h]

end WV.C11
