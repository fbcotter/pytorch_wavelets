/-
  C07 / C01 — the dependence cone of the decimated transform (mode zero), as a theorem about the PyWavelets reference
  (`DWT1DForward` is `wavedec`, C01).

  A coefficient of `pywt.dwt` reads the `L` samples `x[2k+1-(L-1) … 2k+1]` (zero outside the signal) and nothing else
  (`dwt_zero_local`); through `J` levels the low-pass coefficient `k` reads the samples
  `2^J k − (2^J − 1)(L − 1) … 2^J k + 2^J − 1` (`wavedec_low_cone`), and a band-pass coefficient of level `j` reads the
  window with `2^j` in place of `2^J` when both filters have length `L` (`wavedec_band_agree`).  Two signals of the same
  length that agree on that window - whatever they hold elsewhere: other finite values, or, over `ℝ` read as "the
  floats", a non-finite sample - have the same coefficient.  The special-values oracle (`harness/locality.py`) uses the
  radius `2^j (L + 2)`, which contains this window.  The one-level windows of `pywt.idwt` (mode zero) and of `pywt.swt`
  (circular) are `idwt_zero_local`, `swt_local`.
-/
import WaveletsVerif.Properties.C01
import Mathlib.Data.List.GetD
namespace WV.C07W
open WV
variable {R : Type} [CommRing R]

/-- one level reads a window of `L` samples -/
theorem dwt_zero_local (h x x' : List R) (hlen : x.length = x'.length) (k : Nat)
    (hw : ∀ t : Int, 2 * (k : Int) + 1 - ((h.length : Int) - 1) ≤ t → t ≤ 2 * (k : Int) + 1 → getZ x t = getZ x' t) :
    getN (Spec.dwt .zero h x) k = getN (Spec.dwt .zero h x') k := by
  unfold Spec.dwt
  simp only [Spec.ext]
  rw [getN_tab, getN_tab, hlen]
  split
  · rw [sumN_eq, sumN_eq]
    apply Finset.sum_congr rfl
    intro j hj
    have hj' := Finset.mem_range.mp hj
    rw [hw (2 * (k : Int) + 1 - j) (by omega) (by omega)]
  · rfl

/-- two signals agree on a window (as zero-extended sequences) -/
def AgreeOn (x x' : List R) (lo hi : Int) : Prop := ∀ t : Int, lo ≤ t → t ≤ hi → getZ x t = getZ x' t

theorem dwt_zero_agree (h x x' : List R) (hlen : x.length = x'.length) (lo hi : Int)
    (hw : AgreeOn x x' (2 * lo + 1 - ((h.length : Int) - 1)) (2 * hi + 1)) :
    AgreeOn (Spec.dwt .zero h x) (Spec.dwt .zero h x') lo hi := by
  intro t h1 h2
  by_cases ht : 0 ≤ t
  · have e : ∀ y : List R, getZ y t = getN y t.toNat := by
      intro y; unfold getZ getN; rw [if_pos ht]
    rw [e, e]
    apply dwt_zero_local h x x' hlen t.toNat
    intro u hu1 hu2
    have : (t.toNat : Int) = t := Int.toNat_of_nonneg ht
    exact hw u (by omega) (by omega)
  · unfold getZ; rw [if_neg ht, if_neg ht]

/-- the window of level `J + 1` (`p = 2^J`) contains the one-level window around the window of level `J` -/
theorem win_step (p L lo hi : Int) :
    2 * p * lo - (2 * p - 1) * (L - 1) ≤ 2 * (p * lo - (p - 1) * (L - 1)) + 1 - (L - 1) ∧
      2 * (p * hi + p - 1) + 1 ≤ 2 * p * hi + 2 * p - 1 :=
  ⟨by linarith, by linarith⟩

theorem AgreeOn.step {x x' : List R} (p L lo hi : Int)
    (hw : AgreeOn x x' (2 * p * lo - (2 * p - 1) * (L - 1)) (2 * p * hi + 2 * p - 1)) :
    AgreeOn x x' (2 * (p * lo - (p - 1) * (L - 1)) + 1 - (L - 1)) (2 * (p * hi + p - 1) + 1) :=
  fun t h1 h2 => hw t (le_trans (win_step p L lo hi).1 h1) (le_trans h2 (win_step p L lo hi).2)

theorem dwt_zero_len (h c : List R) : (Spec.dwt .zero h c).length = dwtCoeffLen c.length h.length := by simp [Spec.dwt]

theorem dwt_zero_length (h x x' : List R) (hlen : x.length = x'.length) :
    (Spec.dwt .zero h x).length = (Spec.dwt .zero h x').length := by
  rw [dwt_zero_len, dwt_zero_len, hlen]

/-- `J` levels: the low-pass coefficients with indices in `[lo, hi]` read the window `[2^J lo − (2^J − 1)(L − 1), 2^J hi + 2^J − 1]` -/
theorem wavedec_low_agree (h0 h1 : List R) : ∀ (J : Nat) (x x' : List R) (lo hi : Int), x.length = x'.length →
    AgreeOn x x' ((2:Int) ^ J * lo - ((2:Int) ^ J - 1) * ((h0.length : Int) - 1)) ((2:Int) ^ J * hi + (2:Int) ^ J - 1) →
    AgreeOn (Spec.wavedec .zero h0 h1 J x).1 (Spec.wavedec .zero h0 h1 J x').1 lo hi ∧
      (Spec.wavedec .zero h0 h1 J x).1.length = (Spec.wavedec .zero h0 h1 J x').1.length
  | 0, x, x', lo, hi, hlen, hw => by
    simp only [pow_zero, one_mul, sub_self, zero_mul, sub_zero, add_sub_cancel_right] at hw
    exact ⟨hw, hlen⟩
  | J+1, x, x', lo, hi, hlen, hw => by
    simp only [Spec.wavedec]
    have e2 : (2:Int) ^ (J + 1) = 2 * (2:Int) ^ J := by rw [pow_succ]; ring
    rw [e2] at hw
    apply wavedec_low_agree h0 h1 J _ _ lo hi (dwt_zero_length h0 x x' hlen)
    exact dwt_zero_agree h0 x x' hlen _ _ (hw.step _ _ lo hi)

/-- the dependence cone of a low-pass coefficient of level `J` -/
theorem wavedec_low_cone (h0 h1 : List R) (J : Nat) (x x' : List R) (k : Nat) (hlen : x.length = x'.length)
    (hw : AgreeOn x x' ((2:Int) ^ J * k - ((2:Int) ^ J - 1) * ((h0.length : Int) - 1)) ((2:Int) ^ J * k + (2:Int) ^ J - 1)) :
    getN (Spec.wavedec .zero h0 h1 J x).1 k = getN (Spec.wavedec .zero h0 h1 J x').1 k := by
  have := (wavedec_low_agree h0 h1 J x x' k k hlen hw).1 k (le_refl _) (le_refl _)
  unfold getZ at this
  simpa [getN] using this

/-- the finest band-pass level of a `(J+1)`-level pyramid is one high-pass step on the signal itself: its coefficient `k` reads the
one-level window of `h1` -/
theorem wavedec_band_first (h0 h1 : List R) (J : Nat) (x x' : List R) (k : Nat) (hlen : x.length = x'.length)
    (hw : AgreeOn x x' (2 * (k : Int) + 1 - ((h1.length : Int) - 1)) (2 * (k : Int) + 1)) :
    getN ((Spec.wavedec .zero h0 h1 (J + 1) x).2.getD 0 []) k = getN ((Spec.wavedec .zero h0 h1 (J + 1) x').2.getD 0 []) k := by
  simp only [Spec.wavedec, List.getD_cons_zero]
  exact dwt_zero_local h1 x x' hlen k hw

/-- every band-pass level: coefficient indices `[lo, hi]` of level `i + 1` (0-based `i`) of a `J`-level pyramid read the window
`[2^(i+1) lo − (2^(i+1) − 1)(L − 1), 2^(i+1) hi + 2^(i+1) − 1]` (both filters `L` long) -/
theorem wavedec_band_agree (h0 h1 : List R) (hL : h1.length = h0.length) : ∀ (i J : Nat) (x x' : List R) (lo hi : Int), i < J →
    x.length = x'.length →
    AgreeOn x x' ((2:Int) ^ (i + 1) * lo - ((2:Int) ^ (i + 1) - 1) * ((h0.length : Int) - 1)) ((2:Int) ^ (i + 1) * hi + (2:Int) ^ (i + 1) - 1) →
    AgreeOn ((Spec.wavedec .zero h0 h1 J x).2.getD i []) ((Spec.wavedec .zero h0 h1 J x').2.getD i []) lo hi
  | 0, J+1, x, x', lo, hi, _, hlen, hw => by
    simp only [Spec.wavedec, List.getD_cons_zero]
    apply dwt_zero_agree h1 x x' hlen
    intro t ht1 ht2
    rw [hL] at ht1
    apply hw t
    · simp only [zero_add, pow_one]; linarith
    · simp only [zero_add, pow_one]; linarith
  | i+1, J+1, x, x', lo, hi, hi', hlen, hw => by
    simp only [Spec.wavedec, List.getD_cons_succ]
    apply wavedec_band_agree h0 h1 hL i J _ _ lo hi (by omega) (dwt_zero_length h0 x x' hlen)
    have e2 : (2:Int) ^ (i + 1 + 1) = 2 * (2:Int) ^ (i + 1) := by rw [pow_succ]; ring
    rw [e2] at hw
    exact dwt_zero_agree h0 x x' hlen _ _ (hw.step _ _ lo hi)
  | _, 0, _, _, _, _, h, _, _ => absurd h (by omega)

/-- the synthesis reads a window too: sample `t` of `pywt.idwt` (mode zero) reads the coefficients `k` with
`0 ≤ t + L − 2 − 2k < L` of both bands and nothing else -/
theorem idwt_zero_local (g0 g1 lo lo' hi hi' : List R) (hg : g1.length = g0.length) (hlen : lo.length = lo'.length) (t : Nat)
    (hw : ∀ k : Nat, 0 ≤ (t : Int) + g0.length - 2 - 2 * k → (t : Int) + g0.length - 2 - 2 * k < g0.length →
      getN lo k = getN lo' k ∧ getN hi k = getN hi' k) :
    getN (Spec.idwt .zero g0 g1 lo hi) t = getN (Spec.idwt .zero g0 g1 lo' hi') t := by
  unfold Spec.idwt
  simp only
  rw [getN_tab, getN_tab, hlen]
  split
  · rw [sumN_eq, sumN_eq]
    apply Finset.sum_congr rfl
    intro k _
    by_cases hin : 0 ≤ (t : Int) + g0.length - 2 - 2 * k ∧ (t : Int) + g0.length - 2 - 2 * k < g0.length
    · obtain ⟨e1, e2⟩ := hw k hin.1 hin.2
      rw [e1, e2]
    · have z0 : getZ g0 ((t : Int) + g0.length - 2 - 2 * k) = 0 := getZ_outside g0 _ (by omega)
      have z1 : getZ g1 ((t : Int) + g0.length - 2 - 2 * k) = 0 := getZ_outside g1 _ (by rw [hg]; omega)
      rw [z0, z1]; ring
  · rfl

/-- the stationary transform reads a circular window: coefficient `k` of `pywt.swt` at dilation `d` reads the `L` samples
`x[(k + d (L/2 − i)) mod N]`, `i < L`, and nothing else -/
theorem swt_local (h x x' : List R) (d : Nat) (hlen : x.length = x'.length) (k : Nat)
    (hw : ∀ i : Nat, i < h.length → getZ x (((k:Int) + (d:Int) * (((h.length / 2 : Nat):Int) - i)) % (x.length : Int))
      = getZ x' (((k:Int) + (d:Int) * (((h.length / 2 : Nat):Int) - i)) % (x.length : Int))) :
    getN (Spec.swt h x d) k = getN (Spec.swt h x' d) k := by
  unfold Spec.swt
  rw [getN_tab, getN_tab, ← hlen]
  split
  · rw [sumN_eq, sumN_eq]
    apply Finset.sum_congr rfl
    intro i hi
    rw [hw i (Finset.mem_range.mp hi)]
  · rfl

/-- the window for `db2` (`L = 4`), two levels, coefficient 5: the samples 11 … 23 -/
example : ((2:Int) ^ 2 * 5 - ((2:Int) ^ 2 - 1) * ((4:Int) - 1), (2:Int) ^ 2 * 5 + (2:Int) ^ 2 - 1) = (11, 23) := by decide

end WV.C07W
