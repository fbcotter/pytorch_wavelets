/-
  C09 — the back-propagation of the SECOND-ORDER scattering layer is the exact adjoint of its linearisation (one channel,
  no colour combination), over any commutative ring and for any "division" and "square root" operations.
  Scope: `mode='symmetric'`, non-band-pass families, symmetric level-1 filters of odd length, q-shift filters of even length ≥ 2
  with tree a the reverse of tree b, image sides `4H × 4W` with `1 ≤ H`, `1 ≤ W`, 49 cotangent images of shape `H × W`.

  The layer is three blocks of the same kind: a DTCWT level followed by smooth magnitudes of its six bands,
      x ──level 1──▶ (low₁, m₁[o] = |B₁[o]| − b)        low₁ ──level 2──▶ (low₂, |B₂[o]| − b)        m₁[o] ──level 1──▶ (L₃[o], |B₃[o][o₂]| − b)
  and 2×2 average pooling of `low₂` and of the `L₃[o]`.  Its hand-written backward pass runs, per block, the inverse level on
  the low-pass cotangent and on the band cotangents multiplied by the saved factors `re/r`, `im/r`.  A block's backward is the
  adjoint of its linearisation (`block1_adjoint`, `block2_adjoint`: the level adjointness of C06 / C06Q plus the point-wise
  factors), pooling is adjoint to ¼·up-sampling (`C09P.pool_up_adjoint`), and the three blocks compose
  (`scat2_backward_adjoint`).
-/
import WaveletsVerif.Properties.C09P
import WaveletsVerif.Properties.C06Q
import WaveletsVerif.Lemmas.Scat
namespace WV.C09Q
open Finset WV WV.C04 WV.C06 WV.C06Q WV.C09P
variable {R : Type} [CommRing R]

theorem fwdJ1_bands_rect (s : R) (h0 h1 : List R) (hh0 : h0.length % 2 = 1) (hh1 : h1.length % 2 = 1) (x : Img R) (H W : Nat)
    (hH : 1 ≤ H) (hW : 1 ≤ W) (hx : Rect x (2*H) (2*W)) :
    ∃ hs, (fwdJ1 s true (prepFilt h0) (prepFilt h1) false x).2 = some hs ∧
      ∀ k < 6, Rect (hs.getD k ([], [])).1 H W ∧ Rect (hs.getD k ([], [])).2 H W := by
  have h2H := one_le_two_mul hH
  have h2W := one_le_two_mul hW
  have rLo := alongW_rect h0 hh0 x _ _ hx
  have rHi := alongW_rect h1 hh1 x _ _ hx
  rw [fwdJ1_eq s h0 h1 hh0 hh1 x (2*H) (2*W) h2H h2W hx]
  exact ⟨_, rfl, fun k hk => highsToOrientations_rect s _ _ _ H W hH (alongH_rect h1 hh1 _ _ _ rLo h2H h2W)
    (alongH_rect h0 hh0 _ _ _ rHi h2H h2W) (alongH_rect h1 hh1 _ _ _ rHi h2H h2W) k hk⟩

/-- the linearised smooth magnitude of band `o`: `re/r · δre + im/r · δim` with the factors saved at the point `bx` -/
def lin (m : MagOps R) (H W : Nat) (bx bv : List (Cplx R)) (o : Nat) : Img R :=
  tab2 H W fun i j => get2 (savedRe m (bx.getD o ([], []))) i j * get2 (bv.getD o ([], [])).1 i j
                    + get2 (savedIm m (bx.getD o ([], []))) i j * get2 (bv.getD o ([], [])).2 i j

/-- `C09P.block1` with the bands read through `fwd1` and the linearisation named `lin` -/
theorem block1_adjoint (m : MagOps R) (h0 h1 : List R) (hh0 : h0.length % 2 = 1) (hh1 : h1.length % 2 = 1)
    (hs0 : Symm h0) (hs1 : Symm h1) (x v gl : Img R) (d : Nat → Img R) (H W : Nat) (hH : 1 ≤ H) (hW : 1 ≤ W)
    (hx : Rect x (2*H) (2*W)) (hv : Rect v (2*H) (2*W)) (hgl : Rect gl (2*H) (2*W)) (hd : ∀ o < 6, Rect (d o) H W) :
    ∃ bx bv y, (fwd1 m true (prepFilt h0) (prepFilt h1) none x).2 = bx ∧ (fwd1 m true (prepFilt h0) (prepFilt h1) none v).2 = bv ∧
      inv1 m true (prepFilt h0) (prepFilt h1) none gl (bandCot m bx d) = some y ∧ Rect y (2*H) (2*W) ∧
      dot2 (2*H) (2*W) (fwd1 m true (prepFilt h0) (prepFilt h1) none v).1 gl + ∑ k ∈ range 6, dot2 H W (lin m H W bx bv k) (d k)
        = dot2 (2*H) (2*W) v y := by
  obtain ⟨bx, bv, y, hbx, hbv, hy, ry, hid⟩ := block1 m h0 h1 hh0 hh1 hs0 hs1 x v gl d H W hH hW hx hv hgl hd
  refine ⟨bx, bv, y, ?_, ?_, hy, ry, hid⟩
  · simp only [fwd1, hbx, Option.getD_some]
  · simp only [fwd1, hbv, Option.getD_some]

/-- a level-2 scattering block (q-shift filters, tree a the time reverse of tree b): the inverse level with the trees
exchanged, applied to a low-pass cotangent `gl` and to the band cotangents `d` multiplied by the factors saved at `x`, is the
adjoint of the block's linearisation at `x` -/
theorem block2_adjoint (m : MagOps R) (k0 k1 : List R) (hm0 : k0.length % 2 = 0) (hm0' : 2 ≤ k0.length)
    (hm1 : k1.length % 2 = 0) (hm1' : 2 ≤ k1.length) (x v gl : Img R) (d : Nat → Img R) (H W : Nat) (hH : 1 ≤ H) (hW : 1 ≤ W)
    (hx : Rect x (4*H) (4*W)) (hv : Rect v (4*H) (4*W)) (hgl : Rect gl (2*H) (2*W)) (hd : ∀ o < 6, Rect (d o) H W) :
    ∃ lx bx lv bv y,
      fwd2 m (prepFilt k0.reverse) (prepFilt k1.reverse) (prepFilt k0) (prepFilt k1) none x = some (lx, bx) ∧
      fwd2 m (prepFilt k0.reverse) (prepFilt k1.reverse) (prepFilt k0) (prepFilt k1) none v = some (lv, bv) ∧
      Rect lx (2*H) (2*W) ∧ Rect lv (2*H) (2*W) ∧
      inv2 m (prepFilt k0.reverse) (prepFilt k1.reverse) (prepFilt k0) (prepFilt k1) none gl (bandCot m bx d) = some y ∧
      Rect y (4*H) (4*W) ∧
      dot2 (2*H) (2*W) lv gl + ∑ k ∈ range 6, dot2 H W (lin m H W bx bv k) (d k) = dot2 (4*H) (4*W) v y := by
  have hz : Rect (tab2 (2*H) (2*W) fun _ _ => (0 : R)) (2*H) (2*W) := tab2_rect _ _ _
  obtain ⟨lx, bx, _, hfx, _, _, rlx, _⟩ := fwdJ2_backward_adjoint_rect m.s k0 k1 hm0 hm0' hm1 hm1' x _ H W hH hW hx hz
    (fun _ _ _ => 0) (fun _ _ _ => 0)
  obtain ⟨lv, bv, y, hfv, hy, ry, rlv, hid⟩ := fwdJ2_backward_adjoint_rect m.s k0 k1 hm0 hm0' hm1 hm1' v gl H W hH hW hv hgl
    (fun k i j => get2 (d k) i j * get2 (savedRe m (bx.getD k ([], []))) i j)
    (fun k i j => get2 (d k) i j * get2 (savedIm m (bx.getD k ([], []))) i j)
  refine ⟨lx, bx, lv, bv, y, ?_, ?_, rlx, rlv, ?_, ry, ?_⟩
  · simp only [fwd2, hfx, Option.bind_eq_bind, Option.bind_some, Option.getD_some]
  · simp only [fwd2, hfv, Option.bind_eq_bind, Option.bind_some, Option.getD_some]
  · rw [bandCot_tab m bx d H W hH hd]
    exact hy
  · unfold lin
    rw [Finset.sum_congr rfl (fun k hk => lin_dot m H W bx bv d k (Finset.mem_range.mp hk)), hid]

theorem bandCot_congr (m : MagOps R) (bx : List (Cplx R)) (d d' : Nat → Img R) (h : ∀ o < 6, d o = d' o) :
    bandCot m bx d = bandCot m bx d' := by
  unfold bandCot
  apply List.map_congr_left
  intro o ho
  rw [h o (by simpa using ho)]

/-- the second-order layer's backward pass on one channel, written out: the scale-2 analysis of the level-1 low-pass, the six
inner inverse levels, the scale-2 inverse level and the outer inverse level -/
theorem scatJ2Backward_one (m : MagOps R) (f : Scat2Filters R) (x : Img R) (dZ : List (Img R)) :
    scatJ2Backward m f [x] dZ =
      (fwd2 m f.h0a f.h1a f.h0b f.h1b f.h2ab (fwd1 m true f.h0o f.h1o f.h2o x).1).bind fun r2 =>
      ((List.range 6).mapM fun k =>
        inv1 m true f.h0o f.h1o f.h2o (iscale m.q (nearestUp2 (dZ.getD (1 + k) [])))
          (bandCot m (fwd1 m true f.h0o f.h1o f.h2o (subBias m (magR m ((fwd1 m true f.h0o f.h1o f.h2o x).2.getD k ([], []))))).2
            fun o2 => dZ.getD (13 + o2 * 6 + k) [])).bind fun dm1 =>
      (inv2 m f.h0a f.h1a f.h0b f.h1b f.h2ab (iscale m.q (nearestUp2 (dZ.getD 0 []))) (bandCot m r2.2 fun o => dZ.getD (7 + o) [])).bind fun ds0 =>
      (inv1 m true f.h0o f.h1o f.h2o ds0 (bandCot m (fwd1 m true f.h0o f.h1o f.h2o x).2 fun o => dm1.getD o [])).bind fun y => some [y] := by
  have hrange : List.range 1 = [0] := rfl
  unfold scatJ2Backward
  simp only [List.length_cons, List.length_nil, zero_add, Nat.mul_one, Nat.add_zero, List.map_cons, List.map_nil, List.mapM_cons,
    List.mapM_nil, hrange, List.getD_cons_zero, flatten_singletons, Option.pure_def, Option.bind_eq_bind, Option.bind_some,
    Option.bind_assoc]
  refine Option.bind_congr fun r2 _ => ?_
  refine congrArg (fun t => Option.bind t _) (mapM_congr_mem _ _ _ fun k hk => ?_)
  rw [List.map_map, getD_range_map 6 _ _ k (List.mem_range.mp hk)]
  rfl

-- the 49 output channels: `S0` at 0, six pooled `S1` from 1, six first-order magnitudes at scale 2 from 7, 36 second-order
-- magnitudes from 13
theorem ch1_lt {o : Nat} (ho : o < 6) : 1 + o < 49 := by omega
theorem ch2_lt {o : Nat} (ho : o < 6) : 7 + o < 49 := by omega
theorem ch3_lt {o o2 : Nat} (ho : o < 6) (ho2 : o2 < 6) : 13 + o2 * 6 + o < 49 := by omega

section main
variable (m : MagOps R) (h0 h1 k0 k1 : List R) (hh0 : h0.length % 2 = 1) (hh1 : h1.length % 2 = 1) (hs0 : Symm h0) (hs1 : Symm h1)
    (hm0 : k0.length % 2 = 0) (hm0' : 2 ≤ k0.length) (hm1 : k1.length % 2 = 0) (hm1' : 2 ≤ k1.length)
    (H W : Nat) (hH : 1 ≤ H) (hW : 1 ≤ W)

/-- the filters of the second-order layer: symmetric odd-length level-1 pair, q-shift pair with tree a the reverse of tree b -/
def filt : Scat2Filters R :=
  ⟨prepFilt h0, prepFilt h1, none, prepFilt k0.reverse, prepFilt k0, prepFilt k1.reverse, prepFilt k1, none⟩

abbrev P1 : Img R → Img R × List (Cplx R) := fwd1 m true (prepFilt h0) (prepFilt h1) none

/-- first-order magnitudes at `x`, and their linearisation in the direction `v` -/
def m1 (x : Img R) (o : Nat) : Img R := subBias m (magR m ((P1 m h0 h1 x).2.getD o ([], [])))
def dm (x v : Img R) (o : Nat) : Img R := lin m (2*H) (2*W) (P1 m h0 h1 x).2 (P1 m h0 h1 v).2 o

include hh0 hh1 hs0 hs1 hm0 hm0' hm1 hm1' hH hW in
/-- the backward pass of the second-order scattering layer is the adjoint of its linearisation (one channel, no colour
combination; symmetric odd-length level-1 filters, q-shift filters of even length ≥ 2 with tree a the reverse of tree b;
sides positive multiples of 4 — the module only admits multiples of 8; any ring, any `sq` and `dv`): with
`δS0 = pool(low₂(low₁ v))`, `δS1[o] = pool(low₁(δm₁[o]))`, `δS1'[o] = lin(B₂)`, `δS2[o₂][o] = lin(B₃[o])` the sum of the inner
products with the 49 cotangent channels is `⟨v, backward(dZ)⟩` -/
theorem scat2_backward_adjoint (x v : Img R) (dZ : List (Img R)) (hx : Rect x (4*H) (4*W)) (hv : Rect v (4*H) (4*W))
    (hd : ∀ k < 49, Rect (dZ.getD k []) H W) :
    ∃ lx2 B2x lv2 B2v dX,
      fwd2 m (prepFilt k0.reverse) (prepFilt k1.reverse) (prepFilt k0) (prepFilt k1) none (P1 m h0 h1 x).1 = some (lx2, B2x) ∧
      fwd2 m (prepFilt k0.reverse) (prepFilt k1.reverse) (prepFilt k0) (prepFilt k1) none (P1 m h0 h1 v).1 = some (lv2, B2v) ∧
      scatJ2Backward m (filt h0 h1 k0 k1) [x] dZ = some [dX] ∧
      dot2 H W (avgPool2 m.q lv2) (dZ.getD 0 [])
        + ∑ o ∈ range 6, dot2 H W (avgPool2 m.q (P1 m h0 h1 (dm m h0 h1 H W x v o)).1) (dZ.getD (1 + o) [])
        + ∑ o ∈ range 6, dot2 H W (lin m H W B2x B2v o) (dZ.getD (7 + o) [])
        + ∑ o ∈ range 6, ∑ o2 ∈ range 6,
            dot2 H W (lin m H W (P1 m h0 h1 (m1 m h0 h1 x o)).2 (P1 m h0 h1 (dm m h0 h1 H W x v o)).2 o2) (dZ.getD (13 + o2 * 6 + o) [])
        = dot2 (4*H) (4*W) v dX := by
  have e4H : 4 * H = 2 * (2 * H) := by ring
  have e4W : 4 * W = 2 * (2 * W) := by ring
  have h2H := one_le_two_mul hH
  have h2W := one_le_two_mul hW
  have hx' : Rect x (2 * (2 * H)) (2 * (2 * W)) := by rw [← e4H, ← e4W]; exact hx
  have hv' : Rect v (2 * (2 * H)) (2 * (2 * W)) := by rw [← e4H, ← e4W]; exact hv
  obtain ⟨B1x, hB1x, rB1x⟩ := fwdJ1_bands_rect m.s h0 h1 hh0 hh1 x (2*H) (2*W) h2H h2W hx'
  have eB1x : (P1 m h0 h1 x).2 = B1x := by simp only [P1, fwd1, hB1x, Option.getD_some]
  have rlow1x : Rect (P1 m h0 h1 x).1 (4*H) (4*W) := by
    rw [e4H, e4W]; exact (C04P.fwdJ1_shape m.s h0 h1 hh0 hh1 x (2*H) (2*W) h2H h2W hx').1
  have rlow1v : Rect (P1 m h0 h1 v).1 (4*H) (4*W) := by
    rw [e4H, e4W]; exact (C04P.fwdJ1_shape m.s h0 h1 hh0 hh1 v (2*H) (2*W) h2H h2W hv').1
  have rm1 : ∀ o < 6, Rect (m1 m h0 h1 x o) (2*H) (2*W) := by
    intro o ho
    unfold m1
    rw [eB1x]
    exact subBias_rect m _ _ _ (magR_rect m _ _ _ (rB1x o ho).1.1 (rect_width _ _ _ (rB1x o ho).1 h2H))
  have rdm : ∀ o, Rect (dm m h0 h1 H W x v o) (2*H) (2*W) := fun o => tab2_rect _ _ _
  have rup : ∀ k < 49, Rect (iscale m.q (nearestUp2 (dZ.getD k []))) (2*H) (2*W) := fun k hk =>
    iscale_rect _ _ _ _ (nearestUp2_rect _ H W (hd k hk) hH)
  -- inner blocks: second order back to the first-order magnitudes
  let dm1 : Nat → Img R := fun o =>
    (inv1 m true (prepFilt h0) (prepFilt h1) none (iscale m.q (nearestUp2 (dZ.getD (1 + o) [])))
      (bandCot m (P1 m h0 h1 (m1 m h0 h1 x o)).2 fun o2 => dZ.getD (13 + o2 * 6 + o) [])).getD []
  have inner : ∀ o < 6,
      inv1 m true (prepFilt h0) (prepFilt h1) none (iscale m.q (nearestUp2 (dZ.getD (1 + o) [])))
        (bandCot m (P1 m h0 h1 (m1 m h0 h1 x o)).2 fun o2 => dZ.getD (13 + o2 * 6 + o) []) = some (dm1 o) ∧
      Rect (dm1 o) (2*H) (2*W) ∧
      dot2 H W (avgPool2 m.q (P1 m h0 h1 (dm m h0 h1 H W x v o)).1) (dZ.getD (1 + o) [])
        + ∑ o2 ∈ range 6, dot2 H W (lin m H W (P1 m h0 h1 (m1 m h0 h1 x o)).2 (P1 m h0 h1 (dm m h0 h1 H W x v o)).2 o2)
            (dZ.getD (13 + o2 * 6 + o) [])
        = dot2 (2*H) (2*W) (dm m h0 h1 H W x v o) (dm1 o) := by
    intro o ho
    obtain ⟨bx, bv, y, hbx, hbv, hy, ry, hid⟩ := block1_adjoint m h0 h1 hh0 hh1 hs0 hs1 (m1 m h0 h1 x o) (dm m h0 h1 H W x v o)
      (iscale m.q (nearestUp2 (dZ.getD (1 + o) []))) (fun o2 => dZ.getD (13 + o2 * 6 + o) []) H W hH hW (rm1 o ho) (rdm o)
      (rup (1 + o) (ch1_lt ho)) (fun o2 ho2 => hd _ (ch3_lt ho ho2))
    have e1 : (P1 m h0 h1 (m1 m h0 h1 x o)).2 = bx := hbx
    have e2 : (P1 m h0 h1 (dm m h0 h1 H W x v o)).2 = bv := hbv
    rw [← e1] at hy
    have hdm1 : dm1 o = y := by show (inv1 _ _ _ _ _ _ _).getD [] = y; rw [hy]; rfl
    refine ⟨by rw [hdm1]; exact hy, by rw [hdm1]; exact ry, ?_⟩
    have hp := pool_up_adjoint m.q (P1 m h0 h1 (dm m h0 h1 H W x v o)).1 (dZ.getD (1 + o) []) H W
      (C04P.fwdJ1_shape m.s h0 h1 hh0 hh1 _ H W hH hW (rdm o)).1 (hd _ (ch1_lt ho)) hH hW
    rw [hdm1, e1, e2, ← hid, ← hp]
  -- the scale-2 block
  obtain ⟨lx2, B2x, lv2, B2v, ds0, hf2x, hf2v, rlx2, rlv2, hds0, rds0, hid2⟩ :=
    block2_adjoint m k0 k1 hm0 hm0' hm1 hm1' (P1 m h0 h1 x).1 (P1 m h0 h1 v).1 (iscale m.q (nearestUp2 (dZ.getD 0 [])))
      (fun o => dZ.getD (7 + o) []) H W hH hW rlow1x rlow1v (rup 0 (by decide)) (fun o ho => hd _ (ch2_lt ho))
  have hp0 := pool_up_adjoint m.q lv2 (dZ.getD 0 []) H W rlv2 (hd 0 (by decide)) hH hW
  -- the outer block
  have rds0' : Rect ds0 (2 * (2 * H)) (2 * (2 * W)) := by rw [← e4H, ← e4W]; exact rds0
  obtain ⟨bx, bv, dX, hbx, hbv, hdX, _, hid1⟩ := block1_adjoint m h0 h1 hh0 hh1 hs0 hs1 x v ds0 dm1 (2*H) (2*W) h2H h2W hx' hv' rds0'
    (fun o ho => (inner o ho).2.1)
  refine ⟨lx2, B2x, lv2, B2v, dX, hf2x, hf2v, ?_, ?_⟩
  · -- the model's backward pass is exactly these three steps
    have hA : (List.range 6).mapM (fun k =>
          inv1 m true (prepFilt h0) (prepFilt h1) none (iscale m.q (nearestUp2 (dZ.getD (1 + k) [])))
            (bandCot m (fwd1 m true (prepFilt h0) (prepFilt h1) none
                (subBias m (magR m ((fwd1 m true (prepFilt h0) (prepFilt h1) none x).2.getD k ([], []))))).2
              fun o2 => dZ.getD (13 + o2 * 6 + k) []))
        = some ((List.range 6).map dm1) :=
      mapM_total _ dm1 _ (fun k hk => (inner k (List.mem_range.mp hk)).1)
    have ebc : bandCot m (fwd1 m true (prepFilt h0) (prepFilt h1) none x).2 (fun o => ((List.range 6).map dm1).getD o [])
        = bandCot m bx dm1 := by
      rw [show (fwd1 m true (prepFilt h0) (prepFilt h1) none x).2 = bx from hbx]
      exact bandCot_congr m bx _ _ (fun o ho => getD_range_map _ _ _ o ho)
    rw [scatJ2Backward_one]
    simp only [filt, show fwd2 m (prepFilt k0.reverse) (prepFilt k1.reverse) (prepFilt k0) (prepFilt k1) none
      (fwd1 m true (prepFilt h0) (prepFilt h1) none x).1 = some (lx2, B2x) from hf2x, Option.bind_some, hA,
      show inv2 m (prepFilt k0.reverse) (prepFilt k1.reverse) (prepFilt k0) (prepFilt k1) none (iscale m.q (nearestUp2 (dZ.getD 0 [])))
        (bandCot m B2x fun o => dZ.getD (7 + o) []) = some ds0 from hds0, ebc, hdX]
  · -- the three identities add up
    have hsum : ∑ o ∈ range 6, dot2 H W (avgPool2 m.q (P1 m h0 h1 (dm m h0 h1 H W x v o)).1) (dZ.getD (1 + o) [])
        + ∑ o ∈ range 6, ∑ o2 ∈ range 6,
            dot2 H W (lin m H W (P1 m h0 h1 (m1 m h0 h1 x o)).2 (P1 m h0 h1 (dm m h0 h1 H W x v o)).2 o2) (dZ.getD (13 + o2 * 6 + o) [])
        = ∑ o ∈ range 6, dot2 (2*H) (2*W) (dm m h0 h1 H W x v o) (dm1 o) := by
      rw [← Finset.sum_add_distrib]
      apply Finset.sum_congr rfl; intro o ho
      exact (inner o (by simpa using ho)).2.2
    have e1 : (P1 m h0 h1 x).2 = bx := hbx
    have e2 : (P1 m h0 h1 v).2 = bv := hbv
    have hid1' : dot2 (4*H) (4*W) (P1 m h0 h1 v).1 ds0 + ∑ o ∈ range 6, dot2 (2*H) (2*W) (dm m h0 h1 H W x v o) (dm1 o)
        = dot2 (4*H) (4*W) v dX := by
      rw [e4H, e4W]
      unfold dm
      rw [e1, e2]
      exact hid1
    rw [← hid1', ← hid2, ← hp0, ← hsum]
    ring

end main

end WV.C09Q

namespace WV.C09Q
open WV WV.C04
/-- the hypotheses of `scat2_backward_adjoint` are satisfiable over ℤ: a symmetric odd-length filter `[1, 2, 1]` (for `h0` and
`h1`), a filter of even length 4 (for `k0` and `k1`), a 4 × 4 image (`H = W = 1`) and 49 cotangent channels of one pixel -/
example : Symm ([1, 2, 1] : List Int) ∧ ([1, 2, 1] : List Int).length % 2 = 1 ∧ ([1, 3, 3, 1] : List Int).length % 2 = 0 ∧
    Rect ([[1, 2, 3, 4], [5, 6, 7, 8], [1, 0, 1, 0], [2, 2, 2, 2]] : Img Int) (4 * 1) (4 * 1) ∧
    (∀ k < 49, Rect (((List.range 49).map fun k => ([[Int.ofNat k]] : Img Int)).getD k []) 1 1) := by
  refine ⟨?_, by decide, by decide, by simp [Rect], ?_⟩
  · intro j hj
    have : j = 0 ∨ j = 1 ∨ j = 2 := by simp at hj; omega
    rcases this with rfl | rfl | rfl <;> decide
  · intro k hk
    rw [getD_range_map _ _ _ k hk]
    simp [Rect]
end WV.C09Q
