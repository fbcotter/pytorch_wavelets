/-
  C04 (levels ≥ 2) — perfect reconstruction of the q-shift stages.

  The q-shift stage `coldfilt` splits the symmetric extension of a column into its even and odd samples,
  filters the two "trees" with `ha` / `hb` at stride 2 and interleaves the results; `colifilt` is the
  four-branch poly-phase interpolator.  What makes both of them well defined on *symmetrically extended*
  columns is the q-shift structure `hb = reverse ha`:

  * `xt_coldfilt`, `xt_colifilt` — with `hb = ha.reverse` the symmetric extension of the output of
    `coldfilt` / `colifilt` is the line operator `lineD` / `lineE` applied to the symmetric extension of the
    input, at EVERY integer position (the analogue of `C04.xt_colfilter` for level 1) — `xt_coldfilt` for a column
    length that is a positive multiple of 4, `xt_colifilt` for a filter of even length ≥ 2 and a column length ≥ 1;
  * `qshift_pr` — hence a filter bank that is perfect-reconstruction on the integer line (`PRq`) reconstructs
    every column whose length is a positive multiple of 4, however short compared with the filters;
  * `prq_of_residues` — `PRq` only has to be checked at the four output phases; a 4-tap rational q-shift
    bank that is not symmetric satisfies it exactly (non-vacuity);
  * `level2_pr` — `inv_j2plus(fwd_j2plus(x)) = x` for the implementation model on every image whose sides are
    positive multiples of 4 (row/column stages with `prep_filt` buffers, `q2c`/`c2q` packing), given `PRq`, `2s² = 1`,
    tree a = reverse of tree b, synthesis filters of even length ≥ 2 and analysis filters of length ≥ 1;
    `level2_pr_full` adds the shapes of the returned low-pass and bands.
-/
import WaveletsVerif.Properties.C04
import WaveletsVerif.Properties.C11
import Mathlib.Tactic.IntervalCases
namespace WV.C04Q
open Finset WV WV.C04
variable {R : Type} [CommRing R]

theorem coldfilt_length (ha hb : List R) (hp : Bool) (c : List R) : (Spec.coldfilt ha hb hp c).length = c.length / 2 := by
  unfold Spec.coldfilt; exact length_tab _ _

theorem colifilt_length (ha hb : List R) (hp : Bool) (c : List R) : (Spec.colifilt ha hb hp c).length = 2 * c.length := by
  unfold Spec.colifilt; exact length_tab _ _

/-- one tree: `Σ_j h[m−1−j]·X(4v + 2j + off − m)` (`h` the un-reversed table filter) -/
def treeD (h : List R) (off : Int) (X : Int → R) (v : Int) : R :=
  ∑ j ∈ range h.length, getN h (h.length - 1 - j) * X (4*v + 2*(j:Int) + off - (h.length:Int))

/-- `coldfilt(·, ha, hb, highpass)` on the line: trees a (even samples) and b (odd samples) interleaved -/
def lineD (ha hb : List R) (hp : Bool) (X : Int → R) (w : Int) : R :=
  if w % 2 = 0 then (if hp then treeD hb 3 X (w/2) else treeD ha 2 X (w/2))
  else (if hp then treeD ha 2 X (w/2) else treeD hb 3 X (w/2))

theorem coldfilt_get (ha hb x : List R) (hp : Bool) (hab : hb.length = ha.length) (i : Nat) (hi : i < x.length / 2) :
    getN (Spec.coldfilt ha hb hp x) i = lineD ha hb hp (Spec.xt x) (i:Int) := by
  unfold Spec.coldfilt lineD treeD
  rw [getN_tab, if_pos hi]
  simp only [sumN_eq, hab]
  have e2 : ((i / 2 : Nat) : Int) = (i:Int) / 2 := by omega
  by_cases hpar : i % 2 = 0
  · have hz : (i:Int) % 2 = 0 := by omega
    rw [if_pos hpar, if_pos hz, ← e2]
  · have hz : ¬ (i:Int) % 2 = 0 := by omega
    rw [if_neg hpar, if_neg hz, ← e2]

theorem coldfilt_eq_tab (ha hb x : List R) (hp : Bool) (hab : hb.length = ha.length) :
    Spec.coldfilt ha hb hp x = tab (x.length / 2) fun i => lineD ha hb hp (Spec.xt x) (i:Int) := by
  have hl := coldfilt_length ha hb hp x
  apply list_ext_getN
  · rw [hl, length_tab]
  · intro i hi
    rw [hl] at hi
    rw [coldfilt_get ha hb x hp hab i hi, getN_tab, if_pos hi]

/-- with `hb = reverse ha`, tree b at `−v−1` is tree a at `v` on a symmetric signal -/
theorem tree_reflect (ha : List R) (X : Int → R) (hX : ∀ t : Int, X (-1 - t) = X t) (v : Int) :
    treeD ha.reverse 3 X (-v - 1) = treeD ha 2 X v := by
  unfold treeD
  rw [List.length_reverse, ← Finset.sum_range_reflect]
  apply Finset.sum_congr rfl; intro j hj
  have hj' : j < ha.length := by simpa using hj
  have e1 : ha.length - 1 - (ha.length - 1 - j) = j := by omega
  have hrv := getN_reverse ha (ha.length - 1 - j) (by omega)
  rw [e1] at hrv
  rw [e1, hrv]
  congr 1
  have e2 : (4 * (-v - 1) + 2 * ((ha.length - 1 - j : Nat):Int) + 3 - (ha.length:Int))
      = -1 - (4 * v + 2 * (j:Int) + 2 - (ha.length:Int)) := by
    have : ((ha.length - 1 - j : Nat):Int) = (ha.length:Int) - 1 - j := by omega
    rw [this]; ring
  rw [e2, hX]

theorem tree_reflect' (ha : List R) (X : Int → R) (hX : ∀ t : Int, X (-1 - t) = X t) (v : Int) :
    treeD ha 2 X (-v - 1) = treeD ha.reverse 3 X v := by
  have := tree_reflect ha X hX (-v - 1)
  have e : -(-v - 1) - 1 = v := by ring
  rw [e] at this
  exact this.symm

theorem lineD_shift (ha hb : List R) (hp : Bool) (X : Int → R) (k w : Int) :
    lineD ha hb hp (fun t => X (t + 4*k)) w = lineD ha hb hp X (w + 2*k) := by
  unfold lineD
  have h1 : (w + 2*k) % 2 = w % 2 := Int.add_mul_emod_self_left _ _ _
  have h2 : (w + 2*k) / 2 = w / 2 + k := Int.add_mul_ediv_left _ _ (by norm_num)
  have ht : ∀ (h : List R) (off : Int), treeD h off (fun t => X (t + 4*k)) (w/2) = treeD h off X (w/2 + k) := by
    intro h off
    unfold treeD
    apply Finset.sum_congr rfl; intro j _
    congr 1; beta_reduce; congr 1; ring
  rw [h1, h2, ht, ht]

theorem xt_coldfilt (ha x : List R) (hp : Bool) (hr : x.length % 4 = 0) (hr0 : 0 < x.length) (w : Int) :
    Spec.xt (Spec.coldfilt ha ha.reverse hp x) w = lineD ha ha.reverse hp (Spec.xt x) w := by
  rw [coldfilt_eq_tab ha ha.reverse x hp (by simp)]
  have hX : ∀ t : Int, Spec.xt x (-1 - t) = Spec.xt x t := xt_reflect x (by omega)
  apply xt_tab_of_sym_periodic (x.length/2) (by omega) (lineD ha ha.reverse hp (Spec.xt x))
  · intro w q
    have hc : 4 * (((x.length/2 : Nat):Int) * q) = 2 * (x.length:Int) * q := by
      rw [← mul_assoc, show 4 * ((x.length/2 : Nat):Int) = 2 * (x.length:Int) by omega]
    rw [mul_assoc, ← lineD_shift]
    congr 1; funext t
    rw [hc]; exact xt_period x t q
  · intro w
    unfold lineD
    have h2 : (-1 - w) / 2 = -(w/2) - 1 := by omega
    by_cases hpar : w % 2 = 0
    · have hz : ¬ (-1 - w) % 2 = 0 := by omega
      rw [if_neg hz, if_pos hpar, h2]
      cases hp
      · simp only [Bool.false_eq_true, if_false]; exact tree_reflect ha _ hX _
      · simp only [if_true]; exact tree_reflect' ha _ hX _
    · have hz : (-1 - w) % 2 = 0 := by omega
      rw [if_pos hz, if_neg hpar, h2]
      cases hp
      · simp only [Bool.false_eq_true, if_false]; exact tree_reflect' ha _ hX _
      · simp only [if_true]; exact tree_reflect ha _ hX _

/-- one poly-phase branch: `Σ_{j<m/2} h[m − tapOff − 2j]·Y(2(v+j) + phase − m/2)` -/
def brE (h : List R) (m tapOff : Nat) (phase : Int) (Y : Int → R) (v : Int) : R :=
  ∑ j ∈ range (m/2), getN h (m - tapOff - 2*j) * Y (2*(v + (j:Int)) + phase - ((m/2 : Nat):Int))

/-- `colifilt(·, ha, hb, highpass)` on the line: rows `4v…4v+3` from the four branches -/
def lineE (ha hb : List R) (hp : Bool) (Y : Int → R) (u : Int) : R :=
  if (ha.length/2) % 2 = 0 then
    (if u % 4 = 0 then brE ha ha.length 1 (if hp then 1 else 0) Y (u/4)
     else if u % 4 = 1 then brE hb ha.length 1 (if hp then 0 else 1) Y (u/4)
     else if u % 4 = 2 then brE ha ha.length 2 (if hp then 3 else 2) Y (u/4)
     else brE hb ha.length 2 (if hp then 2 else 3) Y (u/4))
  else
    (if u % 4 = 0 then brE ha ha.length 2 (if hp then 2 else 1) Y (u/4)
     else if u % 4 = 1 then brE hb ha.length 2 (if hp then 1 else 2) Y (u/4)
     else if u % 4 = 2 then brE ha ha.length 1 (if hp then 2 else 1) Y (u/4)
     else brE hb ha.length 1 (if hp then 1 else 2) Y (u/4))

theorem colifilt_get (ha hb x : List R) (hp : Bool) (i : Nat) (hi : i < 2 * x.length) :
    getN (Spec.colifilt ha hb hp x) i = lineE ha hb hp (Spec.xt x) (i:Int) := by
  unfold Spec.colifilt lineE brE
  rw [getN_tab, if_pos hi]
  simp only [sumN_eq]
  have e4 : ((i / 4 : Nat) : Int) = (i:Int) / 4 := Int.natCast_div i 4
  have em : (i:Int) % 4 = ((i % 4 : Nat) : Int) := Int.natCast_mod i 4
  have hc : i % 4 = 0 ∨ i % 4 = 1 ∨ i % 4 = 2 ∨ i % 4 = 3 := by omega
  -- with the residue known, the `match` of the reference and the `if` chain of `lineE` select the same branch
  rcases hc with h | h | h | h
  · have hz : (i:Int) % 4 = 0 := by rw [em, h]; rfl
    simp only [h, hz, e4, ↓reduceIte]
  · have hz : (i:Int) % 4 = 1 := by rw [em, h]; rfl
    simp only [h, hz, e4, ↓reduceIte, Int.reduceEq]
  · have hz : (i:Int) % 4 = 2 := by rw [em, h]; rfl
    simp only [h, hz, e4, ↓reduceIte, Int.reduceEq]
  · have hz : (i:Int) % 4 = 3 := by rw [em, h]; rfl
    simp only [h, hz, e4, ↓reduceIte, Int.reduceEq]

theorem colifilt_eq_tab (ha hb x : List R) (hp : Bool) :
    Spec.colifilt ha hb hp x = tab (2 * x.length) fun i => lineE ha hb hp (Spec.xt x) (i:Int) := by
  have hl := colifilt_length ha hb hp x
  apply list_ext_getN
  · rw [hl, length_tab]
  · intro i hi
    rw [hl] at hi
    rw [colifilt_get ha hb x hp i hi, getN_tab, if_pos hi]

theorem brE_add (h : List R) (m off : Nat) (ph : Int) (Y1 Y2 : Int → R) (v : Int) :
    brE h m off ph (fun t => Y1 t + Y2 t) v = brE h m off ph Y1 v + brE h m off ph Y2 v := by
  unfold brE
  rw [← Finset.sum_add_distrib]
  apply Finset.sum_congr rfl; intro j _; ring

theorem brE_shift (h : List R) (m off : Nat) (ph : Int) (Y : Int → R) (k v : Int) :
    brE h m off ph (fun t => Y (t + 2*k)) v = brE h m off ph Y (v + k) := by
  unfold brE
  apply Finset.sum_congr rfl; intro j _
  congr 1; beta_reduce; congr 1; ring

/-- in a `brE` over `h.reverse` the filter is read forwards: tap offset `1 + ε` reads the taps `2j + ε` -/
theorem brE_direct (h : List R) (m2 : Nat) (hm : h.length = 2*m2) (ε : Nat) (hε : ε ≤ 1) (phase : Int) (G : Int → R)
    (V : Int) :
    brE h.reverse h.length (1 + ε) phase G V
      = ∑ j ∈ range m2, getN h (2*j + ε) * G (2 * (V + (j:Int)) + phase - (m2:Int)) := by
  have hdiv : h.length / 2 = m2 := by omega
  unfold brE
  rw [hdiv]
  apply Finset.sum_congr rfl; intro j hj
  have hj' : j < m2 := by simpa using hj
  have hrv := getN_reverse h (2*j + ε) (by omega)
  have e : h.length - 1 - (2*j + ε) = h.length - (1 + ε) - 2*j := by omega
  rw [e] at hrv
  rw [hrv]

/-- a `brE` over `h` itself, summed from the other end, reads the taps of the other parity -/
theorem brE_refl (h : List R) (m2 : Nat) (hm : h.length = 2*m2) (ε ε' : Nat) (hε : ε + ε' = 1) (phase : Int)
    (G : Int → R) (V : Int) :
    brE h h.length (1 + ε) phase G V
      = ∑ j ∈ range m2, getN h (2*j + ε') * G (2 * (V + ((m2 - 1 - j : Nat):Int)) + phase - (m2:Int)) := by
  have hdiv : h.length / 2 = m2 := by omega
  unfold brE
  rw [hdiv, ← Finset.sum_range_reflect]
  apply Finset.sum_congr rfl; intro j hj
  have hj' : j < m2 := by simpa using hj
  have e : h.length - (1 + ε) - 2 * (m2 - 1 - j) = 2*j + ε' := by omega
  rw [e]

/-- reflecting the output position exchanges `h` with `reverse h`, tap offsets 1 and 2, and phases `p` and `3 − p`:
both sides read the same taps -/
theorem br_reflect (h : List R) (m2 : Nat) (hm : h.length = 2*m2) (ε ε' : Nat) (hε : ε + ε' = 1) (p p' : Int)
    (hpp : p + p' = 3) (Y Y' : Int → R) (hY : ∀ t : Int, Y (-1 - t) = Y' t) (v : Int) :
    brE h.reverse h.length (1 + ε') p' Y (-v - 1) = brE h h.length (1 + ε) p Y' v := by
  rw [brE_direct h m2 hm ε' (by omega), brE_refl h m2 hm ε ε' hε]
  apply Finset.sum_congr rfl; intro j hj
  have hj' : j < m2 := by simpa using hj
  rw [← hY]
  congr 2
  omega

theorem rows4 (u : Int) : ∃ (q : Int) (σ β : Nat), u = 4*q + ((2*σ + β : Nat):Int) ∧ σ ≤ 1 ∧ β ≤ 1 :=
  ⟨u/4, (u%4).toNat/2, (u%4).toNat%2, by omega, by omega, by omega⟩

/-- row `4q + 2σ + β` of `lineE` is one `brE`: over the first filter for `β = 0`, the second for `β = 1`, with tap offset
`1 + ε` and phase `σ + ε` plus the flag (`β = 0`) or its complement (`β = 1`), `ε` the parity of `σ + m/2` -/
theorem lineE_row (ha hb : List R) (hp : Bool) (Y : Int → R) (q : Int) (σ β : Nat) (hσ : σ ≤ 1) (hβ : β ≤ 1) :
    lineE ha hb hp Y (4*q + ((2*σ + β : Nat):Int))
      = brE (if β = 0 then ha else hb) ha.length (1 + (σ + ha.length/2) % 2)
          (((σ + (σ + ha.length/2) % 2 : Nat):Int) + (if β = 0 then (if hp then 1 else 0) else (if hp then 0 else 1))) Y q := by
  obtain ⟨e1, e2⟩ : (4*q + ((2*σ + β : Nat):Int)) / 4 = q ∧ (4*q + ((2*σ + β : Nat):Int)) % 4 = ((2*σ + β : Nat):Int) := by
    omega
  have hπ : ha.length/2 % 2 = 0 ∨ ha.length/2 % 2 = 1 := by omega
  have hσ' : σ = 0 ∨ σ = 1 := by omega
  have hβ' : β = 0 ∨ β = 1 := by omega
  unfold lineE
  rw [e1, e2, Nat.add_mod σ]
  -- the eight rows of the table, each for both flags
  rcases hσ' with rfl | rfl <;> rcases hβ' with rfl | rfl <;> rcases hπ with hπ | hπ <;> rw [hπ] <;> cases hp <;> rfl

/-- the phases of a row and of its mirror row add up to 3, whatever the flag -/
theorem flag_phases (hp : Bool) (a b : Nat) (h : a + b = 2) :
    ((a:Int) + (if hp then 1 else 0)) + ((b:Int) + (if hp then 0 else 1)) = 3 := by
  cases hp
  · simp only [Bool.false_eq_true, if_false]; omega
  · simp only [if_true]; omega

/-- `lineE` commutes with the reflection `t ↦ −1−t` (no symmetry of the signal needed) -/
theorem lineE_reflect (ha : List R) (hp : Bool) (hm : ha.length % 2 = 0) (Y Y' : Int → R)
    (hY : ∀ t : Int, Y (-1 - t) = Y' t) (hY' : ∀ t : Int, Y' (-1 - t) = Y t) (u : Int) :
    lineE ha ha.reverse hp Y (-1 - u) = lineE ha ha.reverse hp Y' u := by
  obtain ⟨m2, hm2⟩ : ∃ m2 : Nat, ha.length = 2 * m2 := ⟨ha.length / 2, by omega⟩
  clear hm
  -- row `2σ + β` at `q` against row `2(1−σ) + (1−β)` at `−q−1`
  obtain ⟨q, σ, β, rfl, hσ, hβ⟩ := rows4 u
  obtain ⟨σ', β', hσ', hβ'⟩ : ∃ σ' β', σ + σ' = 1 ∧ β + β' = 1 := ⟨1 - σ, 1 - β, by omega, by omega⟩
  have e : -1 - (4*q + ((2*σ + β : Nat):Int)) = 4*(-q - 1) + ((2*σ' + β' : Nat):Int) := by push_cast; omega
  rw [e, lineE_row ha _ hp Y _ σ' β' (by omega) (by omega), lineE_row ha _ hp Y' q σ β hσ hβ]
  -- the two rows use different tap offsets
  have hε : (σ + ha.length/2) % 2 + (σ' + ha.length/2) % 2 = 1 := by omega
  generalize (σ + ha.length/2) % 2 = ε at hε ⊢
  generalize (σ' + ha.length/2) % 2 = ε' at hε ⊢
  have hβ2 : (β = 0 ∧ β' = 1) ∨ (β = 1 ∧ β' = 0) := by omega
  rcases hβ2 with ⟨rfl, rfl⟩ | ⟨rfl, rfl⟩
  · rw [if_pos rfl, if_pos rfl, if_neg Nat.one_ne_zero, if_neg Nat.one_ne_zero]
    exact br_reflect ha m2 hm2 ε ε' hε _ _ (flag_phases hp (σ + ε) (σ' + ε') (by omega)) Y Y' hY q
  · rw [if_pos rfl, if_pos rfl, if_neg Nat.one_ne_zero, if_neg Nat.one_ne_zero]
    have := br_reflect ha m2 hm2 ε' ε ((add_comm _ _).trans hε) _ _ (flag_phases hp (σ' + ε') (σ + ε) (by omega)) Y' Y hY'
      (-q - 1)
    rw [show -(-q - 1) - 1 = q by ring] at this
    exact this.symm

theorem lineE_add (ha hb : List R) (hp : Bool) (Y1 Y2 : Int → R) (u : Int) :
    lineE ha hb hp (fun t => Y1 t + Y2 t) u = lineE ha hb hp Y1 u + lineE ha hb hp Y2 u := by
  obtain ⟨q, σ, β, rfl, hσ, hβ⟩ := rows4 u
  rw [lineE_row _ _ _ _ q σ β hσ hβ, lineE_row _ _ _ _ q σ β hσ hβ, lineE_row _ _ _ _ q σ β hσ hβ, brE_add]

theorem lineE_shift (ha hb : List R) (hp : Bool) (Y : Int → R) (k u : Int) :
    lineE ha hb hp (fun t => Y (t + 2*k)) u = lineE ha hb hp Y (u + 4*k) := by
  obtain ⟨q, σ, β, rfl, hσ, hβ⟩ := rows4 u
  rw [show 4*q + ((2*σ + β : Nat):Int) + 4*k = 4*(q + k) + ((2*σ + β : Nat):Int) by ring,
    lineE_row _ _ _ _ q σ β hσ hβ, lineE_row _ _ _ _ (q + k) σ β hσ hβ, brE_shift]

theorem xt_colifilt (ha x : List R) (hp : Bool) (hm : ha.length % 2 = 0) (hm2 : 2 ≤ ha.length) (hr0 : 0 < x.length)
    (u : Int) :
    Spec.xt (Spec.colifilt ha ha.reverse hp x) u = lineE ha ha.reverse hp (Spec.xt x) u := by
  rw [colifilt_eq_tab ha ha.reverse x hp]
  have hY : ∀ t : Int, Spec.xt x (-1 - t) = Spec.xt x t := xt_reflect x (by omega)
  apply xt_tab_of_sym_periodic (2 * x.length) (by omega) (lineE ha ha.reverse hp (Spec.xt x))
  · intro u q
    have e : u + 2 * ((2 * x.length : Nat):Int) * q = u + 4 * ((x.length:Int) * q) := by push_cast; ring
    rw [e, ← lineE_shift]
    congr 1; funext t
    rw [← mul_assoc]; exact xt_period x t q
  · intro u
    exact lineE_reflect ha hp hm (Spec.xt x) (Spec.xt x) hY hY u

/-- the q-shift analysis/synthesis pair is perfect-reconstruction ON THE INTEGER LINE, for arbitrary (not
necessarily symmetric or periodic) signals.  `h0, h1, g0, g1` are the filters handed to `coldfilt`/`colifilt` as
their first filter argument (`h0b, h1b, g0b, g1b` of the tables); the second one is the time reverse.
Quantified over all signals `X`: an operator identity of the bank, not a finite set of equations on the taps like
`C04.PR1` / `PRBank`; for concrete taps it is proved with `X` symbolic (`prq_of_residues` and the example below). -/
def PRq (h0 h1 g0 g1 : List R) : Prop :=
  ∀ (X : Int → R) (u : Int),
    lineE g0 g0.reverse false (lineD h0 h0.reverse false X) u
      + lineE g1 g1.reverse true (lineD h1 h1.reverse true X) u = X u

/-- `PRq` only has to be checked at the four output phases `u = 0, 1, 2, 3` (the bank is invariant under a shift
of the input by 4) -/
theorem prq_of_residues (h0 h1 g0 g1 : List R)
    (hres : ∀ (X : Int → R) (c : Int), 0 ≤ c → c < 4 →
      lineE g0 g0.reverse false (lineD h0 h0.reverse false X) c
        + lineE g1 g1.reverse true (lineD h1 h1.reverse true X) c = X c) :
    PRq h0 h1 g0 g1 := by
  intro X u
  have hu : u = u % 4 + 4 * (u / 4) := by omega
  have key : ∀ (ha hb ga gb : List R) (hp hp' : Bool),
      lineE ga gb hp (lineD ha hb hp' X) (u % 4 + 4 * (u/4))
        = lineE ga gb hp (lineD ha hb hp' (fun s => X (s + 4 * (u/4)))) (u % 4) := by
    intro ha hb ga gb hp hp'
    rw [← lineE_shift]
    congr 1
    funext t
    rw [lineD_shift]
  have := hres (fun s => X (s + 4 * (u/4))) (u % 4) (by omega) (by omega)
  rw [← key, ← key, ← hu] at this
  exact this

theorem qshift_pr_of_prq (h0 h1 g0 g1 x : List R) (hr : x.length % 4 = 0) (hr0 : 0 < x.length)
    (hpr : PRq h0 h1 g0 g1) (i : Nat) (hi : i < x.length) :
    getN (Spec.colifilt g0 g0.reverse false (Spec.coldfilt h0 h0.reverse false x)) i
      + getN (Spec.colifilt g1 g1.reverse true (Spec.coldfilt h1 h1.reverse true x)) i = getN x i := by
  rw [colifilt_get _ _ _ _ i (by rw [coldfilt_length]; omega), colifilt_get _ _ _ _ i (by rw [coldfilt_length]; omega)]
  have e0 : Spec.xt (Spec.coldfilt h0 h0.reverse false x) = lineD h0 h0.reverse false (Spec.xt x) := by
    funext w; exact xt_coldfilt h0 x false hr hr0 w
  have e1 : Spec.xt (Spec.coldfilt h1 h1.reverse true x) = lineD h1 h1.reverse true (Spec.xt x) := by
    funext w; exact xt_coldfilt h1 x true hr hr0 w
  rw [e0, e1, hpr (Spec.xt x) (i:Int), xt_inside x i hi]

/-- q-shift perfect reconstruction along one axis: for filters that are PR on the line and trees related by
time reversal (synthesis filters of even length ≥ 2), `colifilt g0 (coldfilt h0 x) + colifilt g1 (coldfilt h1 x) = x` for every column whose length is a
positive multiple of 4 — however short compared with the filters (the extension reflects as often as needed). -/
theorem qshift_pr (h0 h1 g0 g1 x : List R) (hg0 : g0.length % 2 = 0) (hg0' : 2 ≤ g0.length)
    (hg1 : g1.length % 2 = 0) (hg1' : 2 ≤ g1.length) (hr : x.length % 4 = 0) (hr0 : 0 < x.length)
    (hpr : PRq h0 h1 g0 g1) (i : Nat) (hi : i < x.length) :
    getN (Spec.colifilt g0 g0.reverse false (Spec.coldfilt h0 h0.reverse false x)) i
      + getN (Spec.colifilt g1 g1.reverse true (Spec.coldfilt h1 h1.reverse true x)) i = getN x i := by
  exact qshift_pr_of_prq h0 h1 g0 g1 x hr hr0 hpr i hi

theorem treeD_four (a b c d : R) (off : Int) (X : Int → R) (v : Int) :
    treeD [a, b, c, d] off X v
      = d * X (4*v + off - 4) + c * X (4*v + off - 2) + b * X (4*v + off) + a * X (4*v + off + 2) := by
  unfold treeD
  simp only [List.length_cons, List.length_nil, Nat.reduceAdd, Finset.sum_range_succ, Finset.sum_range_zero, zero_add, getN,
    Nat.reduceSub, List.getD_cons_succ, List.getD_cons_zero, Nat.cast_ofNat, Nat.cast_zero, Nat.cast_one, mul_zero, mul_one,
    add_zero]
  congr 3 <;> congr 2 <;> ring

theorem brE_four (a b c d : R) (ph : Int) (Y : Int → R) (v : Int) :
    brE [a, b, c, d] 4 1 ph Y v = d * Y (2*v + ph - 2) + b * Y (2*v + ph) ∧
    brE [a, b, c, d] 4 2 ph Y v = c * Y (2*v + ph - 2) + a * Y (2*v + ph) := by
  unfold brE
  simp only [Nat.reduceDiv, Finset.sum_range_succ, Finset.sum_range_zero, zero_add, getN, Nat.reduceSub,
    List.getD_cons_succ, List.getD_cons_zero, Nat.cast_ofNat, Nat.cast_zero, Nat.cast_one, mul_zero, mul_one, add_zero]
  constructor <;> congr 3 <;> ring

/-- a non-symmetric 4-tap rational q-shift bank (the orthonormal lattice filter with `cos = 3/5, sin = 4/5`,
analysis scaled by `1/√2` and synthesis by `√2` to stay rational) is PR on the line: `PRq` is satisfiable -/
example : PRq (R := ℚ) [-1/10, 1/5, 3/5, 3/10] [-3/5, 6/5, -2/5, -1/5] [3/5, 6/5, 2/5, -1/5] [-1/10, -1/5, 3/5, -3/10] := by
  apply prq_of_residues
  intro X c h0 h1
  interval_cases c <;>
    simp only [lineE, lineD, List.reverse_cons, List.reverse_nil, List.nil_append, List.cons_append, List.length_cons,
      List.length_nil, brE_four, treeD_four, Nat.reduceAdd, Nat.reduceDiv, Nat.reduceMod, Int.reduceMod, Int.reduceDiv,
      Int.reduceMul, Int.reduceAdd, Int.reduceSub, Int.reduceEq, Bool.false_eq_true, ↓reduceIte] <;>
    ring

/-- `Dd h hp` = `coldfilt(·, h, reverse h, hp)` of dtcwt/lowlevel.py on one column: the decimating (length `n ↦ n/2`)
dual-tree filter of the levels ≥ 2, second tree the time reverse of the first; reference form `Spec.coldfilt` -/
abbrev Dd (h : List R) (hp : Bool) : List R → List R := Spec.coldfilt h h.reverse hp
/-- `Ei g hp` = `colifilt(·, g, reverse g, hp)` of dtcwt/lowlevel.py on one column: the interpolating (length `n ↦ 2n`)
dual-tree filter that inverts `Dd` in the synthesis of the levels ≥ 2; reference form `Spec.colifilt` -/
abbrev Ei (g : List R) (hp : Bool) : List R → List R := Spec.colifilt g g.reverse hp

/-! the q-shift stages of the implementation model, with `prep_filt` buffers, are the reference stages applied along
the columns / rows (any pair of equally long trees; analysis: length ≥ 1, image height / row length a positive multiple
of 4; synthesis: even length ≥ 2, image height / row length positive and even) -/

theorem coldfilt_spec (ha hb : List R) (hp : Bool) (hL : 1 ≤ ha.length) (hab : hb.length = ha.length) (y : Img R) (H : Nat)
    (hH : 1 ≤ H) (hy : y.length = 4 * H) :
    coldfilt (prepFilt ha) (prepFilt hb) hp y = some (alongH (Spec.coldfilt ha hb hp) y) := by
  unfold coldfilt
  apply alongHO_total
  intro c hc
  exact C03.coldfilt1_eq_ref ha hb c hp (by omega) (by omega) hL hab

theorem rowdfilt_spec (ha hb : List R) (hp : Bool) (hL : 1 ≤ ha.length) (hab : hb.length = ha.length) (y : Img R) (W : Nat)
    (hW : 1 ≤ W) (hy : ∀ r ∈ y, r.length = 4 * W) :
    rowdfilt (prepFilt ha) (prepFilt hb) hp y = some (alongW (Spec.coldfilt ha hb hp) y) := by
  unfold rowdfilt
  apply alongWO_total
  intro c hc
  exact C03.coldfilt1_eq_ref ha hb c hp (by rw [hy c hc]; omega) (by rw [hy c hc]; omega) hL hab

theorem colifilt_spec (ga gb : List R) (hp : Bool) (hm : ga.length % 2 = 0) (hm2 : 2 ≤ ga.length) (hab : gb.length = ga.length)
    (y : Img R) (H : Nat) (hH : 1 ≤ H) (hy : y.length = 2 * H) :
    colifilt (prepFilt ga) (prepFilt gb) hp y = some (alongH (Spec.colifilt ga gb hp) y) := by
  unfold colifilt
  apply alongHO_total
  intro c hc
  exact C11.colifilt1_eq_ref ga gb c hp (by omega) (by omega) hm hm2 hab

theorem rowifilt_spec (ga gb : List R) (hp : Bool) (hm : ga.length % 2 = 0) (hm2 : 2 ≤ ga.length) (hab : gb.length = ga.length)
    (y : Img R) (W : Nat) (hW : 1 ≤ W) (hy : ∀ r ∈ y, r.length = 2 * W) :
    rowifilt (prepFilt ga) (prepFilt gb) hp y = some (alongW (Spec.colifilt ga gb hp) y) := by
  unfold rowifilt
  apply alongWO_total
  intro c hc
  exact C11.colifilt1_eq_ref ga gb c hp (by rw [hy c hc]; omega) (by rw [hy c hc]; omega) hm hm2 hab

theorem coldfilt_half (ha hb : List R) (hp : Bool) (n : Nat) (c : List R) (hc : c.length = 2*n) :
    (Spec.coldfilt ha hb hp c).length = n := by
  rw [coldfilt_length, hc]; omega

theorem colifilt_double (ga gb : List R) (hp : Bool) (n : Nat) (c : List R) (hc : c.length = n) :
    (Spec.colifilt ga gb hp c).length = 2*n := by
  rw [colifilt_length, hc]

theorem coldfilt_alongH_rect (ha hb : List R) (hp : Bool) (y : Img R) (H W : Nat) (hy : Rect y (2*H) W) (hH : 1 ≤ H) (hW : 1 ≤ W) :
    Rect (alongH (Spec.coldfilt ha hb hp) y) H W := alongH_rect_of_length _ y (2*H) H W hy (by omega) hW (coldfilt_half ha hb hp H)

theorem coldfilt_alongW_rect (ha hb : List R) (hp : Bool) (y : Img R) (H W : Nat) (hy : Rect y H (2*W)) :
    Rect (alongW (Spec.coldfilt ha hb hp) y) H W := alongW_rect_of_length _ y H (2*W) W hy (coldfilt_half ha hb hp W)

theorem colifilt_alongH_rect (ga gb : List R) (hp : Bool) (y : Img R) (H W : Nat) (hy : Rect y H W) (hH : 1 ≤ H) (hW : 1 ≤ W) :
    Rect (alongH (Spec.colifilt ga gb hp) y) (2*H) W := alongH_rect_of_length _ y H (2*H) W hy hH hW (colifilt_double ga gb hp H)

theorem colifilt_alongW_rect (ga gb : List R) (hp : Bool) (y : Img R) (H W : Nat) (hy : Rect y H W) :
    Rect (alongW (Spec.colifilt ga gb hp) y) H (2*W) := alongW_rect_of_length _ y H W (2*W) hy (colifilt_double ga gb hp W)

theorem col_prq_img (h0 h1 g0 g1 : List R) (hpr : PRq h0 h1 g0 g1)
    (y : Img R) (H W : Nat) (hy : Rect y (4*H) W) (hH : 1 ≤ H) (hW : 1 ≤ W) :
    iadd (alongH (Ei g1 true) (alongH (Dd h1 true) y)) (alongH (Ei g0 false) (alongH (Dd h0 false) y)) = y := by
  have e : 4*H = 2*(2*H) := by ring
  rw [e] at hy
  exact alongH_pr (Dd h0 false) (Dd h1 true) (Ei g0 false) (Ei g1 true) y (2*(2*H)) (2*H) W hy (by omega) (by omega) hW
    (coldfilt_half h0 _ false _) (coldfilt_half h1 _ true _) (colifilt_double g0 _ false _) (colifilt_double g1 _ true _)
    (fun c hc i hi => qshift_pr_of_prq h0 h1 g0 g1 c (by omega) (by omega) hpr i (by omega))

theorem row_prq_img (h0 h1 g0 g1 : List R) (hpr : PRq h0 h1 g0 g1)
    (y : Img R) (H W : Nat) (hy : Rect y H (4*W)) (hW : 1 ≤ W) :
    iadd (alongW (Ei g1 true) (alongW (Dd h1 true) y)) (alongW (Ei g0 false) (alongW (Dd h0 false) y)) = y := by
  have e : 4*W = 2*(2*W) := by ring
  rw [e] at hy
  exact alongW_pr (Dd h0 false) (Dd h1 true) (Ei g0 false) (Ei g1 true) y H (2*(2*W)) (2*W) hy
    (coldfilt_half h0 _ false _) (coldfilt_half h1 _ true _) (colifilt_double g0 _ false _) (colifilt_double g1 _ true _)
    (fun c hc j hj => qshift_pr_of_prq h0 h1 g0 g1 c (by omega) (by omega) hpr j (by omega))

theorem fwdJ2_eq (s : R) (h0a h0b h1a h1b : List R) (hl0 : 1 ≤ h0b.length) (hab0 : h0a.length = h0b.length)
    (hl1 : 1 ≤ h1b.length) (hab1 : h1a.length = h1b.length) (x : Img R) (a b : Nat) (ha : 1 ≤ a) (hb : 1 ≤ b)
    (hx : Rect x (4*a) (4*b)) :
    fwdJ2 s (prepFilt h0a) (prepFilt h1a) (prepFilt h0b) (prepFilt h1b) false x
      = some (alongH (Spec.coldfilt h0b h0a false) (alongW (Spec.coldfilt h0b h0a false) x),
          some (highsToOrientations s (alongH (Spec.coldfilt h1b h1a true) (alongW (Spec.coldfilt h0b h0a false) x))
            (alongH (Spec.coldfilt h0b h0a false) (alongW (Spec.coldfilt h1b h1a true) x))
            (alongH (Spec.coldfilt h1b h1a true) (alongW (Spec.coldfilt h1b h1a true) x)))) := by
  have eLo := rowdfilt_spec h0b h0a false hl0 hab0 x b hb hx.2
  have eHi := rowdfilt_spec h1b h1a true hl1 hab1 x b hb hx.2
  have hx' : Rect x (4*a) (2*(2*b)) := by rw [show 2*(2*b) = 4*b by ring]; exact hx
  have rLo := coldfilt_alongW_rect h0b h0a false x (4*a) (2*b) hx'
  have rHi := coldfilt_alongW_rect h1b h1a true x (4*a) (2*b) hx'
  unfold fwdJ2
  simp only [eLo, eHi, coldfilt_spec h0b h0a false hl0 hab0 _ a ha rLo.1, coldfilt_spec h1b h1a true hl1 hab1 _ a ha rLo.1,
    coldfilt_spec h0b h0a false hl0 hab0 _ a ha rHi.1, coldfilt_spec h1b h1a true hl1 hab1 _ a ha rHi.1,
    Option.bind_eq_bind, Option.bind_some, Bool.false_eq_true, if_false]

theorem invJ2_eq (s : R) (g0a g0b g1a g1b : List R) (hm0 : g0b.length % 2 = 0) (hm0' : 2 ≤ g0b.length)
    (hab0 : g0a.length = g0b.length) (hm1 : g1b.length % 2 = 0) (hm1' : 2 ≤ g1b.length) (hab1 : g1a.length = g1b.length)
    (l : Img R) (o : List (Cplx R)) (r c : Nat) (hr : 1 ≤ r) (hc : 1 ≤ c) (hl : Rect l (2*r) (2*c))
    (rlh : Rect (orientationsToHighs s o).1 (2*r) (2*c)) (rhl : Rect (orientationsToHighs s o).2.1 (2*r) (2*c))
    (rhh : Rect (orientationsToHighs s o).2.2 (2*r) (2*c)) :
    invJ2 s (prepFilt g0a) (prepFilt g1a) (prepFilt g0b) (prepFilt g1b) (some l) (some o)
      = some (iadd (alongW (Spec.colifilt g1b g1a true) (iadd (alongH (Spec.colifilt g1b g1a true) (orientationsToHighs s o).2.2)
                                                              (alongH (Spec.colifilt g0b g0a false) (orientationsToHighs s o).2.1)))
                   (alongW (Spec.colifilt g0b g0a false) (iadd (alongH (Spec.colifilt g1b g1a true) (orientationsToHighs s o).1)
                                                               (alongH (Spec.colifilt g0b g0a false) l)))) := by
  set lh := (orientationsToHighs s o).1 with hlh
  set hl' := (orientationsToHighs s o).2.1 with hhl
  set hh := (orientationsToHighs s o).2.2 with hhh
  have h2r : 1 ≤ 2*r := by omega
  have h2c : 1 ≤ 2*c := by omega
  have q1 := colifilt_alongH_rect g1b g1a true hh _ _ rhh h2r h2c
  have q2 := colifilt_alongH_rect g0b g0a false hl' _ _ rhl h2r h2c
  have q3 := colifilt_alongH_rect g1b g1a true lh _ _ rlh h2r h2c
  have q4 := colifilt_alongH_rect g0b g0a false l _ _ hl h2r h2c
  unfold invJ2
  simp only []
  rw [show (orientationsToHighs s o) = (lh, hl', hh) from rfl]
  simp only []
  rw [colifilt_spec g1b g1a true hm1 hm1' hab1 hh r hr rhh.1, colifilt_spec g0b g0a false hm0 hm0' hab0 hl' r hr rhl.1,
    colifilt_spec g1b g1a true hm1 hm1' hab1 lh r hr rlh.1, colifilt_spec g0b g0a false hm0 hm0' hab0 l r hr hl.1]
  simp only [Option.bind_eq_bind, Option.bind_some]
  rw [if_neg (shape_ok _ _ _ _ q4 q3 (by omega))]
  simp only [Option.bind_some]
  rw [rowifilt_spec g1b g1a true hm1 hm1' hab1 _ c hc (iadd_rect _ _ _ _ q1 q2).2,
    rowifilt_spec g0b g0a false hm0 hm0' hab0 _ c hc (iadd_rect _ _ _ _ q3 q4).2]
  simp only [Option.bind_some]

/-- DTCWT perfect reconstruction of a q-shift level (level ≥ 2) at the level of the implementation model: for
every image whose sides are positive multiples of 4, every q-shift bank that is PR on the line (`PRq`), tree a
the time reverse of tree b, synthesis filters of even length ≥ 2, analysis filters of length ≥ 1, and `2s² = 1`: `fwd_j2plus` returns, and `inv_j2plus` of its output is the image —
`fwd_j2plus` / `inv_j2plus` as modelled from `transform_funcs.py` (row/column `coldfilt` / `colifilt` with
`prep_filt` buffers on the symmetric extension, `q2c` / `c2q` packing, shape check). -/
theorem level2_pr_full (s : R) (hs : 2 * s * s = 1) (h0 h1 g0 g1 : List R) (hh0 : 1 ≤ h0.length) (hh1 : 1 ≤ h1.length)
    (hg0 : g0.length % 2 = 0) (hg0' : 2 ≤ g0.length) (hg1 : g1.length % 2 = 0) (hg1' : 2 ≤ g1.length)
    (hpr : PRq h0 h1 g0 g1) (x : Img R) (H W : Nat) (hH : 1 ≤ H) (hW : 1 ≤ W) (hx : Rect x (4*H) (4*W)) :
    ∃ ll o, fwdJ2 s (prepFilt h0.reverse) (prepFilt h1.reverse) (prepFilt h0) (prepFilt h1) false x = some (ll, some o)
      ∧ invJ2 s (prepFilt g0.reverse) (prepFilt g1.reverse) (prepFilt g0) (prepFilt g1) (some ll) (some o) = some x
      ∧ Rect ll (2*H) (2*W) ∧ bandSize o = (H, W) := by
  have hx' : Rect x (4*H) (2*(2*W)) := by rw [show 2*(2*W) = 4*W by ring]; exact hx
  have rLo : Rect (alongW (Dd h0 false) x) (4*H) (2*W) := coldfilt_alongW_rect h0 h0.reverse false x _ _ hx'
  have rHi : Rect (alongW (Dd h1 true) x) (4*H) (2*W) := coldfilt_alongW_rect h1 h1.reverse true x _ _ hx'
  set lo := alongW (Dd h0 false) x with hlo
  set hi := alongW (Dd h1 true) x with hhi
  have rLo' : Rect lo (2*(2*H)) (2*W) := by rw [show 2*(2*H) = 4*H by ring]; exact rLo
  have rHi' : Rect hi (2*(2*H)) (2*W) := by rw [show 2*(2*H) = 4*H by ring]; exact rHi
  have h2H : 1 ≤ 2*H := by omega
  have h2W : 1 ≤ 2*W := by omega
  have rll := coldfilt_alongH_rect h0 h0.reverse false lo (2*H) (2*W) rLo' h2H h2W
  have rlh := coldfilt_alongH_rect h1 h1.reverse true lo (2*H) (2*W) rLo' h2H h2W
  have rhl := coldfilt_alongH_rect h0 h0.reverse false hi (2*H) (2*W) rHi' h2H h2W
  have rhh := coldfilt_alongH_rect h1 h1.reverse true hi (2*H) (2*W) rHi' h2H h2W
  refine ⟨_, _, fwdJ2_eq s h0.reverse h0 h1.reverse h1 hh0 List.length_reverse hh1 List.length_reverse x H W hH hW hx, ?_, rll,
    bandSize_highs s _ _ _ H W hH rlh⟩
  have hrt := highs_round_trip s hs _ _ _ H W hH rlh rhl rhh
  rw [invJ2_eq s g0.reverse g0 g1.reverse g1 hg0 hg0' List.length_reverse hg1 hg1' List.length_reverse _ _ H W hH hW rll
    (by rw [hrt]; exact rlh) (by rw [hrt]; exact rhl) (by rw [hrt]; exact rhh), hrt]
  simp only []
  rw [col_prq_img h0 h1 g0 g1 hpr hi H (2*W) rHi hH h2W,
    col_prq_img h0 h1 g0 g1 hpr lo H (2*W) rLo hH h2W,
    hhi, hlo, row_prq_img h0 h1 g0 g1 hpr x (4*H) W hx hW]

theorem level2_pr (s : R) (hs : 2 * s * s = 1) (h0 h1 g0 g1 : List R) (hh0 : 1 ≤ h0.length) (hh1 : 1 ≤ h1.length)
    (hg0 : g0.length % 2 = 0) (hg0' : 2 ≤ g0.length) (hg1 : g1.length % 2 = 0) (hg1' : 2 ≤ g1.length)
    (hpr : PRq h0 h1 g0 g1) (x : Img R) (H W : Nat) (hH : 1 ≤ H) (hW : 1 ≤ W) (hx : Rect x (4*H) (4*W)) :
    ∃ ll o, fwdJ2 s (prepFilt h0.reverse) (prepFilt h1.reverse) (prepFilt h0) (prepFilt h1) false x = some (ll, some o)
      ∧ invJ2 s (prepFilt g0.reverse) (prepFilt g1.reverse) (prepFilt g0) (prepFilt g1) (some ll) (some o) = some x := by
  obtain ⟨ll, o, h1', h2', _, _⟩ := level2_pr_full s hs h0 h1 g0 g1 hh0 hh1 hg0 hg0' hg1 hg1' hpr x H W hH hW hx
  exact ⟨ll, o, h1', h2'⟩

end WV.C04Q
