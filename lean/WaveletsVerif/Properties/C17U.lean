/-
  C17 — "its inverse is its transpose, so applying the inverse transform to a cotangent equals back-propagating it",
  for the whole J-level ONE-DIMENSIONAL pyramid (the 2-D statement is C17T).

  One channel, periodization, every level of even length not shorter than the filters (`C17J.LevelsOK`), ANY even-length filters:
    * back-propagating a cotangent pyramid through `DWT1DForward` (the chain of `AFB1D.backward` passes of `C05U`) IS applying
      `DWT1DInverse` with the same buffers to it (`backprop_eq_inverse1`): at even lengths the module's loop never crops and the
      fold / crop of the backward pass is the identity;
    * hence `⟨DWT1DForward x, P⟩ = ⟨x, DWT1DInverse P⟩` for every signal and every cotangent pyramid `P` of forward shapes
      (`DWT1D_inverse_is_transpose`).  Orthonormality is what makes this transpose the inverse (C02Q / C17J), not what makes it
      the transpose.
-/
import WaveletsVerif.Properties.C17J
import WaveletsVerif.Properties.C17T
import WaveletsVerif.Properties.C05V
namespace WV.C17U
open Finset WV WV.C05P WV.C05U WV.C17J
variable {R : Type} [CommRing R]

/-- the band length of one periodization level -/
abbrev Kp : Nat → Nat := fun N => (N + N % 2) / 2

theorem lvls_of_levelsOK (L : Nat) (hL : 2 ≤ L) : ∀ (J N : Nat), LevelsOK L J N →
    LvlsOK (fun N => 1 ≤ N ∧ L ≤ N + N % 2) Kp J N
  | 0, _, _ => trivial
  | J+1, N, ⟨he, hl, hr⟩ => by
    obtain ⟨-, -, h1, h2⟩ := halfUp_even N L hL he hl
    exact ⟨⟨h1, h2⟩, by rw [show Kp N = N / 2 from half_even N he]; exact lvls_of_levelsOK L hL J _ hr⟩

section
variable (h0 h1 : List R) (hL : 2 ≤ h0.length) (hLe : h0.length % 2 = 0) (hh1 : h1.length = h0.length)

include hL hh1 in
/-- back-propagating a cotangent pyramid through the J-level forward transform IS applying the J-level inverse to it -/
theorem backprop_eq_inverse1 : ∀ (J N : Nat) (gl : List R) (gh : List (List R)), LevelsOK h0.length J N → PyrOK1 Kp J N gl gh →
    ∃ dx, DWT1DForwardBackward .periodization h0.reverse h1.reverse (shapes Kp J N) gl gh = some dx ∧ dx.length = N ∧
      DWT1DInverse .periodization h0.reverse h1.reverse [gl] (gh.map fun b => some [b]) = some [dx] := by
  intro J
  induction J with
  | zero =>
    intro N gl gh _ hp
    cases gh with
    | cons b rest => exact absurd hp (by simp [PyrOK1])
    | nil => exact ⟨gl, rfl, hp, rfl⟩
  | succ J ih =>
    intro N gl gh hok hp
    cases gh with
    | nil => exact absurd hp (by simp [PyrOK1])
    | cons g1 rest =>
      obtain ⟨hg1, hrest⟩ := hp
      obtain ⟨he, hl, hokr⟩ := hok
      obtain ⟨hK, hfit, -, -⟩ := halfUp_even N h0.length hL he hl
      have eK : Kp N = N / 2 := half_even N he
      have e2 := two_mul_half N he
      rw [eK] at hg1 hrest
      obtain ⟨g0, hb, lg0, hi⟩ := ih (N / 2) gl rest hokr hrest
      have hsv := sfb_per_val h0 h1 hL hh1 (N / 2) hK hfit g0 g1 lg0 hg1
      have ld : (Ip h0.reverse h1.reverse g0 g1).length = N := by rw [length_idwt_per, lg0, e2]
      refine ⟨_, ?_, ld, ?_⟩
      · simp only [shapes, DWT1DForwardBackward, List.tail_cons, List.headD_cons, eK, hb, Option.bind_eq_bind, Option.bind_some,
          AFB1D_backward_one .periodization _ _ g0 g1 _ N hsv, foldCrop_id _ _ _ (le_of_eq ld), List.getD_cons_zero]
      -- at even lengths the loop does not crop
      · rw [List.map_cons, C05V.DWT1DInverse_cons, hi, Option.bind_some, C05V.DWT1DInverse_step_one,
          if_neg (by rw [lg0, hg1]; exact lt_irrefl _)]
        exact C05V.SFB1D_forward_one .periodization _ _ g0 g1 _ hsv

include hL hLe hh1 in
/-- the J-level 1-D inverse is the transpose of the J-level forward transform (one channel, periodization, every level of even length not
shorter than the filters, any even-length filters): `⟨DWT1DForward x, P⟩ = ⟨x, DWT1DInverse P⟩` for every cotangent pyramid `P`
of forward shapes -/
theorem DWT1D_inverse_is_transpose (J : Nat) (x gl : List R) (gh : List (List R)) (hok : LevelsOK h0.length J x.length)
    (hp : PyrOK1 Kp J x.length gl gh) :
    ∃ yl yh y, DWT1DForward .periodization h0.reverse h1.reverse J [x] = some ([yl], yh) ∧
      DWT1DInverse .periodization h0.reverse h1.reverse [gl] (gh.map fun b => some [b]) = some [y] ∧ y.length = x.length ∧
      pdot1 yl yh gl gh = dotN x.length x y := by
  obtain ⟨yl, yh, dx, hf, hb, _, hd⟩ := C05U.DWT1D_per_adjoint h0 h1 hL hLe hh1 J x gl gh (lvls_of_levelsOK h0.length hL J _ hok) hp
  obtain ⟨dx', hb', ldx, hi⟩ := backprop_eq_inverse1 h0 h1 hL hh1 J x.length gl gh hok hp
  have : dx' = dx := Option.some.inj (hb'.symm.trans hb)
  subst this
  exact ⟨yl, yh, dx', hf, hi, ldx, hd⟩

end

/-- the hypotheses `LevelsOK` and `PyrOK1` of `DWT1D_inverse_is_transpose` are satisfiable together: 4-tap filters, two levels on
a length-8 signal: levels of length 8 and 4, bands of length 4 and 2 -/
example : LevelsOK 4 2 8 ∧ PyrOK1 Kp 2 8 ([1, 2] : List Int) [[1, 2, 3, 4], [5, 6]] := by
  simp [LevelsOK, PyrOK1, Kp]

end WV.C17U
