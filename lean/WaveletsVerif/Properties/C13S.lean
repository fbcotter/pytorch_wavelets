/-
  C13 — circular-shift equivariance of the whole 2-D stationary transform.

  The one-dimensional statement (`C13.swt_shift`: `swt (rot s x) = rot s (swt x)` for every filter, dilation, shift and
  length ≥ 1) is lifted along rows and columns (columns through `tr (rot2 x) = rot2 (tr x)`), to one undecimated level, to
  every number of levels, and — with `C13.SWTForward_eq_swt2` — to the implementation model of `SWTForward`: shifting the
  input image circularly by `(s1, s2)` shifts every band of every level by `(s1, s2)` (`SWTForward_shift`), on one
  channel, for every non-empty rectangular image size, every shift (negative and larger than the image included), every J and
  all even filter lengths ≥ 2, in the modes 'periodization' / 'periodic'.
-/
import WaveletsVerif.Properties.C13
import WaveletsVerif.Lemmas.Img
namespace WV.C13S
open WV WV.C04 WV.C13
variable {R : Type} [CommRing R]

/-- `np.roll(x, (s1, s2), axis=(0, 1))` -/
def rot2 (s1 s2 : Int) (x : Img R) : Img R :=
  tab2 x.length x.width fun i j => get2 x (((i:Int) - s1) % (x.length : Int)).toNat (((j:Int) - s2) % (x.width : Int)).toNat

theorem rot2_rect (s1 s2 : Int) (x : Img R) (H W : Nat) (hx : Rect x H W) (hH : 1 ≤ H) : Rect (rot2 s1 s2 x) H W := by
  unfold rot2
  rw [hx.1, rect_width x H W hx hH]
  exact tab2_rect _ _ _

theorem idx_lt (k : Nat) (s : Int) (n : Nat) (hn : 1 ≤ n) : (((k:Int) - s) % (n : Int)).toNat < n := by
  have e0 := Int.emod_nonneg ((k:Int) - s) (by omega : (n:Int) ≠ 0)
  have e1 := Int.emod_lt_of_pos ((k:Int) - s) (by omega : (0:Int) < n)
  omega

theorem rot2_row (s1 s2 : Int) (x : Img R) (H W : Nat) (hx : Rect x H W) (hH : 1 ≤ H) (hW : 1 ≤ W) (i : Nat) (hi : i < H) :
    (rot2 s1 s2 x).getD i [] = rot s2 (x.getD (((i:Int) - s1) % (H : Int)).toNat []) := by
  have hw := rect_width x H W hx hH
  unfold rot2
  rw [hx.1, hw]
  unfold tab2
  rw [getD_tab, if_pos hi]
  have hi' := idx_lt i s1 H hH
  have hrow : (x.getD (((i:Int) - s1) % (H : Int)).toNat []).length = W := row_length x H W hx _ hi'
  unfold rot
  rw [hrow]
  apply tab_ext rfl; intro j hj
  have e0 := Int.emod_nonneg ((j:Int) - s2) (by omega : (W:Int) ≠ 0)
  unfold get2 getZ
  rw [if_pos e0]

theorem rowsMap_rot2 (f : List R → List R) (s1 s2 : Int) (x : Img R) (H W : Nat) (hx : Rect x H W) (hH : 1 ≤ H) (hW : 1 ≤ W)
    (hlen : ∀ r : List R, r.length = W → (f r).length = W)
    (hcomm : ∀ r : List R, r.length = W → f (rot s2 r) = rot s2 (f r)) :
    Spec.rowsMap f (rot2 s1 s2 x) = rot2 s1 s2 (Spec.rowsMap f x) := by
  have hfx : Rect (Spec.rowsMap f x) H W := alongW_rect_of_length f x H W W hx hlen
  have r1 := rot2_rect s1 s2 x H W hx hH
  have hmap : ∀ (y : Img R) (i : Nat), i < y.length → (Spec.rowsMap f y).getD i [] = f (y.getD i []) := row_alongW f
  rw [list_eq_tab_getD (Spec.rowsMap f (rot2 s1 s2 x)) H [] (by rw [Spec.rowsMap, List.length_map, r1.1]),
    list_eq_tab_getD (rot2 s1 s2 (Spec.rowsMap f x)) H [] (rot2_rect s1 s2 _ H W hfx hH).1]
  apply tab_ext rfl
  intro i hi
  have hi' := idx_lt i s1 H hH
  rw [hmap _ i (by rw [r1.1]; exact hi), rot2_row s1 s2 x H W hx hH hW i hi, rot2_row s1 s2 _ H W hfx hH hW i hi,
    hcomm _ (row_length x H W hx _ hi'), hmap x _ (by rw [hx.1]; exact hi')]

theorem get2_rot2 (s1 s2 : Int) (x : Img R) (H W : Nat) (hx : Rect x H W) (hH : 1 ≤ H) (i j : Nat) (hi : i < H) (hj : j < W) :
    get2 (rot2 s1 s2 x) i j = get2 x (((i:Int) - s1) % (H : Int)).toNat (((j:Int) - s2) % (W : Int)).toNat := by
  unfold rot2
  rw [hx.1, rect_width x H W hx hH, get2_tab2 _ _ _ i j hi hj]

theorem tr_rot2 (s1 s2 : Int) (x : Img R) (H W : Nat) (hx : Rect x H W) (hH : 1 ≤ H) (hW : 1 ≤ W) :
    tr (rot2 s1 s2 x) = rot2 s2 s1 (tr x) := by
  have r1 := rot2_rect s1 s2 x H W hx hH
  have rt := tr_rect x H W hx hH
  rw [rect_eq_tab2 _ W H (tr_rect _ H W r1 hH), rect_eq_tab2 (rot2 s2 s1 (tr x)) W H (rot2_rect s2 s1 _ W H rt hW)]
  apply tab2_congr
  intro j hj i hi
  rw [get2_tr _ H W r1 hH, get2_rot2 s1 s2 x H W hx hH i j hi hj, get2_rot2 s2 s1 _ W H rt hW j i hj hi,
    get2_tr x H W hx hH]

theorem colsMap_rot2 (g : List R → List R) (s1 s2 : Int) (x : Img R) (H W : Nat) (hx : Rect x H W) (hH : 1 ≤ H) (hW : 1 ≤ W)
    (hlen : ∀ r : List R, r.length = H → (g r).length = H)
    (hcomm : ∀ r : List R, r.length = H → g (rot s1 r) = rot s1 (g r)) :
    Spec.colsMap g (rot2 s1 s2 x) = rot2 s1 s2 (Spec.colsMap g x) := by
  have rt : Rect (tr x) W H := tr_rect x H W hx hH
  have rtm : Rect ((tr x).map g) W H := alongW_rect_of_length g (tr x) W H H rt hlen
  unfold Spec.colsMap
  rw [tr_rot2 s1 s2 x H W hx hH hW]
  have := rowsMap_rot2 g s2 s1 (tr x) W H rt hW hH hlen hcomm
  unfold Spec.rowsMap at this
  rw [this, tr_rot2 s2 s1 _ W H rtm hW hH]

theorem rowsMap_swt_rect (h : List R) (d : Nat) (x : Img R) (H W : Nat) (hx : Rect x H W) :
    Rect (Spec.rowsMap (fun r => Spec.swt h r d) x) H W :=
  alongW_rect_of_length _ x H W W hx fun c hc => by rw [swt_length]; exact hc

theorem colsMap_swt_rect (h : List R) (d : Nat) (x : Img R) (H W : Nat) (hx : Rect x H W) (hH : 1 ≤ H) (hW : 1 ≤ W) :
    Rect (Spec.colsMap (fun r => Spec.swt h r d) x) H W :=
  alongH_rect_of_length _ x H H W hx hH hW fun c hc => by rw [swt_length]; exact hc

theorem swt2Level_rot2 (c0 c1 r0 r1 : List R) (d : Nat) (s1 s2 : Int) (x : Img R) (H W : Nat) (hx : Rect x H W) (hH : 1 ≤ H) (hW : 1 ≤ W) :
    Spec.swt2Level c0 c1 r0 r1 d (rot2 s1 s2 x) = (Spec.swt2Level c0 c1 r0 r1 d x).map (rot2 s1 s2) := by
  have hrow : ∀ (h : List R), Spec.rowsMap (fun r => Spec.swt h r d) (rot2 s1 s2 x)
      = rot2 s1 s2 (Spec.rowsMap (fun r => Spec.swt h r d) x) := fun h =>
    rowsMap_rot2 _ s1 s2 x H W hx hH hW (fun r hr => by rw [swt_length]; exact hr) (fun r hr => swt_shift h r d s2 (by omega))
  have hcol : ∀ (h : List R) (y : Img R), Rect y H W → Spec.colsMap (fun r => Spec.swt h r d) (rot2 s1 s2 y)
      = rot2 s1 s2 (Spec.colsMap (fun r => Spec.swt h r d) y) := fun h y hy =>
    colsMap_rot2 _ s1 s2 y H W hy hH hW (fun r hr => by rw [swt_length]; exact hr) (fun r hr => swt_shift h r d s1 (by omega))
  unfold Spec.swt2Level
  simp only [hrow, List.map_cons, List.map_nil]
  rw [hcol c0 _ (rowsMap_swt_rect r0 d x H W hx), hcol c1 _ (rowsMap_swt_rect r0 d x H W hx),
    hcol c0 _ (rowsMap_swt_rect r1 d x H W hx), hcol c1 _ (rowsMap_swt_rect r1 d x H W hx)]

theorem swt2_rot2 (c0 c1 r0 r1 : List R) (s1 s2 : Int) (H W : Nat) (hH : 1 ≤ H) (hW : 1 ≤ W) :
    ∀ (J j : Nat) (x : Img R), Rect x H W →
      Spec.swt2 c0 c1 r0 r1 J j (rot2 s1 s2 x) = (Spec.swt2 c0 c1 r0 r1 J j x).map fun b => b.map (rot2 s1 s2)
  | 0, _, _, _ => by simp [Spec.swt2]
  | J+1, j, x, hx => by
    simp only [Spec.swt2, List.map_cons]
    rw [swt2Level_rot2 c0 c1 r0 r1 (2^j) s1 s2 x H W hx hH hW]
    congr 1
    have hA : ((Spec.swt2Level c0 c1 r0 r1 (2^j) x).map (rot2 s1 s2)).getD 0 []
        = rot2 s1 s2 ((Spec.swt2Level c0 c1 r0 r1 (2^j) x).getD 0 []) := by
      simp [Spec.swt2Level]
    rw [hA]
    apply swt2_rot2 c0 c1 r0 r1 s1 s2 H W hH hW J (j+1)
    simp only [Spec.swt2Level, List.getD_cons_zero]
    exact colsMap_swt_rect c0 (2^j) _ H W (rowsMap_swt_rect r0 (2^j) x H W hx) hH hW

/-- `SWTForward` is circular-shift equivariant: the implementation model of the J-level stationary transform on the
shifted image returns every band of every level shifted by the same `(s1, s2)` — one channel, every non-empty rectangular image size, every shift, every J,
even filter lengths ≥ 2, modes 'periodization' (the default) and 'periodic' -/
theorem SWTForward_shift (mode : Mode) (hm : mode = .periodization ∨ mode = .periodic)
    (c0 c1 r0 r1 : List R) (hc0 : 2 ≤ c0.length ∧ c0.length % 2 = 0) (hc1 : 2 ≤ c1.length ∧ c1.length % 2 = 0)
    (hr0 : 2 ≤ r0.length ∧ r0.length % 2 = 0) (hr1 : 2 ≤ r1.length ∧ r1.length % 2 = 0)
    (J : Nat) (s1 s2 : Int) (x : Img R) (H W : Nat) (hx : Rect x H W) (hH : 1 ≤ H) (hW : 1 ≤ W) :
    ∃ ys, SWTForwardM mode J [c0, c1, r0, r1] [x] = some ys ∧
      SWTForwardM mode J [c0, c1, r0, r1] [rot2 s1 s2 x] = some (ys.map fun lvl => lvl.map fun ch => ch.map (rot2 s1 s2)) := by
  refine ⟨_, SWTForward_eq_swt2 mode hm c0 c1 r0 r1 hc0 hc1 hr0 hr1 J x (C01.nonEmpty_of_rect x H W hx hH hW), ?_⟩
  rw [SWTForward_eq_swt2 mode hm c0 c1 r0 r1 hc0 hc1 hr0 hr1 J _ (C01.nonEmpty_of_rect _ H W (rot2_rect s1 s2 x H W hx hH) hH hW),
    swt2_rot2 c0 c1 r0 r1 s1 s2 H W hH hW J 0 x hx]
  simp [List.map_map, Function.comp_def]

/-- a concrete shift: rolling a 2 × 3 image by (1, −1) -/
example : rot2 1 (-1) ([[1, 2, 3], [4, 5, 6]] : Img Int) = [[5, 6, 4], [2, 3, 1]] := by decide

end WV.C13S
