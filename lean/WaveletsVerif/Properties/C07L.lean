/-
  C07 — linearity of `DWTForward` (dwt/transform2d.py): images, channel stacks and the whole J-level 2-D pyramid,
  in every padding mode.

  `afb1d` is "a guard on the length, then a linear map" (`C07.afb1dOne_guardedLin`, all five modes).  A linear list
  operator applied along the rows or along the columns of an image is a linear image operator whose output shape depends
  on the input shape only (`alongW_lin`, `alongH_lin`); on a stack of `C ≥ 1` images of one shape `AFB2D.forward`
  therefore either raises for every stack of that shape or returns, channel by channel, four linear image operators
  (`twoPass_rep` for any guarded linear one-channel operator, `AFB2D_forward_rep` for `afb1d`), and by induction over the
  levels so does `DWTForward` (`DWTForward_rep`).  Consequences, for every J, mode, filters, channel count and image size:
    `DWTForward(a·x + b·y) = a·DWTForward(x) + b·DWTForward(y)`  (`DWTForward_linear`, with "raises iff either raises"),
    whether it raises depends on the shapes only, and channel `c` of every output is one fixed operator applied to
    channel `c` of the input.
-/
import WaveletsVerif.Properties.C07M
namespace WV.C07L
open Finset WV WV.C04 WV.C06 WV.C05D WV.C07 WV.C07M
variable {R : Type} [CommRing R]

def ilin (a b : R) (x y : Img R) : Img R := tab x.length fun i => lincomb a b (x.getD i []) (y.getD i [])

theorem ilin_rect (a b : R) (x y : Img R) (H W : Nat) (hx : Rect x H W) : Rect (ilin a b x y) H W := by
  constructor
  · simp [ilin, hx.1]
  · intro r hr
    unfold ilin tab at hr
    simp only [List.mem_map, List.mem_range] at hr
    obtain ⟨i, hi, rfl⟩ := hr
    rw [lincomb_length]
    exact row_length x H W hx i (by rw [← hx.1]; exact hi)

theorem get2_ilin (a b : R) (x y : Img R) (H W : Nat) (hx : Rect x H W) (hy : Rect y H W) (i j : Nat) (hi : i < H) :
    get2 (ilin a b x y) i j = a * get2 x i j + b * get2 y i j := by
  unfold get2 ilin
  rw [getD_tab, if_pos (by rw [hx.1]; exact hi)]
  have := getN_lincomb a b (x.getD i []) (y.getD i [])
    (by rw [row_length x H W hx i hi, row_length y H W hy i hi]) j
  unfold getN at this
  exact this

theorem ilin_eq_tab2 (a b : R) (x y : Img R) (H W : Nat) (hx : Rect x H W) (hy : Rect y H W) :
    ilin a b x y = tab2 H W fun i j => a * get2 x i j + b * get2 y i j := by
  rw [rect_eq_tab2 _ H W (ilin_rect a b x y H W hx)]
  apply tab2_congr; intro i hi j _
  exact get2_ilin a b x y H W hx hy i j hi

theorem ilin_tab2 (a b : R) (H W : Nat) (f f' : Nat → Nat → R) :
    ilin a b (tab2 H W f) (tab2 H W f') = tab2 H W fun i j => a * f i j + b * f' i j := by
  rw [ilin_eq_tab2 a b _ _ H W (tab2_rect _ _ _) (tab2_rect _ _ _)]
  apply tab2_congr; intro i hi j hj
  rw [get2_tab2 _ _ _ _ _ hi hj, get2_tab2 _ _ _ _ _ hi hj]

/-- on images with equally many rows the combination is row by row, hence commutes with `++`, `take` and `drop` of rows -/
theorem ilin_eq_zipWith (a b : R) (x y : Img R) (h : x.length = y.length) : ilin a b x y = List.zipWith (lincomb a b) x y := by
  apply List.ext_getElem
  · rw [ilin, length_tab, List.length_zipWith, ← h, Nat.min_self]
  · intro i h1 h2
    have hx : i < x.length := by rw [ilin, length_tab] at h1; exact h1
    have hy : i < y.length := h ▸ hx
    simp only [ilin, tab, List.getElem_map, List.getElem_range, List.getElem_zipWith]
    rw [List.getD_eq_getElem?_getD, List.getD_eq_getElem?_getD, List.getElem?_eq_getElem hx, List.getElem?_eq_getElem hy]
    rfl

theorem ilin_append (a b : R) (x x' y y' : Img R) (h : x.length = y.length) (h' : x'.length = y'.length) :
    ilin a b (x ++ x') (y ++ y') = ilin a b x y ++ ilin a b x' y' := by
  rw [ilin_eq_zipWith a b _ _ (by rw [List.length_append, List.length_append, h, h']), ilin_eq_zipWith a b x y h,
    ilin_eq_zipWith a b x' y' h', List.zipWith_append h]

theorem ilin_take (a b : R) (x y : Img R) (k : Nat) (h : x.length = y.length) :
    (ilin a b x y).take k = ilin a b (x.take k) (y.take k) := by
  rw [ilin_eq_zipWith a b x y h, ilin_eq_zipWith a b _ _ (by rw [List.length_take, List.length_take, h]), List.take_zipWith]

theorem ilin_drop (a b : R) (x y : Img R) (k : Nat) (h : x.length = y.length) :
    (ilin a b x y).drop k = ilin a b (x.drop k) (y.drop k) := by
  rw [ilin_eq_zipWith a b x y h, ilin_eq_zipWith a b _ _ (by rw [List.length_drop, List.length_drop, h]), List.drop_zipWith]

/-- output length of a linear list operator on inputs of length `n` -/
def outLen (F : List R → List R) (n : Nat) : Nat := (F (List.replicate n 0)).length

theorem lin_len {F : List R → List R} (hF : Lin F) (c : List R) : (F c).length = outLen F c.length :=
  (hF 1 1 c (List.replicate c.length 0) (by simp)).2

theorem alongW_lin {F : List R → List R} (hF : Lin F) (a b : R) (x y : Img R) (H W : Nat) (hx : Rect x H W) (hy : Rect y H W) :
    alongW F (ilin a b x y) = ilin a b (alongW F x) (alongW F y) := by
  unfold alongW ilin
  rw [map_tab, List.length_map]
  apply tab_ext rfl
  intro i hi
  have hi' : i < H := by rw [← hx.1]; exact hi
  rw [(hF a b _ _ (by rw [row_length x H W hx i hi', row_length y H W hy i hi'])).1]
  congr 1
  · exact (getD_map_lt F x i hi [] []).symm
  · exact (getD_map_lt F y i (by rw [hy.1]; exact hi') [] []).symm

theorem alongW_lin_rect {F : List R → List R} (hF : Lin F) (x : Img R) (H W : Nat) (hx : Rect x H W) :
    Rect (alongW F x) H (outLen F W) :=
  alongW_rect_of_length F x H W _ hx (fun c hc => by rw [lin_len hF c, hc])

theorem tr_ilin (a b : R) (x y : Img R) (H W : Nat) (hx : Rect x H W) (hy : Rect y H W) (hH : 1 ≤ H) :
    tr (ilin a b x y) = ilin a b (tr x) (tr y) := by
  have hr := ilin_rect a b x y H W hx
  rw [ilin_eq_tab2 a b (tr x) (tr y) W H (tr_rect x H W hx hH) (tr_rect y H W hy hH)]
  unfold tr
  rw [rect_width _ H W hr hH, hr.1, rect_width x H W hx hH, hx.1, rect_width y H W hy hH, hy.1]
  apply tab2_congr; intro j hj i hi
  rw [get2_ilin a b x y H W hx hy i j hi, get2_tab2 _ _ _ _ _ hj hi, get2_tab2 _ _ _ _ _ hj hi]

theorem alongH_lin_rect {F : List R → List R} (hF : Lin F) (x : Img R) (H W : Nat) (hx : Rect x H W) (hH : 1 ≤ H) (hW : 1 ≤ W) :
    Rect (alongH F x) (outLen F H) W :=
  alongH_rect_of_length F x H _ W hx hH hW (fun c hc => by rw [lin_len hF c, hc])

theorem alongH_lin {F : List R → List R} (hF : Lin F) (a b : R) (x y : Img R) (H W : Nat) (hx : Rect x H W) (hy : Rect y H W)
    (hH : 1 ≤ H) (hW : 1 ≤ W) :
    alongH F (ilin a b x y) = ilin a b (alongH F x) (alongH F y) := by
  show tr (alongW F (tr (ilin a b x y))) = ilin a b (tr (alongW F (tr x))) (tr (alongW F (tr y)))
  rw [tr_ilin a b x y H W hx hy hH,
    alongW_lin hF a b _ _ W H (tr_rect x H W hx hH) (tr_rect y H W hy hH),
    tr_ilin a b _ _ W _ (alongW_lin_rect hF _ W H (tr_rect x H W hx hH)) (alongW_lin_rect hF _ W H (tr_rect y H W hy hH)) hW]

theorem alongWO_guard (T : List R → Option (List R)) (g : Nat → Bool) (F : List R → List R)
    (hT : ∀ x, T x = if g x.length then some (F x) else none) (x : Img R) (H W : Nat) (hx : Rect x H W) (hH : 1 ≤ H) :
    alongO .W T x = if g W then some (alongW F x) else none := by
  show alongWO T x = _
  by_cases hg : g W
  · rw [if_pos hg]
    apply alongWO_total
    intro c hc
    rw [hT c, hx.2 c hc, if_pos hg]
  · rw [if_neg hg]
    unfold alongWO
    cases x with
    | nil => have := hx.1; simp at this; omega
    | cons r rest =>
      have : T r = none := by rw [hT r, hx.2 r (by simp), if_neg hg]
      simp [this]

theorem alongHO_guard (T : List R → Option (List R)) (g : Nat → Bool) (F : List R → List R)
    (hT : ∀ x, T x = if g x.length then some (F x) else none) (x : Img R) (H W : Nat) (hx : Rect x H W) (hH : 1 ≤ H) (hW : 1 ≤ W) :
    alongO .H T x = if g H then some (alongH F x) else none := by
  show alongHO T x = _
  have := alongWO_guard T g F hT (tr x) W H (tr_rect x H W hx hH) hW
  unfold alongHO
  change alongWO T (tr x) = _ at this
  unfold alongWO at this
  rw [this]
  split <;> rfl

/-! `afb1d` never returns an empty signal: after the row pass the images still have positive width, which the
column pass (a transpose) needs. -/

theorem corrLen_pos (n L : Nat) (h : L ≤ n) (hL : 1 ≤ L) : 1 ≤ corrLen n L 2 1 := by
  unfold corrLen; split <;> omega

theorem le_pad_split (N L p : Nat) (h : L ≤ N + p) : L ≤ p / 2 + N + (p + 1) / 2 := by omega

theorem le_pad_even (N L p : Nat) (h : L ≤ N + p) : L ≤ p / 2 + (if p % 2 = 1 then 0 + N + 1 else N) + p / 2 := by
  split <;> omega

theorem per_len_pos (N1 L : Nat) (hN : 2 ≤ N1) (hL : 2 ≤ L) : 1 ≤ min (N1 / 2) (corrLen (L - 1 + N1 + (L - 1)) L 2 1) :=
  Nat.le_min.2 ⟨by omega, corrLen_pos _ _ (by omega) (by omega)⟩

theorem afb1dOne_some_pos (m : Mode) (w x y : List R) (h : afb1dOne m w x = some y) : 1 ≤ y.length := by
  by_cases hg : w.length < 2 ∨ x.length < 1
  · simp only [afb1dOne, hg, if_true] at h
    cases h
  · simp only [afb1dOne, hg, if_false] at h
    obtain ⟨hL, hN⟩ := not_or.1 hg
    rw [Nat.not_lt] at hL hN
    have hL1 : 1 ≤ w.length := Nat.le_of_succ_le hL
    -- with the pad `p` of the modes other than periodization the padded signal has `2 (K − 1) + L ≥ L` samples
    have hp : w.length ≤ x.length + (2 * (dwtCoeffLen x.length w.length - 1) + w.length - x.length) := by
      rw [(afb_pad_spec x.length w.length hL hN).2.2]
      exact Nat.le_add_left _ _
    cases m with
    | periodization =>
      obtain rfl := Option.some.inj h
      have hN1 : 2 ≤ (if x.length % 2 = 1 then x ++ sliceFrom x (-1) else x).length := by
        split
        · rw [List.length_append, sliceFrom_neg_one_length x hN]; omega
        · omega
      simp only [List.length_take, foldAdd, length_tab, corr_length, length_zeroPad, rollPy_length]
      exact per_len_pos _ _ hN1 hL
    | zero =>
      obtain rfl := Option.some.inj h
      rw [corr_length, length_zeroPad, apply_ite List.length, length_zeroPad]
      exact corrLen_pos _ _ (le_pad_even _ _ _ hp) hL1
    | symmetric =>
      obtain rfl := Option.some.inj h
      rw [corr_length, length_padIdx]
      exact corrLen_pos _ _ (le_pad_split _ _ _ hp) hL1
    | periodic =>
      obtain rfl := Option.some.inj h
      rw [corr_length, length_padIdx]
      exact corrLen_pos _ _ (le_pad_split _ _ _ hp) hL1
    | reflect =>
      dsimp only at h
      split at h
      · obtain rfl := Option.some.inj h
        rw [corr_length, length_padIdx]
        exact corrLen_pos _ _ (le_pad_split _ _ _ hp) hL1
      · cases h
    | constant => cases h
    | replicate => cases h

def slin (a b : R) (xs ys : List (Img R)) : List (Img R) := tab xs.length fun c => ilin a b (xs.getD c []) (ys.getD c [])

/-- every channel of the stack is an `H × W` rectangle (all rows of length `W`); unlike `C10.Shape`, which is on one
image and constrains the row count and `Img.width` only -/
def Shape (xs : List (Img R)) (H W : Nat) : Prop := ∀ c < xs.length, Rect (xs.getD c []) H W

/-- a linear image operator from shape `H × W` to shape `H' × W'` -/
structure ImgLin (T : Img R → Img R) (H W H' W' : Nat) : Prop where
  rect : ∀ x, Rect x H W → Rect (T x) H' W'
  lin : ∀ (a b : R) (x y : Img R), Rect x H W → Rect y H W → T (ilin a b x y) = ilin a b (T x) (T y)

theorem ImgLin.comp {T U : Img R → Img R} {H W H1 W1 H2 W2 : Nat} (hT : ImgLin T H W H1 W1) (hU : ImgLin U H1 W1 H2 W2) :
    ImgLin (fun x => U (T x)) H W H2 W2 :=
  ⟨fun x hx => hU.rect _ (hT.rect x hx),
   fun a b x y hx hy => by
     show U (T (ilin a b x y)) = ilin a b (U (T x)) (U (T y))
     rw [hT.lin a b x y hx hy, hU.lin a b _ _ (hT.rect x hx) (hT.rect y hy)]⟩

theorem imgLin_W {F : List R → List R} (hF : Lin F) (H W : Nat) : ImgLin (alongW F) H W H (outLen F W) :=
  ⟨fun x hx => alongW_lin_rect hF x H W hx, fun a b x y hx hy => alongW_lin hF a b x y H W hx hy⟩

theorem imgLin_H {F : List R → List R} (hF : Lin F) (H W : Nat) (hH : 1 ≤ H) (hW : 1 ≤ W) : ImgLin (alongH F) H W (outLen F H) W :=
  ⟨fun x hx => alongH_lin_rect hF x H W hx hH hW, fun a b x y hx hy => alongH_lin hF a b x y H W hx hy hH hW⟩

theorem slin_shape (a b : R) (xs ys : List (Img R)) (H W : Nat) (hx : Shape xs H W) : Shape (slin a b xs ys) H W := by
  intro c hc
  unfold slin at hc ⊢
  rw [length_tab] at hc
  rw [getD_tab, if_pos hc]
  exact ilin_rect a b _ _ H W (hx c hc)

theorem outLen_pos_of_guard {T : List R → Option (List R)} {g : Nat → Bool} {F : List R → List R}
    (hT : ∀ x, T x = if g x.length then some (F x) else none) (hp : ∀ x y, T x = some y → 1 ≤ y.length) (n : Nat)
    (hg : g n = true) : 1 ≤ outLen F n := by
  have := hT (List.replicate n 0)
  rw [List.length_replicate, if_pos hg] at this
  exact hp _ _ this

/-- band `k` of a row pass followed by a column pass: `k / 2` selects the row filter, `k % 2` the column filter -/
def bandOp (Fr0 Fr1 Fc0 Fc1 : List R → List R) (k : Nat) (x : Img R) : Img R :=
  alongH (if k % 2 = 0 then Fc0 else Fc1) (alongW (if k / 2 = 0 then Fr0 else Fr1) x)

theorem bandOp_imgLin {Fr0 Fr1 Fc0 Fc1 : List R → List R} (lr0 : Lin Fr0) (lr1 : Lin Fr1) (lc0 : Lin Fc0) (lc1 : Lin Fc1)
    (H W : Nat) (hH : 1 ≤ H) (p0 : 1 ≤ outLen Fr0 W) (p1 : 1 ≤ outLen Fr1 W) (k : Nat) :
    ImgLin (bandOp Fr0 Fr1 Fc0 Fc1 k) H W (outLen (if k % 2 = 0 then Fc0 else Fc1) H) (outLen (if k / 2 = 0 then Fr0 else Fr1) W) := by
  have lr : Lin (if k / 2 = 0 then Fr0 else Fr1) := by split; exact lr0; exact lr1
  have lc : Lin (if k % 2 = 0 then Fc0 else Fc1) := by split; exact lc0; exact lc1
  have p : 1 ≤ outLen (if k / 2 = 0 then Fr0 else Fr1) W := by split; exact p0; exact p1
  exact (imgLin_W lr H W).comp (imgLin_H lc H _ hH p)

/-- two grouped passes (rows, then columns) of guarded linear one-channel operators on a stack of `C ≥ 1` images of
one shape: a refusal decided by the shape, or output channel `4c + k` is band `k` of input channel `c`.  The two passes
are the grouped convolutions of `afb1d` / `afb1d_atrous`, written out. -/
theorem twoPass_rep (T : List R → List R → Option (List R)) (wr0 wr1 wc0 wc1 : List R) {gr0 gr1 gc0 gc1 : Nat → Bool}
    {Fr0 Fr1 Fc0 Fc1 : List R → List R} (lr0 : Lin Fr0) (lr1 : Lin Fr1)
    (er0 : ∀ x, T wr0 x = if gr0 x.length then some (Fr0 x) else none) (er1 : ∀ x, T wr1 x = if gr1 x.length then some (Fr1 x) else none)
    (ec0 : ∀ x, T wc0 x = if gc0 x.length then some (Fc0 x) else none) (ec1 : ∀ x, T wc1 x = if gc1 x.length then some (Fc1 x) else none)
    (H W : Nat) (hH : 1 ≤ H) (p0 : gr0 W = true → 1 ≤ outLen Fr0 W) (p1 : gr1 W = true → 1 ≤ outLen Fr1 W)
    (xs : List (Img R)) (hxs : Shape xs H W) (hC : 1 ≤ xs.length) :
    ((grouped xs.length ((List.replicate xs.length [wr0, wr1]).flatten) xs fun w ch => alongO .W (T w) ch).mapM id).bind
        (fun ys => (grouped ys.length ((List.replicate ys.length [wc0, wc1]).flatten) ys fun w ch => alongO .H (T w) ch).mapM id)
      = if gr0 W && gr1 W && gc0 H && gc1 H
          then some (tab (2 * (2 * xs.length)) fun o => bandOp Fr0 Fr1 Fc0 Fc1 (o % 4) (xs.getD (o / 4) [])) else none := by
  rw [grouped_pair_guard _ wr0 wr1 xs hC (gr0 W) (gr1 W) (alongW Fr0) (alongW Fr1)
    (fun c hc => alongWO_guard _ gr0 Fr0 er0 _ H W (hxs c hc) hH) (fun c hc => alongWO_guard _ gr1 Fr1 er1 _ H W (hxs c hc) hH)]
  cases hrow : (gr0 W && gr1 W) with
  | false => rfl
  | true =>
    rw [if_pos rfl, Option.bind_some, Bool.true_and]
    simp only [Bool.and_eq_true] at hrow
    -- the stack after the row pass: `2C` channels of height `H` and positive width
    generalize hys : (tab (2 * xs.length) fun o => if o % 2 = 0 then alongW Fr0 (xs.getD (o/2) []) else alongW Fr1 (xs.getD (o/2) [])) = ys
    have hl : ys.length = 2 * xs.length := by rw [← hys, length_tab]
    have hshape : ∀ o < ys.length, ∃ w, 1 ≤ w ∧ Rect (ys.getD o []) H w := by
      intro o ho
      rw [hl] at ho
      rw [← hys, getD_tab, if_pos ho]
      split
      · exact ⟨_, p0 hrow.1, alongW_lin_rect lr0 _ H W (hxs _ (Nat.div_lt_of_lt_mul ho))⟩
      · exact ⟨_, p1 hrow.2, alongW_lin_rect lr1 _ H W (hxs _ (Nat.div_lt_of_lt_mul ho))⟩
    have hC2 : 1 ≤ ys.length := by rw [hl]; exact Nat.le_trans hC (Nat.le_mul_of_pos_left _ (by decide))
    rw [grouped_pair_guard _ wc0 wc1 ys hC2 (gc0 H) (gc1 H) (alongH Fc0) (alongH Fc1)
      (fun o ho => by obtain ⟨w, hw, hr⟩ := hshape o ho; exact alongHO_guard _ gc0 Fc0 ec0 _ H w hr hH hw)
      (fun o ho => by obtain ⟨w, hw, hr⟩ := hshape o ho; exact alongHO_guard _ gc1 Fc1 ec1 _ H w hr hH hw)]
    have etab : (tab (2 * ys.length) fun o => if o % 2 = 0 then alongH Fc0 (ys.getD (o/2) []) else alongH Fc1 (ys.getD (o/2) []))
        = tab (2 * (2 * xs.length)) fun o => bandOp Fr0 Fr1 Fc0 Fc1 (o % 4) (xs.getD (o / 4) []) := by
      apply tab_ext (by rw [hl])
      intro o ho
      rw [hl] at ho
      rw [← hys, getD_tab, if_pos (Nat.div_lt_of_lt_mul ho)]
      exact ite_pair_pair alongH alongW Fc0 Fc1 Fr0 Fr1 (fun c => xs.getD c []) o
    exact congrArg (fun t => if (gc0 H && gc1 H) = true then some t else none) etab

theorem AFB2D_forward_eq (mode : Mode) (wr0 wr1 wc0 wc1 : List R) (xs : List (Img R)) :
    AFB2D_forward mode wr0 wr1 wc0 wc1 xs
      = ((afb1dT .W mode wr0 wr1 xs).bind (afb1dT .H mode wc0 wc1)).bind fun y =>
          some (tab (y.length / 4) fun c => y.getD (4*c) [],
                tab (y.length / 4) fun c => [y.getD (4*c+1) [], y.getD (4*c+2) [], y.getD (4*c+3) []]) := by
  unfold AFB2D_forward
  cases afb1dT .W mode wr0 wr1 xs <;> rfl

/-- one level on a stack of `C ≥ 1` images of one shape: whether `AFB2D.forward` raises is decided by the shape, and
when it returns, channel `c` of each of the four bands is one fixed linear image operator applied to channel `c` -/
theorem AFB2D_forward_rep (mode : Mode) (wr0 wr1 wc0 wc1 : List R) (H W : Nat) (hH : 1 ≤ H) (hW : 1 ≤ W) :
    ∃ (ok : Bool) (H' W' : Nat) (A B1 B2 B3 : Img R → Img R),
      (ok = true → ImgLin A H W H' W' ∧ (∃ h w, ImgLin B1 H W h w) ∧ (∃ h w, ImgLin B2 H W h w) ∧ (∃ h w, ImgLin B3 H W h w) ∧
        1 ≤ H' ∧ 1 ≤ W') ∧
      ∀ xs : List (Img R), Shape xs H W → 1 ≤ xs.length →
        AFB2D_forward mode wr0 wr1 wc0 wc1 xs
          = if ok then some (tab xs.length fun c => A (xs.getD c []),
                             tab xs.length fun c => [B1 (xs.getD c []), B2 (xs.getD c []), B3 (xs.getD c [])])
            else none := by
  obtain ⟨gr0, Fr0, lr0, er0⟩ := C07.afb1dOne_guardedLin (R := R) mode wr0
  obtain ⟨gr1, Fr1, lr1, er1⟩ := C07.afb1dOne_guardedLin (R := R) mode wr1
  obtain ⟨gc0, Fc0, lc0, ec0⟩ := C07.afb1dOne_guardedLin (R := R) mode wc0
  obtain ⟨gc1, Fc1, lc1, ec1⟩ := C07.afb1dOne_guardedLin (R := R) mode wc1
  have p0 := outLen_pos_of_guard er0 (afb1dOne_some_pos mode wr0) W
  have p1 := outLen_pos_of_guard er1 (afb1dOne_some_pos mode wr1) W
  refine ⟨gr0 W && gr1 W && gc0 H && gc1 H, outLen Fc0 H, outLen Fr0 W, bandOp Fr0 Fr1 Fc0 Fc1 0, bandOp Fr0 Fr1 Fc0 Fc1 1,
    bandOp Fr0 Fr1 Fc0 Fc1 2, bandOp Fr0 Fr1 Fc0 Fc1 3, ?_, ?_⟩
  · intro hok
    simp only [Bool.and_eq_true] at hok
    obtain ⟨⟨⟨g1, g2⟩, g3⟩, _⟩ := hok
    have L := bandOp_imgLin lr0 lr1 lc0 lc1 H W hH (p0 g1) (p1 g2)
    exact ⟨L 0, ⟨_, _, L 1⟩, ⟨_, _, L 2⟩, ⟨_, _, L 3⟩, outLen_pos_of_guard ec0 (afb1dOne_some_pos mode wc0) H g3, p0 g1⟩
  · intro xs hxs hC
    have e : (afb1dT .W mode wr0 wr1 xs).bind (afb1dT .H mode wc0 wc1) = _ :=
      twoPass_rep (afb1dOne mode) wr0 wr1 wc0 wc1 lr0 lr1 er0 er1 ec0 ec1 H W hH p0 p1 xs hxs hC
    rw [AFB2D_forward_eq, e]
    cases (gr0 W && gr1 W && gc0 H && gc1 H) with
    | false => rfl
    | true =>
      rw [if_pos rfl, if_pos rfl, Option.bind_some, length_tab, two_two_div_four]
      have q := fun c hc k hk => getD_tab_band xs.length (fun k c => bandOp Fr0 Fr1 Fc0 Fc1 k (xs.getD c [])) [] c k hc hk
      refine congrArg some (Prod.ext ?_ ?_)
      · apply tab_ext rfl
        intro c hc
        exact q c hc 0 (by decide)
      · apply tab_ext rfl
        intro c hc
        rw [q c hc 1 (by decide), q c hc 2 (by decide), q c hc 3 (by decide)]

theorem imgLin_id (H W : Nat) : ImgLin (fun x : Img R => x) H W H W := ⟨fun _ hx => hx, fun _ _ _ _ _ _ => rfl⟩

/-- the J-level `DWTForward` on a stack of `C ≥ 1` images of one shape, in every padding mode: whether it raises is
decided by the shape, and when it returns, channel `c` of the low-pass and of every band `k` of every level `j` is one
fixed linear image operator applied to channel `c` of the input -/
theorem DWTForward_rep (mode : Mode) (wc0 wc1 wr0 wr1 : List R) : ∀ (J H W : Nat), 1 ≤ H → 1 ≤ W →
    ∃ (ok : Bool) (A : Img R → Img R) (D : Nat → Nat → Img R → Img R),
      (ok = true → (∃ h w, ImgLin A H W h w) ∧ ∀ j < J, ∀ k < 3, ∃ h w, ImgLin (D j k) H W h w) ∧
      ∀ xs : List (Img R), Shape xs H W → 1 ≤ xs.length →
        DWTForward mode wc0 wc1 wr0 wr1 J xs
          = if ok then some (tab xs.length fun c => A (xs.getD c []),
                             tab J fun j => tab xs.length fun c => [D j 0 (xs.getD c []), D j 1 (xs.getD c []), D j 2 (xs.getD c [])])
            else none := by
  intro J
  induction J with
  | zero =>
    intro H W _ _
    refine ⟨true, fun x => x, fun _ _ x => x, fun _ => ⟨⟨H, W, imgLin_id H W⟩, fun j hj => by omega⟩, ?_⟩
    intro xs _ _
    simp only [DWTForward, if_true, tab_getD_self]
    rfl
  | succ J ih =>
    intro H W hH hW
    obtain ⟨ok1, H', W', A1, B1, B2, B3, h1, e1⟩ := AFB2D_forward_rep mode wr0 wr1 wc0 wc1 H W hH hW
    cases ok1 with
    | false =>
      refine ⟨false, fun x => x, fun _ _ x => x, ⟨fun h => Bool.noConfusion h, ?_⟩⟩
      intro xs hxs hC
      simp only [DWTForward, e1 xs hxs hC, Bool.false_eq_true, if_false]
      rfl
    | true =>
      obtain ⟨lA1, ⟨hb1, wb1, lB1⟩, ⟨hb2, wb2, lB2⟩, ⟨hb3, wb3, lB3⟩, pH, pW⟩ := h1 rfl
      obtain ⟨ok2, A2, D2, h2, e2⟩ := ih H' W' pH pW
      -- level 0 is `A1, B1, B2, B3`; the `J` remaining levels act on `A1 x`, of shape `H' × W'`: compose `ih` with `A1`
      refine ⟨ok2, fun x => A2 (A1 x),
        fun j k => match j with
          | 0 => if k = 0 then B1 else if k = 1 then B2 else B3
          | j+1 => fun x => D2 j k (A1 x), ?_, ?_⟩
      · intro hok
        obtain ⟨⟨ha, wa, lA2⟩, lD2⟩ := h2 hok
        refine ⟨⟨ha, wa, lA1.comp lA2⟩, ?_⟩
        intro j hj k hk
        cases j with
        | zero =>
          simp only []
          by_cases k0 : k = 0
          · rw [if_pos k0]; exact ⟨_, _, lB1⟩
          · rw [if_neg k0]
            by_cases k1 : k = 1
            · rw [if_pos k1]; exact ⟨_, _, lB2⟩
            · rw [if_neg k1]; exact ⟨_, _, lB3⟩
        | succ j =>
          obtain ⟨h, w, l⟩ := lD2 j (by omega) k hk
          exact ⟨h, w, lA1.comp l⟩
      · intro xs hxs hC
        have hll : Shape (tab xs.length fun c => A1 (xs.getD c [])) H' W' := by
          intro c hc
          rw [length_tab] at hc
          rw [getD_tab, if_pos hc]
          exact lA1.rect _ (hxs c hc)
        simp only [DWTForward, e1 xs hxs hC, if_true, Option.bind_eq_bind, Option.bind_some]
        rw [e2 _ hll (by rw [length_tab]; exact hC)]
        cases ok2 with
        | false => rfl
        | true =>
          simp only [if_true, Option.bind_some, length_tab]
          rw [tab_succ_cons]
          refine congrArg some (Prod.ext ?_ ?_)
          · apply tab_ext rfl
            intro c hc
            simp only [getD_tab, hc, if_true]
          · simp only [List.cons.injEq]
            refine ⟨?_, ?_⟩
            · apply tab_ext rfl
              intro c hc
              simp
            · apply tab_ext rfl
              intro j _
              apply tab_ext rfl
              intro c hc
              simp only [getD_tab, hc, if_true]

/-- `a·u + b·v` on the output structure `(yl, yh)` of `DWTForward`: stack of low-passes, per level a stack of band triples -/
def plin (a b : R) (u v : List (Img R) × List (List (List (Img R)))) : List (Img R) × List (List (List (Img R))) :=
  (slin a b u.1 v.1,
   tab u.2.length fun j => tab (u.2.getD j []).length fun c => tab ((u.2.getD j []).getD c []).length fun k =>
     ilin a b (((u.2.getD j []).getD c []).getD k []) (((v.2.getD j []).getD c []).getD k []))

/-- the J-level 2-D DWT is linear, in every padding mode, for every J, filters, channel count and image size:
`DWTForward(a·x + b·y) = a·DWTForward(x) + b·DWTForward(y)`, and it raises iff it raises on `x` (equivalently on `y`) -/
theorem DWTForward_linear (mode : Mode) (wc0 wc1 wr0 wr1 : List R) (J : Nat) (a b : R) (xs ys : List (Img R)) (H W : Nat)
    (hx : Shape xs H W) (hy : Shape ys H W) (hlen : ys.length = xs.length) (hC : 1 ≤ xs.length) (hH : 1 ≤ H) (hW : 1 ≤ W) :
    DWTForward mode wc0 wc1 wr0 wr1 J (slin a b xs ys)
      = (DWTForward mode wc0 wc1 wr0 wr1 J xs).bind fun u => (DWTForward mode wc0 wc1 wr0 wr1 J ys).bind fun v =>
          some (plin a b u v) := by
  obtain ⟨ok, A, D, hl, e⟩ := DWTForward_rep mode wc0 wc1 wr0 wr1 J H W hH hW
  have hsl : (slin a b xs ys).length = xs.length := by simp [slin]
  rw [e _ (slin_shape a b xs ys H W hx) (by rw [hsl]; exact hC), e xs hx hC, e ys hy (by rw [hlen]; exact hC)]
  cases ok with
  | false => rfl
  | true =>
    obtain ⟨⟨ha, wa, lA⟩, lD⟩ := hl rfl
    simp only [if_true, Option.bind_some, hsl, hlen]
    refine congrArg some (Prod.ext ?_ ?_)
    · simp only [plin, slin, length_tab]
      apply tab_ext rfl
      intro c hc
      simp only [getD_tab, hc, if_true]
      exact lA.lin a b _ _ (hx c hc) (hy c (by rw [hlen]; exact hc))
    · simp only [plin, length_tab]
      apply tab_ext rfl
      intro j hj
      simp only [getD_tab, hj, if_true, length_tab]
      apply tab_ext rfl
      intro c hc
      simp only [getD_tab, hc, if_true, slin, List.length_cons, List.length_nil]
      rw [tab3]
      obtain ⟨_, _, l0⟩ := lD j hj 0 (by omega)
      obtain ⟨_, _, l1⟩ := lD j hj 1 (by omega)
      obtain ⟨_, _, l2⟩ := lD j hj 2 (by omega)
      have hxc := hx c hc
      have hyc := hy c (by rw [hlen]; exact hc)
      simp only [List.getD_cons_zero, List.getD_cons_succ]
      rw [l0.lin a b _ _ hxc hyc, l1.lin a b _ _ hxc hyc, l2.lin a b _ _ hxc hyc]

/-- whether the J-level transform raises depends on the shape of the stack only -/
theorem DWTForward_raises_by_shape (mode : Mode) (wc0 wc1 wr0 wr1 : List R) (J : Nat) (xs ys : List (Img R)) (H W : Nat)
    (hx : Shape xs H W) (hy : Shape ys H W) (hCx : 1 ≤ xs.length) (hCy : 1 ≤ ys.length) (hH : 1 ≤ H) (hW : 1 ≤ W) :
    DWTForward mode wc0 wc1 wr0 wr1 J xs = none ↔ DWTForward mode wc0 wc1 wr0 wr1 J ys = none := by
  obtain ⟨ok, A, D, _, e⟩ := DWTForward_rep mode wc0 wc1 wr0 wr1 J H W hH hW
  rw [e xs hx hCx, e ys hy hCy]
  cases ok <;> simp

/-- slice independence: channel `c` of the low-pass and of every level depends on channel `c` of the input only — two
stacks of one shape (any channel counts) that agree on a channel give the same outputs on that channel -/
theorem DWTForward_slice (mode : Mode) (wc0 wc1 wr0 wr1 : List R) (J : Nat) (xs ys : List (Img R)) (H W : Nat)
    (hx : Shape xs H W) (hy : Shape ys H W) (hH : 1 ≤ H) (hW : 1 ≤ W) (c c' : Nat) (hc : c < xs.length) (hc' : c' < ys.length)
    (hsame : xs.getD c [] = ys.getD c' [])
    (u v : List (Img R) × List (List (List (Img R))))
    (hu : DWTForward mode wc0 wc1 wr0 wr1 J xs = some u) (hv : DWTForward mode wc0 wc1 wr0 wr1 J ys = some v) :
    u.1.getD c [] = v.1.getD c' [] ∧ ∀ j < J, (u.2.getD j []).getD c [] = (v.2.getD j []).getD c' [] := by
  obtain ⟨ok, A, D, _, e⟩ := DWTForward_rep mode wc0 wc1 wr0 wr1 J H W hH hW
  rw [e xs hx (by omega)] at hu
  rw [e ys hy (by omega)] at hv
  cases ok with
  | false => cases hu
  | true =>
    simp only [if_true, Option.some.injEq] at hu hv
    subst hu; subst hv
    refine ⟨?_, ?_⟩
    · simp only [getD_tab, hc, hc', if_true, hsame]
    · intro j hj
      simp only [getD_tab, hj, hc, hc', if_true, hsame]

/-- the hypothesis `Shape xs H W` of `DWTForward_rep` / `DWTForward_linear` is satisfiable with `C = 2`, `H = W = 2`: two 2×2 channels -/
example : Shape ([[[1, 2], [3, 4]], [[5, 6], [7, 8]]] : List (Img Int)) 2 2 := by
  intro c hc
  have : c = 0 ∨ c = 1 := by simp at hc; omega
  rcases this with rfl | rfl <;> constructor <;> simp

end WV.C07L
