/-
  The size arithmetic of the filter banks, tied to the source by translation.

  `Gen/Sizes.lean` is regenerated on every run from the integer expressions of `dwt/lowlevel.py` (`afb1d`, `sfb1d`),
  `scatternet/layers.py` (`ScatLayerj2.forward`) and `dtcwt/transform2d.py` (`DTCWTForward.forward`): pad sizes, the odd-size
  tests, the roll shifts, the bounds of the in-place wrap-around folds and of the crops.  The theorems below restate the
  hand-written model with those generated expressions substituted — for all sizes ≥ 1 and filter lengths ≥ 2 (the mode-zero
  synthesis for `L ≤ 2n + 1`) — so an edit of one of
  the expressions in the source breaks a theorem here even if no sampled input shows it.
-/
import WaveletsVerif.Gen.Sizes
import WaveletsVerif.Lemmas.Corr
import WaveletsVerif.Model.Scat
namespace WV.C01Z
open WV WV.Gen.Sizes
variable {R : Type} [CommRing R]

/-! ### `afb1d` -/

/-- the generated `p` is the pad total of the model, a natural number for `N ≥ 1`, `L ≥ 2` -/
theorem afb1d_p_eq (N L : Nat) (hL : 2 ≤ L) (hN : 1 ≤ N) :
    afb1d_p (dwtCoeffLen N L) N L = ((2 * (dwtCoeffLen N L - 1) + L - N : Nat) : Int) := by
  obtain ⟨hD, _, hK⟩ := afb_pad_spec N L hL hN
  unfold afb1d_p
  generalize dwtCoeffLen N L = D at hD hK ⊢
  omega

/-- mode zero with the generated pad arithmetic (`p`, the odd-`p` extra sample, `p//2`) -/
theorem afb1dOne_zero_gen (w x : List R) (hL : 2 ≤ w.length) (hN : 1 ≤ x.length) :
    afb1dOne .zero w x = some (corr w (zeroPad
      (if (afb1d_p (dwtCoeffLen x.length w.length) x.length w.length) % 2 = 1 then zeroPad x 0 1 else x)
      (afb1d_zero_pad_W (afb1d_p (dwtCoeffLen x.length w.length) x.length w.length)).toNat
      (afb1d_zero_pad_H (afb1d_p (dwtCoeffLen x.length w.length) x.length w.length)).toNat) 2 1) ∧
    (afb1d_zero_extra (afb1d_p (dwtCoeffLen x.length w.length) x.length w.length)
      ↔ (afb1d_p (dwtCoeffLen x.length w.length) x.length w.length) % 2 = 1) := by
  have hguard : ¬ (w.length < 2 ∨ x.length < 1) := by omega
  refine ⟨?_, Iff.rfl⟩
  simp only [afb1dOne, if_neg hguard, afb1d_p_eq x.length w.length hL hN, afb1d_zero_pad_W, afb1d_zero_pad_H, nat_half]
  generalize 2 * (dwtCoeffLen x.length w.length - 1) + w.length - x.length = p
  by_cases h : p % 2 = 1
  · rw [if_pos h, if_pos ((odd_cast p).mpr h)]
  · rw [if_neg h, if_neg (fun h' => h ((odd_cast p).mp h'))]

/-- mode symmetric (the index-vector branch of `afb1d`) with the generated pad split `(p//2, (p+1)//2)` -/
theorem afb1dOne_symmetric_gen (w x : List R) (hL : 2 ≤ w.length) (hN : 1 ≤ x.length) :
    afb1dOne .symmetric w x = some (corr w (padIdx symIdx x
      (afb1d_ext_before_W (afb1d_p (dwtCoeffLen x.length w.length) x.length w.length)).toNat
      (afb1d_ext_after_W (afb1d_p (dwtCoeffLen x.length w.length) x.length w.length)).toNat) 2 1) ∧
    afb1d_ext_before_H (afb1d_p (dwtCoeffLen x.length w.length) x.length w.length)
      = afb1d_ext_before_W (afb1d_p (dwtCoeffLen x.length w.length) x.length w.length) ∧
    afb1d_ext_after_H (afb1d_p (dwtCoeffLen x.length w.length) x.length w.length)
      = afb1d_ext_after_W (afb1d_p (dwtCoeffLen x.length w.length) x.length w.length) := by
  have hguard : ¬ (w.length < 2 ∨ x.length < 1) := by omega
  refine ⟨?_, rfl, rfl⟩
  simp only [afb1dOne, if_neg hguard, afb1d_p_eq x.length w.length hL hN, afb1d_ext_before_W, afb1d_ext_after_W,
    nat_half, nat_half_succ]

/-- periodization with the generated `L2`, odd test, roll shift, pad, `N2`, fold bounds and crop -/
theorem afb1dOne_per_gen (w x : List R) (hL : 2 ≤ w.length) (hN : 1 ≤ x.length) :
    afb1dOne .periodization w x = some (
      let x1 := if ((x.length : Int) % 2 = 1) then x ++ sliceFrom x (-1) else x
      let x2 := rollPy x1 (afb1d_per_shift (afb1d_L2 w.length))
      let lohi := corr w (zeroPad x2 (afb1d_per_pad_W w.length).toNat (afb1d_per_pad_H w.length).toNat) 2 1
      let N2 := afb1d_per_N2 x1.length
      (foldAdd lohi (afb1d_per_fold_width_W (afb1d_L2 w.length) N2).toNat (afb1d_per_fold_from_W (afb1d_L2 w.length) N2).toNat).take
        (afb1d_per_crop_W N2).toNat) ∧
    (afb1d_per_odd x.length ↔ (x.length : Int) % 2 = 1) ∧
    (∀ L2 N2 : Int, afb1d_per_fold_to_W L2 N2 = afb1d_per_fold_from_W L2 N2 + afb1d_per_fold_width_W L2 N2) ∧
    (∀ L2 N2 : Int, afb1d_per_fold_width_H L2 N2 = afb1d_per_fold_width_W L2 N2 ∧ afb1d_per_fold_from_H L2 N2 = afb1d_per_fold_from_W L2 N2 ∧
      afb1d_per_fold_to_H L2 N2 = afb1d_per_fold_to_W L2 N2 ∧ afb1d_per_crop_H N2 = afb1d_per_crop_W N2) := by
  have hguard : ¬ (w.length < 2 ∨ x.length < 1) := by omega
  refine ⟨?_, Iff.rfl, fun _ _ => by unfold afb1d_per_fold_to_W afb1d_per_fold_from_W afb1d_per_fold_width_W; ring,
    fun _ _ => ⟨rfl, rfl, rfl, rfl⟩⟩
  simp only [afb1dOne, hguard, if_false, afb1d_per_shift, afb1d_L2, afb1d_per_pad_W, afb1d_per_pad_H, afb1d_per_N2,
    afb1d_per_fold_width_W, afb1d_per_fold_from_W, afb1d_per_crop_W]
  rw [nat_pred, nat_half, neg_half]
  by_cases h : x.length % 2 = 1
  · rw [if_pos h, if_pos ((odd_cast x.length).mpr h), nat_half]
  · rw [if_neg h, if_neg (fun h' => h ((odd_cast x.length).mp h')), nat_half]

/-- the pad size read from the source yields PyWavelets' coefficient count: a stride-2 correlation of the signal extended by
`p` samples has exactly `dwt_coeff_len(N, L)` outputs, for every N ≥ 1 and L ≥ 2 -/
theorem afb1d_p_gives_coeff_len (N L : Nat) (hL : 2 ≤ L) (hN : 1 ≤ N) :
    corrLen (N + (afb1d_p (dwtCoeffLen N L) N L).toNat) L 2 1 = dwtCoeffLen N L := by
  obtain ⟨hD, _, hsum⟩ := afb_pad_spec N L hL hN
  rw [afb1d_p_eq N L hL hN, Int.toNat_natCast, hsum]
  exact corrLen_two _ L hD (by omega)

/-! ### `sfb1d` -/

/-- the synthesis pad read from the source gives back `2n + 2 − L` samples -/
theorem sfb1d_pad_gives_length (n L : Nat) (hL : 2 ≤ L) (hfit : L ≤ 2 * n + 1) :
    ((sfb1d_N n - 2 + L : Int) - 2 * sfb1d_pad_W L).toNat = 2 * n + 2 - L := by
  unfold sfb1d_N sfb1d_pad_W; omega

theorem sfb1dCh_per_gen (g0 g1 lo hi : List R) (hL : 2 ≤ g0.length) (hg : g1.length = g0.length) (hn : 1 ≤ lo.length)
    (hh : hi.length = lo.length) :
    sfb1dCh .periodization g0 g1 lo hi = some (
      let N := sfb1d_N lo.length
      let y := vadd (convTFull g0 lo) (convTFull g1 hi)
      let y1 := (foldAdd y (sfb1d_per_fold_width_W g0.length N).toNat (sfb1d_per_fold_from_W g0.length N).toNat).take (sfb1d_per_crop_W N).toNat
      rollPy y1 (sfb1d_per_shift g0.length)) ∧
    (∀ L N : Int, sfb1d_per_fold_to_W L N = sfb1d_per_fold_from_W L N + sfb1d_per_fold_width_W L N) ∧
    (∀ L N : Int, sfb1d_per_fold_width_H L N = sfb1d_per_fold_width_W L N ∧ sfb1d_per_fold_from_H L N = sfb1d_per_fold_from_W L N ∧
      sfb1d_per_fold_to_H L N = sfb1d_per_fold_to_W L N ∧ sfb1d_per_crop_H N = sfb1d_per_crop_W N) := by
  have hguard : ¬ (g0.length < 2 ∨ g1.length ≠ g0.length ∨ lo.length < 1 ∨ hi.length ≠ lo.length) := by omega
  refine ⟨?_, fun _ _ => by unfold sfb1d_per_fold_to_W sfb1d_per_fold_from_W sfb1d_per_fold_width_W; ring, fun _ _ => ⟨rfl, rfl, rfl, rfl⟩⟩
  simp only [sfb1dCh, hguard, if_false, sfb1d_N, sfb1d_per_fold_width_W, sfb1d_per_fold_from_W, sfb1d_per_crop_W, sfb1d_per_shift]
  rw [nat_pred2, nat_dbl, one_sub_half]

theorem sfb1dCh_zero_gen (g0 g1 lo hi : List R) (hL : 2 ≤ g0.length) (hg : g1.length = g0.length) (hn : 1 ≤ lo.length)
    (hh : hi.length = lo.length) (hfit : g0.length ≤ 2 * lo.length + 1) :
    sfb1dCh .zero g0 g1 lo hi = some (vadd (convT g0 lo (sfb1d_pad_W g0.length).toNat) (convT g1 hi (sfb1d_pad_H g0.length).toNat)) := by
  have hguard : ¬ (g0.length < 2 ∨ g1.length ≠ g0.length ∨ lo.length < 1 ∨ hi.length ≠ lo.length) := by omega
  have hfit' : ¬ (2 * (lo.length - 1) + g0.length < 2 * (g0.length - 2) + 1) := by omega
  simp only [sfb1dCh, hguard, hfit', if_false, sfb1d_pad_W, sfb1d_pad_H, nat_pred2]

/-! ### `ScatLayerj2.forward`: extension to multiples of 8 -/

omit [CommRing R] in
theorem pad8_gen (x : List R) :
    pad8 x = (if scatj2_rem_rows x.length = 0 then x else
      sliceTo x (scatj2_rows_before (scatj2_rem_rows x.length)) ++ x ++ sliceFrom x (-(scatj2_rows_after (scatj2_rem_rows x.length)))) ∧
    (∀ c : Int, scatj2_rem_cols c = scatj2_rem_rows c) ∧
    (∀ r : Int, scatj2_cols_before r = scatj2_rows_before r ∧ scatj2_cols_after r = scatj2_rows_after r) ∧
    (∀ r : Int, scatj2_extend r ↔ ¬ r = 0) := by
  refine ⟨?_, fun _ => rfl, fun _ => ⟨rfl, rfl⟩, fun _ => Iff.rfl⟩
  unfold pad8 scatj2_rem_rows scatj2_rows_before scatj2_rows_after
  simp only []
  have e0 : ((x.length : Int) % 8 = 0) ↔ x.length % 8 = 0 := by omega
  have e1 : ((8 : Int) - (x.length : Int) % 8) / 2 = (((8 - x.length % 8) / 2 : Nat) : Int) := by omega
  have e2 : ((9 : Int) - (x.length : Int) % 8) / 2 = (((9 - x.length % 8) / 2 : Nat) : Int) := by omega
  by_cases h : x.length % 8 = 0
  · rw [if_pos h, if_pos (e0.mpr h)]
  · rw [if_neg h, if_neg (fun h' => h (e0.mp h')), e1, e2]

/-! ### `DTCWTForward.forward`: the odd-size and multiple-of-4 tests -/

omit [CommRing R] in
theorem extendEven_gen (x : Img R) :
    extendEven x = (let x1 : Img R := if x.length % 2 ≠ 0 then x ++ sliceFrom x (-1) else x
                    if x1.width % 2 ≠ 0 then x1.map (fun r => r ++ sliceFrom r (-1)) else x1) ∧
    (∀ n : Nat, dtcwt_fwd_rows_odd n ↔ n % 2 ≠ 0) ∧ (∀ n : Nat, dtcwt_fwd_cols_odd n ↔ n % 2 ≠ 0) ∧
    (∀ n : Nat, dtcwt_fwd_rows_pad4 n ↔ n % 4 ≠ 0) ∧ (∀ n : Nat, dtcwt_fwd_cols_pad4 n ↔ n % 4 ≠ 0) := by
  refine ⟨rfl, fun n => ?_, fun n => ?_, fun n => ?_, fun n => ?_⟩
  · unfold dtcwt_fwd_rows_odd; omega
  · unfold dtcwt_fwd_cols_odd; omega
  · unfold dtcwt_fwd_rows_pad4; omega
  · unfold dtcwt_fwd_cols_pad4; omega

end WV.C01Z
