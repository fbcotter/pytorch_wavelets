/-
  C02 — DWT perfect reconstruction, one level, one dimension.

  * On the integer line, a bank with the polyphase biorthogonality conditions `PRBank` reconstructs ANY extension of a
    signal inside the signal's extent (`WV.pr_line` of Lemmas/PR.lean); the padded modes zero / symmetric / reflect /
    periodic are instances, periodization (filters of even length) is the `N`-periodic extension folded back (odd signal
    lengths by repeating the last sample).  These are statements about PyWavelets' formulas `Spec.dwt`, `Spec.idwt`.
  * Both directions of the transform are the PyWavelets formulas (C01: analysis; C10: synthesis), so the models of
    `afb1d` followed by `sfb1d` reconstruct wherever both hold: zero / symmetric / periodic for every non-empty signal
    (`impl_pr_padded`), periodization for even `L ≤ N + N % 2` (`impl_pr_periodization`).
-/
import WaveletsVerif.Properties.C01
import WaveletsVerif.Properties.C10
import WaveletsVerif.Lemmas.PR
import WaveletsVerif.Lemmas.Circ
namespace WV.C02
open Finset WV
variable {R : Type} [CommRing R]

/-- the un-pad rule of `DWT1DInverse` / `pywt.waverec`: the synthesis of `n` coefficient pairs has
`2n + 2 − L` samples, which is `N` or `N+1` when `n = ⌊(N+L−1)/2⌋` -/
theorem unpad_length (N L : Nat) (hL : 2 ≤ L) (hN : 1 ≤ N) :
    2 * dwtCoeffLen N L + 2 - L = N ∨ 2 * dwtCoeffLen N L + 2 - L = N + 1 := by
  unfold dwtCoeffLen; omega

theorem idwt_length_zero (g0 g1 lo hi : List R) :
    (Spec.idwt .zero g0 g1 lo hi).length = 2 * lo.length + 2 - g0.length := by
  rw [C10.idwt_length_all, if_neg (by decide)]

/-- Perfect reconstruction for an arbitrary signal extension.  Let `e : ℤ → R` be any extension of a
signal of `N` samples (zero, half-sample symmetric, whole-sample symmetric, periodic, constant, … — nothing
is assumed about `e` outside `[0, N)`), analysed by `lo_k = Σ_j h0_j·e(2k+1−j)`, `hi_k = Σ_j h1_j·e(2k+1−j)`
for `k < K = ⌊(N+L−1)/2⌋`.  Then PyWavelets' synthesis formula returns `e(t)` at every `t < N`, for every
bank satisfying `PRBank`.  The boundary handling of the analysis therefore never affects reconstruction
inside the original extent. -/
theorem pr_any_extension (h0 h1 g0 g1 : List R) (e : Int → R) (N : Nat) (hL : 2 ≤ h0.length)
    (hh1 : h1.length = h0.length) (hg0 : g0.length = h0.length) (hg1 : g1.length = h0.length)
    (hpr : PRBank h0 h1 g0 g1) (t : Nat) (ht : t < N) :
    ∑ k ∈ range ((N + h0.length - 1) / 2),
      ((∑ j ∈ range h0.length, getN h0 j * e (2*(k:Int) + 1 - (j:Int))) * getZ g0 ((t:Int) + h0.length - 2 - 2*(k:Int))
       + (∑ j ∈ range h0.length, getN h1 j * e (2*(k:Int) + 1 - (j:Int))) * getZ g1 ((t:Int) + h0.length - 2 - 2*(k:Int)))
      = e t := by
  -- the line statement `pr_line`, with the level indices `0 ≤ k < K` as the finite set
  rw [← pr_line h0 h1 g0 g1 e ((range ((N + h0.length - 1) / 2)).map Nat.castEmbedding) (t:Int) hL hh1 hg0 hg1 hpr,
    Finset.sum_map]
  · rfl
  · intro k hk0 hk1
    rw [Finset.mem_map]
    refine ⟨k.toNat, ?_, ?_⟩
    · rw [Finset.mem_range]; omega
    · rw [Nat.castEmbedding_apply]; omega

theorem ext_inside (m : Mode) (x : List R) (t : Nat) (ht : t < x.length) : Spec.ext m x (t:Int) = getN x t := by
  have h1 : (0:Int) ≤ t := by omega
  have h2 : (t:Int) < (x.length:Int) := by omega
  cases m <;> simp only [Spec.ext] <;> rw [getN_eq_getZ]
  · rw [symIdx_id _ _ h1 h2]
  · congr 1
    unfold reflIdxP
    have : ¬ ((x.length:Int) ≤ 1) ∨ (x.length:Int) ≤ 1 := by omega
    rcases this with hc | hc
    · rw [if_neg hc]
      have hmod : (t:Int) % (2*(x.length:Int) - 2) = t := Int.emod_eq_of_lt h1 (by omega)
      show (if (t:Int) % (2*(x.length:Int) - 2) < (x.length:Int) then (t:Int) % (2*(x.length:Int) - 2) else (2*(x.length:Int) - 2) - (t:Int) % (2*(x.length:Int) - 2)) = t
      rw [hmod, if_pos h2]
    · rw [if_pos hc]; omega
  · congr 1
    unfold perIdx
    exact Int.emod_eq_of_lt h1 h2

/-- Perfect reconstruction in every padded mode (`zero`, `symmetric`, `reflect`, `periodic`): for every
bank with `PRBank`, every signal and every such mode, `idwt(dwt(x))` returns every sample of the original
extent — stated on PyWavelets' formulas, which the code is proved to compute in these modes (C01, C10; in reflect mode
whenever the analysis returns). -/
theorem pr_padded (m : Mode) (hm : m ≠ .periodization) (h0 h1 g0 g1 x : List R) (hL : 2 ≤ h0.length)
    (hh1 : h1.length = h0.length) (hg0 : g0.length = h0.length) (hg1 : g1.length = h0.length)
    (hpr : PRBank h0 h1 g0 g1) (t : Nat) (ht : t < x.length) :
    getN (Spec.idwt m g0 g1 (Spec.dwt m h0 x) (Spec.dwt m h1 x)) t = getN x t := by
  set K := dwtCoeffLen x.length h0.length with hK
  have hKdef : K = (x.length + h0.length - 1) / 2 := rfl
  have hdwt : ∀ (h : List R), h.length = h0.length →
      Spec.dwt m h x = tab K fun k => sumN h0.length fun j => getN h j * Spec.ext m x (2*(k:Int) + 1 - j) := by
    intro h hh
    cases m <;> first | exact absurd rfl hm | (simp only [Spec.dwt, hh, hK])
  rw [C10.idwt_padded m hm, hdwt h0 rfl, hdwt h1 hh1]
  simp only [length_tab, hg0]
  rw [getN_tab]
  have ht2 : t < 2 * K + 2 - h0.length := lt_idwt_length x.length h0.length t hL ht
  simp only [ht2, if_true]
  rw [sumN_eq]
  rw [← ext_inside m x t ht, ← pr_any_extension h0 h1 g0 g1 (Spec.ext m x) x.length hL hh1 hg0 hg1 hpr t ht]
  rw [← hKdef]
  apply Finset.sum_congr rfl; intro k hk
  have hk' : k < K := by simpa using hk
  rw [getN_tab, getN_tab]
  simp only [hk', if_true, sumN_eq]

/-- General perfect reconstruction, mode zero: for every analysis/synthesis bank of any length `L ≥ 2`
satisfying the polyphase biorthogonality conditions `PRBank` (finite, decidable for a concrete bank), and
every signal, `idwt(dwt(x))` returns every sample of the original extent — PyWavelets' formulas, which the
code is proved to compute (C01.afb1dOne_zero_eq_dwt, C10.sfb1dCh_eq_idwt). -/
theorem pr_zero (h0 h1 g0 g1 x : List R) (hL : 2 ≤ h0.length) (hh1 : h1.length = h0.length)
    (hg0 : g0.length = h0.length) (hg1 : g1.length = h0.length) (hpr : PRBank h0 h1 g0 g1)
    (t : Nat) (ht : t < x.length) :
    getN (Spec.idwt .zero g0 g1 (Spec.dwt .zero h0 x) (Spec.dwt .zero h1 x)) t = getN x t := by
  exact pr_padded .zero (by decide) h0 h1 g0 g1 x hL hh1 hg0 hg1 hpr t ht

/-- two-tap perfect reconstruction (mode zero): if
`a1·c0 + b1·d0 = 1, a0·c0 + b0·d0 = 0, a0·c1 + b0·d1 = 1, a1·c1 + b1·d1 = 0`
then every sample of the original extent is recovered, for every signal. -/
theorem pr_two_tap_zero (a0 a1 b0 b1 c0 c1 d0 d1 : R)
    (e1 : a1*c0 + b1*d0 = 1) (e2 : a0*c0 + b0*d0 = 0) (e3 : a0*c1 + b0*d1 = 1) (e4 : a1*c1 + b1*d1 = 0)
    (x : List R) (t : Nat) (ht : t < x.length) :
    getN (Spec.idwt .zero [c0, c1] [d0, d1] (Spec.dwt .zero [a0, a1] x) (Spec.dwt .zero [b0, b1] x)) t = getN x t := by
  -- the four equations are the biorthogonality conditions of the bank: parity `p` selects the one tap `a = p`, which meets
  -- the synthesis taps at `dd - p`
  have hpr : PRBank [a0, a1] [b0, b1] [c0, c1] [d0, d1] := by
    intro p hp dd hdd
    have hp' : p = 0 ∨ p = 1 := by omega
    have hdd' : dd = 0 ∨ dd = 1 ∨ dd = 2 := by
      rw [show [a0, a1].length = 2 from rfl] at hdd
      omega
    rw [show [a0, a1].length = 2 from rfl, Finset.sum_range_succ, Finset.sum_range_one]
    rcases hp' with rfl | rfl
    · rcases hdd' with rfl | rfl | rfl
      · show a0 * c0 + b0 * d0 + 0 = 0
        rw [e2, add_zero]
      · show a0 * c1 + b0 * d1 + 0 = 1
        rw [e3, add_zero]
      · show a0 * 0 + b0 * 0 + 0 = 0
        rw [mul_zero, mul_zero, add_zero, add_zero]
    · rcases hdd' with rfl | rfl | rfl
      · show 0 + (a1 * 0 + b1 * 0) = 0
        rw [mul_zero, mul_zero, add_zero, add_zero]
      · show 0 + (a1 * c0 + b1 * d0) = 1
        rw [e1, zero_add]
      · show 0 + (a1 * c1 + b1 * d1) = 0
        rw [e4, zero_add]
  exact pr_zero [a0, a1] [b0, b1] [c0, c1] [d0, d1] x (Nat.le_refl 2) rfl rfl rfl hpr t ht

/-- Implementation-level perfect reconstruction (`zero`, `symmetric`, `periodic`): the model of
`lowlevel.afb1d` followed by the model of `lowlevel.sfb1d` — the two functions tied to the code by the
correspondence — never raises and returns every sample of `x`, for every bank with `PRBank` (filters are
handed to `afb1d` reversed, as `prep_filt_afb1d` does) and every non-empty signal. -/
theorem impl_pr_padded (m : Mode) (hm : m = .zero ∨ m = .symmetric ∨ m = .periodic) (h0 h1 g0 g1 x : List R)
    (hL : 2 ≤ h0.length) (hh1 : h1.length = h0.length) (hg0 : g0.length = h0.length)
    (hg1 : g1.length = h0.length) (hpr : PRBank h0 h1 g0 g1) (hN : 1 ≤ x.length) :
    ∃ lo hi y, afb1dOne m h0.reverse x = some lo ∧ afb1dOne m h1.reverse x = some hi ∧
      sfb1dCh m g0 g1 lo hi = some y ∧ ∀ t < x.length, getN y t = getN x t := by
  have hA : ∀ (h : List R), 2 ≤ h.length → afb1dOne m h.reverse x = some (Spec.dwt m h x) :=
    fun h hh => C01.modeOK_of m hm h x hh hN
  have hmp : m ≠ .periodization := by rcases hm with rfl | rfl | rfl <;> decide
  have hlen : ∀ (h : List R), h.length = h0.length → (Spec.dwt m h x).length = dwtCoeffLen x.length h0.length := by
    intro h hh
    rw [C01.dwt_length m hm, hh]
  refine ⟨Spec.dwt m h0 x, Spec.dwt m h1 x, Spec.idwt m g0 g1 (Spec.dwt m h0 x) (Spec.dwt m h1 x),
    hA h0 hL, hA h1 (by omega), ?_, ?_⟩
  · apply C10.sfb1dCh_eq_idwt m (by rcases hm with rfl | rfl | rfl <;> simp) g0 g1 _ _ (by omega) (by omega)
    · rw [hlen h0 rfl]; exact bandLen_pos x.length h0.length hL hN
    · rw [hlen h0 rfl, hlen h1 hh1]
    · rw [hlen h0 rfl, hg0]; exact dwtCoeffLen_fits x.length h0.length hL hN
  · intro t ht
    exact pr_padded m hmp h0 h1 g0 g1 x hL hh1 hg0 hg1 hpr t ht

theorem sum_blocks_left (Rr n : Nat) (F : Int → R) :
    ∑ r ∈ range Rr, ∑ k ∈ range n, F ((k:Int) - (r:Int) * n)
      = ∑ s ∈ Finset.Ico ((n:Int) - (Rr:Int) * n) n, F s := by
  induction Rr with
  | zero => simp
  | succ m ih =>
    have hn : (0:Int) ≤ n := by omega
    have e : (n:Int) - ((m + 1 : Nat) : Int) * n = -((m:Int) * n) := by push_cast; ring
    have h1 : -((m:Int) * n) ≤ (n:Int) - (m:Int) * n := by omega
    have h2 : (n:Int) - (m:Int) * n ≤ n := by have := mul_nonneg (show (0:Int) ≤ m by omega) hn; omega
    rw [Finset.sum_range_succ, ih, e, ← Finset.Ico_union_Ico_eq_Ico h1 h2,
      Finset.sum_union (Finset.Ico_disjoint_Ico_consecutive _ _ _), add_comm]
    congr 1
    apply Finset.sum_nbij' (fun k : Nat => (k:Int) - (m:Int) * n) (fun s : Int => (s + (m:Int) * n).toNat)
    · intro k hk
      rw [Finset.mem_range] at hk
      rw [Finset.mem_Ico]; omega
    · intro s hs
      rw [Finset.mem_Ico] at hs
      rw [Finset.mem_range]; omega
    · intro k _
      show ((k:Int) - (m:Int) * n + (m:Int) * n).toNat = k
      omega
    · intro s hs
      rw [Finset.mem_Ico] at hs
      show (((s + (m:Int) * n).toNat : Nat) : Int) - (m:Int) * n = s
      omega
    · intro k _
      rfl

/-- these blocks contain every level index `k` whose synthesis tap `v − 2k` lies in `[0, L)` (written as `pr_line` asks for it
at `T = v − L + 2`), when `v < 2n` and the blocks span more than `2n + L − 2` samples -/
theorem mem_blocks_left (n L Rr v : Nat) (k : Int) (hv : v < 2 * n) (hR : 2 * n + L - 2 < 2 * n * Rr)
    (hk0 : 0 ≤ (v:Int) - L + 2 + L - 2 - 2*k) (hk1 : (v:Int) - L + 2 + L - 2 - 2*k < L) :
    k ∈ Finset.Ico ((n:Int) - (Rr:Int) * n) n := by
  have hR' : ((2*n + L - 2 : Nat) : Int) < ((2*n * Rr : Nat) : Int) := Int.ofNat_lt.mpr hR
  have hRn : ((2*n * Rr : Nat) : Int) = 2 * ((Rr:Int) * (n:Int)) := by push_cast; ring
  rw [Finset.mem_Ico]
  omega

/-- Perfect reconstruction in periodization mode (PyWavelets' formulas), even length: the circular synthesis sum is
unrolled into blocks of `n` level indices on the integer line (`sum_blocks_left`), where `pr_line` applies to the
`N`-periodic extension of `x`. -/
theorem pr_periodization_even (h0 h1 g0 g1 x : List R) (hL : 2 ≤ h0.length) (hLe : h0.length % 2 = 0)
    (hh1 : h1.length = h0.length) (hg0 : g0.length = h0.length) (hg1 : g1.length = h0.length)
    (hpr : PRBank h0 h1 g0 g1) (hNe : x.length % 2 = 0) (hN : 2 ≤ x.length) (u : Nat) (hu : u < x.length) :
    getN (Spec.idwt .periodization g0 g1 (Spec.dwt .periodization h0 x) (Spec.dwt .periodization h1 x)) u
      = getN x u := by
  obtain ⟨n, hN2⟩ : ∃ n, x.length = 2 * n := Nat.dvd_of_mod_eq_zero hNe
  obtain ⟨m, hL2⟩ : ∃ m, h0.length = 2 * m := Nat.dvd_of_mod_eq_zero hLe
  have hn1 : 1 ≤ n := by omega
  have hm1 : 1 ≤ m := by omega
  have hLh : h0.length / 2 = m := by rw [hL2, Nat.mul_div_cancel_left m Nat.two_pos]
  have hLh1 : h1.length / 2 = m := by rw [hh1, hLh]
  -- the periodic extension, shifted so that the analysis reads `e (2k+1-j)`
  set e : Int → R := fun i => getZ x ((i + (m:Int) - 1) % ((2*n : Nat) : Int)) with he
  have e_per : ∀ i r : Int, e (i + r * ((2*n : Nat) : Int)) = e i := by
    intro i r
    simp only [he]
    rw [show i + r * ((2*n : Nat) : Int) + (m:Int) - 1 = (i + (m:Int) - 1) + r * ((2*n : Nat) : Int) by ring,
      Int.add_mul_emod_self_right]
  have hget : ∀ (h : List R), h.length / 2 = m → ∀ k < n,
      getN (Spec.dwt .periodization h x) k = ∑ j ∈ range h.length, getN h j * e (2*(k:Int) + 1 - (j:Int)) := by
    intro h hh k hk
    rw [getN_dwt_per_even h x n hN2 k hk, hh]
    apply Finset.sum_congr rfl; intro j _
    simp only [he]
    congr 3; ring
  have hlen : (Spec.dwt .periodization h0 x).length = n := by
    rw [length_dwt_per, hNe, Nat.add_zero, hN2, Nat.mul_div_cancel_left n Nat.two_pos]
  rw [idwt_per_get g0 g1 _ _ n hn1 hlen (by rw [hg0]; exact hL) (by rw [hg1, hg0]) u (by rw [← hN2]; exact hu), hg0, hLh]
  set v : Nat := (u + (m - 1)) % (2 * n) with hv
  have hvN : v < 2 * n := Nat.mod_lt _ (Nat.mul_pos Nat.two_pos hn1)
  -- the summand of `pr_line` at `T = v − L + 2`; the coefficient sequences are `n`-periodic on the integer line
  set F : Int → R := fun s =>
    (∑ j ∈ range h0.length, getN h0 j * e (2*s + 1 - (j:Int))) * getZ g0 (((v:Int) - h0.length + 2) + h0.length - 2 - 2*s)
     + (∑ j ∈ range h0.length, getN h1 j * e (2*s + 1 - (j:Int))) * getZ g1 (((v:Int) - h0.length + 2) + h0.length - 2 - 2*s)
    with hF
  have hterm : ∀ r ∈ range ((2*n + h0.length - 2) / (2*n) + 1), ∀ k ∈ range n,
      getN (Spec.dwt .periodization h0 x) k * getZ g0 ((v:Int) + (r:Int) * ((2*n : Nat) : Int) - 2 * (k:Int))
        + getN (Spec.dwt .periodization h1 x) k * getZ g1 ((v:Int) + (r:Int) * ((2*n : Nat) : Int) - 2 * (k:Int))
      = F ((k:Int) - (r:Int) * n) := by
    intro r _ k hk
    have hk' : k < n := mem_range.mp hk
    have eT : (v:Int) - h0.length + 2 + h0.length - 2 - 2 * ((k:Int) - (r:Int) * n)
        = (v:Int) + (r:Int) * ((2*n : Nat) : Int) - 2 * (k:Int) := by push_cast; ring
    have ee : ∀ j : Nat, e (2 * ((k:Int) - (r:Int) * n) + 1 - (j:Int)) = e (2*(k:Int) + 1 - (j:Int)) := by
      intro j
      rw [show 2 * ((k:Int) - (r:Int) * n) + 1 - (j:Int) = (2*(k:Int) + 1 - (j:Int)) + (-(r:Int)) * ((2*n : Nat) : Int) by
        push_cast; ring, e_per]
    rw [hget h0 hLh k hk', hget h1 hLh1 k hk', hh1]
    simp only [hF, eT, ee]
  rw [Finset.sum_congr rfl fun r hr => Finset.sum_congr rfl (hterm r hr), sum_blocks_left _ n F]
  simp only [hF]
  rw [pr_line h0 h1 g0 g1 e _ ((v:Int) - h0.length + 2) hL hh1 hg0 hg1 hpr]
  · -- `e (v − L + 2) = x_u`: the rotation by `L/2 − 1` undone
    simp only [he]
    rw [getN_eq_getZ, show (v:Int) - h0.length + 2 + (m:Int) - 1 = (v:Int) - ((m - 1 : Nat) : Int) by omega, hv,
      rot_sub_emod u (m - 1) (2 * n) (by omega)]
  · -- the blocks cover the support `0 ≤ v − 2k < L`: `k < n` as `v < N`, and `Rr·N > N + L − 2` bounds `k` from below
    intro k hk0 hk1
    exact mem_blocks_left n h0.length _ v k hvN (Nat.lt_mul_div_succ _ (Nat.mul_pos Nat.two_pos hn1)) hk0 hk1

/-- odd lengths: PyWavelets (and the code) first repeat the last sample, so the statement follows from the
even case on `x ++ [x_{N-1}]` -/
theorem pr_periodization (h0 h1 g0 g1 x : List R) (hL : 2 ≤ h0.length) (hLe : h0.length % 2 = 0)
    (hh1 : h1.length = h0.length) (hg0 : g0.length = h0.length) (hg1 : g1.length = h0.length)
    (hpr : PRBank h0 h1 g0 g1) (hN : 1 ≤ x.length) (u : Nat) (hu : u < x.length) :
    getN (Spec.idwt .periodization g0 g1 (Spec.dwt .periodization h0 x) (Spec.dwt .periodization h1 x)) u
      = getN x u := by
  by_cases hpar : x.length % 2 = 0
  · exact pr_periodization_even h0 h1 g0 g1 x hL hLe hh1 hg0 hg1 hpr hpar (by omega) u hu
  · have hodd : x.length % 2 = 1 := by omega
    set x' := x ++ [getN x (x.length - 1)] with hx'
    have hlen' : x'.length = x.length + 1 := by simp [hx']
    rw [dwt_per_odd h0 x hodd, dwt_per_odd h1 x hodd, ← hx',
      pr_periodization_even h0 h1 g0 g1 x' hL hLe hh1 hg0 hg1 hpr (by omega) (by omega) u (by omega),
      hx', getN_append, if_pos hu]

/-- Implementation-level perfect reconstruction, periodization: for every even-length bank with `PRBank`
and every signal at least as long as the filter (`L ≤ N + N % 2`, the complement being the recorded finding
`C02-periodization-short`), the models of `afb1d` and `sfb1d` (roll, single fold) return every sample of `x`. -/
theorem impl_pr_periodization (h0 h1 g0 g1 x : List R) (hL : 2 ≤ h0.length) (hLe : h0.length % 2 = 0)
    (hh1 : h1.length = h0.length) (hg0 : g0.length = h0.length) (hg1 : g1.length = h0.length)
    (hpr : PRBank h0 h1 g0 g1) (hN : 1 ≤ x.length) (hLN : h0.length ≤ x.length + x.length % 2) :
    ∃ lo hi y, afb1dOne .periodization h0.reverse x = some lo ∧ afb1dOne .periodization h1.reverse x = some hi ∧
      sfb1dCh .periodization g0 g1 lo hi = some y ∧ ∀ t < x.length, getN y t = getN x t := by
  refine ⟨Spec.dwt .periodization h0 x, Spec.dwt .periodization h1 x,
    Spec.idwt .periodization g0 g1 (Spec.dwt .periodization h0 x) (Spec.dwt .periodization h1 x),
    C01.afb1dOne_per_eq_dwt_partial_all h0 x hLe hL hN hLN,
    C01.afb1dOne_per_eq_dwt_partial_all h1 x (by rw [hh1]; exact hLe) (by rw [hh1]; exact hL) hN (by rw [hh1]; exact hLN),
    ?_, ?_⟩
  · apply C10.sfb1dCh_per_eq_idwt_partial g0 g1 _ _ (by rw [hg0]; exact hL) (by rw [hg1, hg0])
    · rw [length_dwt_per]; omega
    · rw [length_dwt_per, length_dwt_per]
    · rw [length_dwt_per, hg0]; omega
  · intro t ht
    exact pr_periodization h0 h1 g0 g1 x hL hLe hh1 hg0 hg1 hpr hN t ht

/-- mode zero: the reconstruction has `N` or `N+1` samples (`unpad_length`), so `pr_zero` covers the original extent -/
theorem pr_zero_length (h0 g0 g1 x : List R) (h1 : List R) (hL : 2 ≤ h0.length) (hg0 : g0.length = h0.length)
    (hN : 1 ≤ x.length) :
    (Spec.idwt .zero g0 g1 (Spec.dwt .zero h0 x) (Spec.dwt .zero h1 x)).length = x.length ∨
    (Spec.idwt .zero g0 g1 (Spec.dwt .zero h0 x) (Spec.dwt .zero h1 x)).length = x.length + 1 := by
  rw [idwt_length_zero, hg0, C01.dwt_length .zero (Or.inl rfl)]
  exact unpad_length x.length h0.length hL hN

/-- the four equations of `pr_two_tap_zero`, written out for the integer "lazy" bank h0=(0,1), h1=(1,0), g0=(1,0),
g1=(0,1) -/
example : ((1:Int)*1 + 0*0 = 1) ∧ ((0:Int)*1 + 1*0 = 0) ∧ ((0:Int)*0 + 1*1 = 1) ∧ ((1:Int)*0 + 0*1 = 0) := by decide

/-- `PRBank` holds for the integer lazy bank and (next example) for a 4-tap integer bank of pure delays -/
example : PRBank ([0, 1] : List Int) [1, 0] [1, 0] [0, 1] := by
  unfold PRBank
  decide

example : PRBank ([0, 1, 0, 0] : List Int) [0, 0, 1, 0] [0, 0, 1, 0] [0, 1, 0, 0] := by
  unfold PRBank
  decide

end WV.C02
