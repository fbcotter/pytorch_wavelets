/-
  C07 — linearity of the inverse DTCWT (`DTCWTInverse`, dtcwt/transform2d.py) on two pyramids of one forward-compatible
  shape (one image, all levels present), for every number of levels `J ≥ 1`.

  The reference inverse `Spec.refInverse` (which the implementation model of `DTCWTInverse` equals on such pyramids, C11P)
  is built from `c2q` (one sample of four poly-phase images per output pixel), the synthesis filters `colfilter` /
  `colifilt` along columns and rows, image sums, and the crop `[1:-1]` between levels.  Each is linear on images of one
  shape with an output shape depending on the input shape only; hence so is every level, the coarse-to-fine recursion,
  the whole `refInverse` (`refInverse_linear`: level-1 synthesis filters of odd length) and, with C11P, the module
  (`DTCWTInverse_linear`: symmetric mode, and q-shift filters of even length ≥ 2, pairwise equal).
-/
import WaveletsVerif.Properties.C07T
import WaveletsVerif.Properties.C11P
namespace WV.C07U
open Finset WV WV.C04 WV.C04Q WV.C04P WV.C03P WV.C11P WV.C06 WV.C05D WV.C07 WV.C07L WV.C07T
variable {R : Type} [CommRing R]

theorem lin_spec_colifilt (ha hb : List R) (hp : Bool) : Lin (Spec.colifilt ha hb hp) := by
  refine Lin.of_tab (fun n => 2 * n) _ (fun _ => rfl) ?_
  intro a b x y hxy i
  -- entry `i` is one of the four poly-phase branches, chosen by `i % 4` and the parity of `m / 2`
  dsimp only
  by_cases hm : ha.length / 2 % 2 = 0
  · rw [if_pos hm, if_pos hm, if_pos hm]
    split <;> exact sumN_xt_lincomb a b x y hxy _ _ _
  · rw [if_neg hm, if_neg hm, if_neg hm]
    split <;> exact sumN_xt_lincomb a b x y hxy _ _ _

/-- six complex bands, real and imaginary parts all of shape `r × c` -/
def BandRect (o : List (Cplx R)) (r c : Nat) : Prop :=
  o.length = 6 ∧ ∀ k < 6, Rect (o.getD k ([], [])).1 r c ∧ Rect (o.getD k ([], [])).2 r c

theorem BandRect.ok {o : List (Cplx R)} {r c : Nat} (h : BandRect o r c) (hr : 1 ≤ r) : BandOK o r c := by
  intro k hk
  exact ⟨(h.2 k hk).1.1, rect_width _ _ _ (h.2 k hk).1 hr⟩

theorem blin_getD (a b : R) (o o' : List (Cplx R)) (ho : o.length = 6) (ho' : o'.length = 6) (k : Nat) (hk : k < 6) :
    (blin a b o o').getD k ([], []) = clin a b (o.getD k ([], [])) (o'.getD k ([], [])) := by
  unfold blin
  rw [List.getD_eq_getElem?_getD, List.getD_eq_getElem?_getD, List.getD_eq_getElem?_getD, List.getElem?_zipWith,
    List.getElem?_eq_getElem (by omega), List.getElem?_eq_getElem (by omega)]
  rfl

theorem blin_rect (a b : R) (o o' : List (Cplx R)) (r c : Nat) (ho : BandRect o r c) (ho' : BandRect o' r c) :
    BandRect (blin a b o o') r c := by
  refine ⟨by simp [blin, ho.1, ho'.1], ?_⟩
  intro k hk
  rw [blin_getD a b o o' ho.1 ho'.1 k hk]
  exact ⟨ilin_rect a b _ _ r c (ho.2 k hk).1, ilin_rect a b _ _ r c (ho.2 k hk).2⟩

theorem c2q_lin (s a b : R) (u1 u1' u2 u2' : Cplx R) (r c : Nat) (hr : 1 ≤ r)
    (h1 : Rect u1.1 r c ∧ Rect u1.2 r c) (h1' : Rect u1'.1 r c ∧ Rect u1'.2 r c)
    (h2 : Rect u2.1 r c ∧ Rect u2.2 r c) (h2' : Rect u2'.1 r c ∧ Rect u2'.2 r c) :
    c2q s (clin a b u1 u1') (clin a b u2 u2') = ilin a b (c2q s u1 u2) (c2q s u1' u2') ∧ Rect (c2q s u1 u2) (2*r) (2*c) := by
  obtain ⟨u1r, u1i⟩ := u1; obtain ⟨u1r', u1i'⟩ := u1'; obtain ⟨u2r, u2i⟩ := u2; obtain ⟨u2r', u2i'⟩ := u2'
  simp only at h1 h1' h2 h2'
  have rl := ilin_rect a b u1r u1r' r c h1.1
  have e : ∀ u : Img R, Rect u r c → (2 * u.length = 2 * r ∧ 2 * Img.width u = 2 * c) := fun u hu => by
    rw [hu.1, rect_width u r c hu hr]; exact ⟨rfl, rfl⟩
  have sh : ∀ p q : Cplx R, Rect p.1 r c → c2q s p q = tab2 (2*r) (2*c) fun i j =>
      s * (if i % 2 = 0 then (if j % 2 = 0 then get2 p.1 (i/2) (j/2) + get2 q.1 (i/2) (j/2) else get2 p.2 (i/2) (j/2) + get2 q.2 (i/2) (j/2))
           else (if j % 2 = 0 then get2 p.2 (i/2) (j/2) - get2 q.2 (i/2) (j/2) else -(get2 p.1 (i/2) (j/2)) + get2 q.1 (i/2) (j/2))) :=
    fun p q hp => by unfold c2q; simp only [(e p.1 hp).1, (e p.1 hp).2]
  refine ⟨?_, by rw [sh (u1r, u1i) (u2r, u2i) h1.1]; exact tab2_rect _ _ _⟩
  rw [sh (clin a b (u1r, u1i) (u1r', u1i')) _ rl, sh (u1r, u1i) (u2r, u2i) h1.1, sh (u1r', u1i') (u2r', u2i') h1'.1, ilin_tab2]
  unfold clin
  apply tab2_congr; intro i hi j hj
  have hp : i / 2 < r := by omega
  rw [get2_ilin a b u1r u1r' r c h1.1 h1'.1 _ _ hp, get2_ilin a b u2r u2r' r c h2.1 h2'.1 _ _ hp,
    get2_ilin a b u1i u1i' r c h1.2 h1'.2 _ _ hp, get2_ilin a b u2i u2i' r c h2.2 h2'.2 _ _ hp]
  by_cases hi : i % 2 = 0
  · by_cases hj : j % 2 = 0
    · simp only [if_pos hi, if_pos hj]; ring
    · simp only [if_pos hi, if_neg hj]; ring
  · by_cases hj : j % 2 = 0
    · simp only [if_neg hi, if_pos hj]; ring
    · simp only [if_neg hi, if_neg hj]; ring

theorem iadd_lin (a b : R) (x x' y y' : Img R) (H W : Nat) (hx : Rect x H W) (hx' : Rect x' H W) (hy : Rect y H W) (hy' : Rect y' H W) :
    iadd (ilin a b x x') (ilin a b y y') = ilin a b (iadd x y) (iadd x' y') := by
  rw [ilin_eq_tab2 a b x x' H W hx hx', ilin_eq_tab2 a b y y' H W hy hy', iadd_tab2,
    ilin_eq_tab2 a b _ _ H W (iadd_rect H W x y hx hy) (iadd_rect H W x' y' hx' hy'),
    iadd_eq_tab2 x y H W hx hy, iadd_eq_tab2 x' y' H W hx' hy']
  apply tab2_congr; intro i hi j hj
  rw [get2_tab2 _ _ _ _ _ hi hj, get2_tab2 _ _ _ _ _ hi hj]; ring

omit [CommRing R] in
theorem drop_rect (x : Img R) (H W k : Nat) (hx : Rect x H W) : Rect (x.drop k) (H - k) W :=
  ⟨by rw [List.length_drop, hx.1], fun r hr => hx.2 r (List.mem_of_mem_drop hr)⟩

theorem rowSlice_lin (a b : R) (x y : Img R) (H W : Nat) (hx : Rect x H W) (hy : Rect y H W) :
    slice (ilin a b x y) 1 (-1) = ilin a b (slice x 1 (-1)) (slice y 1 (-1)) := by
  have rl := ilin_rect a b x y H W hx
  unfold slice
  rw [rl.1, hx.1, hy.1, ilin_take a b x y _ (hx.1.trans hy.1.symm), ilin_drop a b _ _ _ (by rw [List.length_take, List.length_take, hx.1, hy.1])]

theorem cropToHighs_lin (a b : R) (x y : Img R) (H W r c : Nat) (hr : 1 ≤ r) (hc : 1 ≤ c) (hx : Rect x H W) (hy : Rect y H W)
    (hH : H = 2*r ∨ H = 2*r + 2) (hW : W = 2*c ∨ W = 2*c + 2) :
    cropToHighs (ilin a b x y) r c = ilin a b (cropToHighs x r c) (cropToHighs y r c) := by
  have rl := ilin_rect a b x y H W hx
  rw [cropToHighs_eq _ H W r c hr rl hH, cropToHighs_eq x H W r c hr hx hH, cropToHighs_eq y H W r c hr hy hH]
  have e1 : (if H ≠ 2*r then slice (ilin a b x y) 1 (-1) else ilin a b x y)
      = ilin a b (if H ≠ 2*r then slice x 1 (-1) else x) (if H ≠ 2*r then slice y 1 (-1) else y) := by
    split
    · exact rowSlice_lin a b x y H W hx hy
    · rfl
  rw [e1]
  exact alongW_lin (lin_const_ite (W ≠ 2*c) (lin_slice 1 (-1)) lin_id) a b _ _ (2*r) W
    (crop_rows_rect x H W r hr hx hH) (crop_rows_rect y H W r hr hy hH)

theorem outLen_colifilt (ha hb : List R) (hp : Bool) (n : Nat) : outLen (Spec.colifilt ha hb hp) n = 2 * n := by
  unfold outLen Spec.colifilt
  rw [length_tab, List.length_replicate]

theorem orientationsToHighs_lin (s a b : R) (o o' : List (Cplx R)) (r c : Nat) (hr : 1 ≤ r) (ho : BandRect o r c) (ho' : BandRect o' r c) :
    orientationsToHighs s (blin a b o o')
      = (ilin a b (orientationsToHighs s o).1 (orientationsToHighs s o').1,
         ilin a b (orientationsToHighs s o).2.1 (orientationsToHighs s o').2.1,
         ilin a b (orientationsToHighs s o).2.2 (orientationsToHighs s o').2.2) ∧
    Rect (orientationsToHighs s o).1 (2*r) (2*c) ∧ Rect (orientationsToHighs s o).2.1 (2*r) (2*c) ∧
    Rect (orientationsToHighs s o).2.2 (2*r) (2*c) := by
  have g := fun k (hk : k < 6) => blin_getD a b o o' ho.1 ho'.1 k hk
  have q := fun (k l : Nat) (hk : k < 6) (hl : l < 6) =>
    c2q_lin s a b (o.getD k ([], [])) (o'.getD k ([], [])) (o.getD l ([], [])) (o'.getD l ([], [])) r c hr
      (ho.2 k hk) (ho'.2 k hk) (ho.2 l hl) (ho'.2 l hl)
  unfold orientationsToHighs
  simp only []
  rw [g 0 (by omega), g 1 (by omega), g 2 (by omega), g 3 (by omega), g 4 (by omega), g 5 (by omega),
    (q 0 5 (by omega) (by omega)).1, (q 2 3 (by omega) (by omega)).1, (q 1 4 (by omega) (by omega)).1]
  exact ⟨rfl, (q 0 5 (by omega) (by omega)).2, (q 2 3 (by omega) (by omega)).2, (q 1 4 (by omega) (by omega)).2⟩

/-- the synthesis of one level from four images of one shape: `alongW F0 (alongH F0 Z + alongH F1 lh) + alongW F1 (alongH F0 hl + alongH F1 hh)`,
for any two linear list operators with equal output lengths -/
theorem synth4_lin {F0 F1 : List R → List R} (l0 : Lin F0) (l1 : Lin F1) (hlen : ∀ n, outLen F1 n = outLen F0 n) (a b : R)
    (Z Z' lh lh' hl hl' hh hh' : Img R) (H W : Nat) (hH : 1 ≤ H) (hW : 1 ≤ W)
    (rZ : Rect Z H W) (rZ' : Rect Z' H W) (r1 : Rect lh H W) (r1' : Rect lh' H W) (r2 : Rect hl H W) (r2' : Rect hl' H W)
    (r3 : Rect hh H W) (r3' : Rect hh' H W) :
    iadd (alongW F0 (iadd (alongH F0 (ilin a b Z Z')) (alongH F1 (ilin a b lh lh'))))
         (alongW F1 (iadd (alongH F0 (ilin a b hl hl')) (alongH F1 (ilin a b hh hh'))))
      = ilin a b (iadd (alongW F0 (iadd (alongH F0 Z) (alongH F1 lh))) (alongW F1 (iadd (alongH F0 hl) (alongH F1 hh))))
                 (iadd (alongW F0 (iadd (alongH F0 Z') (alongH F1 lh'))) (alongW F1 (iadd (alongH F0 hl') (alongH F1 hh')))) ∧
    Rect (iadd (alongW F0 (iadd (alongH F0 Z) (alongH F1 lh))) (alongW F1 (iadd (alongH F0 hl) (alongH F1 hh)))) (outLen F0 H) (outLen F0 W) := by
  have a0 := fun (x : Img R) (hx : Rect x H W) => alongH_lin_rect l0 x H W hx hH hW
  have a1 := fun (x : Img R) (hx : Rect x H W) => by
    have := alongH_lin_rect l1 x H W hx hH hW; rw [hlen] at this; exact this
  have s1 := fun (x y : Img R) (hx : Rect x H W) (hy : Rect y H W) => iadd_rect _ W _ _ (a0 x hx) (a1 y hy)
  have w0 := fun (x : Img R) (hx : Rect x (outLen F0 H) W) => alongW_lin_rect l0 x _ W hx
  have w1 := fun (x : Img R) (hx : Rect x (outLen F0 H) W) => by
    have := alongW_lin_rect l1 x _ W hx; rw [hlen] at this; exact this
  constructor
  · rw [alongH_lin l0 a b Z Z' H W rZ rZ' hH hW, alongH_lin l1 a b lh lh' H W r1 r1' hH hW,
      alongH_lin l0 a b hl hl' H W r2 r2' hH hW, alongH_lin l1 a b hh hh' H W r3 r3' hH hW,
      iadd_lin a b _ _ _ _ _ W (a0 Z rZ) (a0 Z' rZ') (a1 lh r1) (a1 lh' r1'),
      iadd_lin a b _ _ _ _ _ W (a0 hl r2) (a0 hl' r2') (a1 hh r3) (a1 hh' r3'),
      alongW_lin l0 a b _ _ _ W (s1 Z lh rZ r1) (s1 Z' lh' rZ' r1'), alongW_lin l1 a b _ _ _ W (s1 hl hh r2 r3) (s1 hl' hh' r2' r3'),
      iadd_lin a b _ _ _ _ _ _ (w0 _ (s1 Z lh rZ r1)) (w0 _ (s1 Z' lh' rZ' r1')) (w1 _ (s1 hl hh r2 r3)) (w1 _ (s1 hl' hh' r2' r3'))]
  · exact iadd_rect _ _ _ _ (w0 _ (s1 Z lh rZ r1)) (w1 _ (s1 hl hh r2 r3))

/-- a level ≥ 2 of the reference inverse is linear in the low-pass and the six complex bands -/
theorem refInvLevel2_lin (s : R) (g0a g0b g1a g1b : List R) (a b : R) (Z Z' : Img R) (o o' : List (Cplx R)) (r c : Nat)
    (hr : 1 ≤ r) (hc : 1 ≤ c) (rZ : Rect Z (2*r) (2*c)) (rZ' : Rect Z' (2*r) (2*c)) (ho : BandRect o r c) (ho' : BandRect o' r c) :
    Spec.refInvLevel2 s g0a g0b g1a g1b (ilin a b Z Z') (blin a b o o')
      = ilin a b (Spec.refInvLevel2 s g0a g0b g1a g1b Z o) (Spec.refInvLevel2 s g0a g0b g1a g1b Z' o') ∧
    Rect (Spec.refInvLevel2 s g0a g0b g1a g1b Z o) (4*r) (4*c) := by
  obtain ⟨e, q1, q2, q3⟩ := orientationsToHighs_lin s a b o o' r c hr ho ho'
  obtain ⟨_, q1', q2', q3'⟩ := orientationsToHighs_lin s a b o' o r c hr ho' ho
  have l0 := lin_spec_colifilt (R := R) g0b g0a false
  have l1 := lin_spec_colifilt (R := R) g1b g1a true
  have hlen : ∀ n, outLen (Spec.colifilt g1b g1a true) n = outLen (Spec.colifilt g0b g0a false) n := by
    intro n; rw [outLen_colifilt, outLen_colifilt]
  obtain ⟨p, rr⟩ := synth4_lin l0 l1 hlen a b Z Z' _ _ _ _ _ _ (2*r) (2*c) (by omega) (by omega)
    rZ rZ' q1 q1' q2 q2' q3 q3'
  rw [outLen_colifilt, outLen_colifilt] at rr
  have e4r : 2 * (2 * r) = 4 * r := by ring
  have e4c : 2 * (2 * c) = 4 * c := by ring
  rw [e4r, e4c] at rr
  refine ⟨?_, rr⟩
  unfold Spec.refInvLevel2
  rw [e]
  exact p

/-- level 1 of the reference inverse is linear (odd-length level-1 synthesis filters) -/
theorem refInvLevel1_lin (s : R) (g0o g1o : List R) (hg0 : g0o.length % 2 = 1) (hg1 : g1o.length % 2 = 1) (a b : R) (Z Z' : Img R)
    (o o' : List (Cplx R)) (r c : Nat) (hr : 1 ≤ r) (hc : 1 ≤ c) (rZ : Rect Z (2*r) (2*c)) (rZ' : Rect Z' (2*r) (2*c))
    (ho : BandRect o r c) (ho' : BandRect o' r c) :
    Spec.refInvLevel1 s g0o g1o (ilin a b Z Z') (blin a b o o')
      = ilin a b (Spec.refInvLevel1 s g0o g1o Z o) (Spec.refInvLevel1 s g0o g1o Z' o') := by
  obtain ⟨e, q1, q2, q3⟩ := orientationsToHighs_lin s a b o o' r c hr ho ho'
  obtain ⟨_, q1', q2', q3'⟩ := orientationsToHighs_lin s a b o' o r c hr ho' ho
  have l0 := lin_spec_colfilter (R := R) g0o
  have l1 := lin_spec_colfilter (R := R) g1o
  have hlen := outLen_colfilter_parity g0o g1o (hg1.trans hg0.symm)
  obtain ⟨p, _⟩ := synth4_lin l0 l1 hlen a b Z Z' _ _ _ _ _ _ (2*r) (2*c) (by omega) (by omega)
    rZ rZ' q1 q1' q2 q2' q3 q3'
  unfold Spec.refInvLevel1
  rw [e]
  exact p

/-- two pyramids of one forward-compatible shape above a level whose band size is `(r, c)`: `rest`, `rest'` are the coarser
levels (finest first), `Z`, `Z'` the low-passes; every band real and imaginary part rectangular -/
def PyrR : Nat → Nat → List (List (Cplx R)) → List (List (Cplx R)) → Img R → Img R → Prop
  | r, c, [], [], Z, Z' => Rect Z (2*r) (2*c) ∧ Rect Z' (2*r) (2*c)
  | r, c, b :: rest, b' :: rest', Z, Z' => ∃ r' c', 1 ≤ r' ∧ 1 ≤ c' ∧ BandRect b r' c' ∧ BandRect b' r' c' ∧
      (4*r' = 2*r ∨ 4*r' = 2*r + 2) ∧ (4*c' = 2*c ∨ 4*c' = 2*c + 2) ∧ PyrR r' c' rest rest' Z Z'
  | _, _, _, _, _, _ => False

theorem PyrR.left : ∀ (rest rest' : List (List (Cplx R))) (r c : Nat) (Z Z' : Img R), PyrR r c rest rest' Z Z' → PyrOK r c rest Z
  | [], [], _, _, _, _, h => h.1
  | [], _ :: _, _, _, _, _, h => absurd h (by simp [PyrR])
  | _ :: _, [], _, _, _, _, h => absurd h (by simp [PyrR])
  | b :: rest, b' :: rest', r, c, Z, Z', h => by
    obtain ⟨r', c', hr', hc', hb, _, h1, h2, hrest⟩ := h
    exact ⟨r', c', hr', hc', hb.ok hr', h1, h2, PyrR.left rest rest' r' c' Z Z' hrest⟩

theorem PyrR.right : ∀ (rest rest' : List (List (Cplx R))) (r c : Nat) (Z Z' : Img R), PyrR r c rest rest' Z Z' → PyrOK r c rest' Z'
  | [], [], _, _, _, _, h => h.2
  | [], _ :: _, _, _, _, _, h => absurd h (by simp [PyrR])
  | _ :: _, [], _, _, _, _, h => absurd h (by simp [PyrR])
  | b :: rest, b' :: rest', r, c, Z, Z', h => by
    obtain ⟨r', c', hr', hc', _, hb', h1, h2, hrest⟩ := h
    exact ⟨r', c', hr', hc', hb'.ok hr', h1, h2, PyrR.right rest rest' r' c' Z Z' hrest⟩

theorem PyrR.comb (a b : R) : ∀ (rest rest' : List (List (Cplx R))) (r c : Nat) (Z Z' : Img R), PyrR r c rest rest' Z Z' →
    PyrOK r c (plinC a b rest rest') (ilin a b Z Z')
  | [], [], r, c, Z, _, h => ilin_rect a b Z _ (2*r) (2*c) h.1
  | [], _ :: _, _, _, _, _, h => absurd h (by simp [PyrR])
  | _ :: _, [], _, _, _, _, h => absurd h (by simp [PyrR])
  | b0 :: rest, b0' :: rest', r, c, Z, Z', h => by
    obtain ⟨r', c', hr', hc', hb, hb', h1, h2, hrest⟩ := h
    exact ⟨r', c', hr', hc', (blin_rect a b b0 b0' r' c' hb hb').ok hr', h1, h2, PyrR.comb a b rest rest' r' c' Z Z' hrest⟩

theorem bandSize_rect (o : List (Cplx R)) (r c : Nat) (hr : 1 ≤ r) (h : BandRect o r c) : bandSize o = (r, c) :=
  bandSize_of_ok o r c (h.ok hr)

/-- the coarse-to-fine recursion of the reference inverse is linear -/
theorem refInvGo_lin (s : R) (g0a g0b g1a g1b : List R) (a b : R) :
    ∀ (rest rest' : List (List (Cplx R))) (finer finer' : List (Cplx R)) (r c : Nat) (Z Z' : Img R), 1 ≤ r → 1 ≤ c →
      BandRect finer r c → BandRect finer' r c → PyrR r c rest rest' Z Z' →
      Spec.refInvGo s g0a g0b g1a g1b (blin a b finer finer') (plinC a b rest rest') (ilin a b Z Z')
        = ilin a b (Spec.refInvGo s g0a g0b g1a g1b finer rest Z) (Spec.refInvGo s g0a g0b g1a g1b finer' rest' Z') ∧
      Rect (Spec.refInvGo s g0a g0b g1a g1b finer rest Z) (2*r) (2*c) ∧
      Rect (Spec.refInvGo s g0a g0b g1a g1b finer' rest' Z') (2*r) (2*c)
  | [], [], _, _, _, _, _, _, _, _, _, _, h => ⟨rfl, h.1, h.2⟩
  | [], _ :: _, _, _, _, _, _, _, _, _, _, _, h => absurd h (by simp [PyrR])
  | _ :: _, [], _, _, _, _, _, _, _, _, _, _, h => absurd h (by simp [PyrR])
  | b0 :: rest, b0' :: rest', finer, finer', r, c, Z, Z', hr, hc, hf, hf', h => by
    obtain ⟨r', c', hr', hc', hb, hb', h1, h2, hrest⟩ := h
    obtain ⟨e, rz, rz'⟩ := refInvGo_lin s g0a g0b g1a g1b a b rest rest' b0 b0' r' c' Z Z' hr' hc' hb hb' hrest
    obtain ⟨e2, ry⟩ := refInvLevel2_lin s g0a g0b g1a g1b a b _ _ b0 b0' r' c' hr' hc' rz rz' hb hb'
    obtain ⟨_, ry'⟩ := refInvLevel2_lin s g0a g0b g1a g1b a b _ _ b0' b0 r' c' hr' hc' rz' rz hb' hb
    have hH : 4*r' = 2*r ∨ 4*r' = 2*r + 2 := h1
    have hW : 4*c' = 2*c ∨ 4*c' = 2*c + 2 := h2
    have bs := bandSize_rect finer r c hr hf
    have bs' := bandSize_rect finer' r c hr hf'
    have bsl := bandSize_rect _ r c hr (blin_rect a b finer finer' r c hf hf')
    simp only [Spec.refInvGo, plinC, List.zipWith_cons_cons]
    rw [bs, bs', bsl]
    simp only []
    have : List.zipWith (blin a b) rest rest' = plinC a b rest rest' := rfl
    rw [this, e, e2, cropToHighs_lin a b _ _ (4*r') (4*c') r c hr hc ry ry' hH hW]
    exact ⟨rfl, crop_rect _ _ _ r c hr hc ry hH hW, crop_rect _ _ _ r c hr hc ry' hH hW⟩

/-- the reference inverse DTCWT is linear on two pyramids of one forward-compatible shape, every number of levels -/
theorem refInverse_linear (s : R) (g0o g1o g0a g0b g1a g1b : List R) (hg0 : g0o.length % 2 = 1) (hg1 : g1o.length % 2 = 1) (a b : R)
    (b1 b1' : List (Cplx R)) (rest rest' : List (List (Cplx R))) (low low' : Img R) (r c : Nat) (hr : 1 ≤ r) (hc : 1 ≤ c)
    (hb : BandRect b1 r c) (hb' : BandRect b1' r c) (hok : PyrR r c rest rest' low low') :
    Spec.refInverse s g0o g1o g0a g0b g1a g1b (ilin a b low low') (plinC a b (b1 :: rest) (b1' :: rest'))
      = ilin a b (Spec.refInverse s g0o g1o g0a g0b g1a g1b low (b1 :: rest)) (Spec.refInverse s g0o g1o g0a g0b g1a g1b low' (b1' :: rest')) := by
  obtain ⟨e, rz, rz'⟩ := refInvGo_lin s g0a g0b g1a g1b a b rest rest' b1 b1' r c low low' hr hc hb hb' hok
  simp only [Spec.refInverse, plinC, List.zipWith_cons_cons]
  have : List.zipWith (blin a b) rest rest' = plinC a b rest rest' := rfl
  rw [this, e]
  exact refInvLevel1_lin s g0o g1o hg0 hg1 a b _ _ b1 b1' r c hr hc rz rz' hb hb'

/-- the inverse DTCWT of the implementation model is linear on pyramids of one forward-compatible shape with all levels
present (symmetric mode, level-1 synthesis filters of odd length, q-shift filters of even length ≥ 2 and pairwise equal lengths): it returns on `P`, on `Q` and on `a·P + b·Q`, and the third result is `a·` the first `+ b·` the second -/
theorem DTCWTInverse_linear (s : R) (g0o g1o g0a g0b g1a g1b : List R) (hm0 : g0b.length % 2 = 0) (hm0' : 2 ≤ g0b.length)
    (hab0 : g0a.length = g0b.length) (hm1 : g1b.length % 2 = 0) (hm1' : 2 ≤ g1b.length) (hab1 : g1a.length = g1b.length)
    (hg0 : g0o.length % 2 = 1) (hg1 : g1o.length % 2 = 1) (a b : R)
    (b1 b1' : List (Cplx R)) (rest rest' : List (List (Cplx R))) (low low' : Img R) (r c : Nat) (hr : 1 ≤ r) (hc : 1 ≤ c)
    (hb : BandRect b1 r c) (hb' : BandRect b1' r c) (hok : PyrR r c rest rest' low low') :
    ∃ u v,
      DTCWTInverse s true (mkGg g0o g1o g0a g0b g1a g1b) (((b1 :: rest).map some).map bsz) (bsz (some b1)) (some low)
        ((b1 :: rest).map some) = some u ∧
      DTCWTInverse s true (mkGg g0o g1o g0a g0b g1a g1b) (((b1' :: rest').map some).map bsz) (bsz (some b1')) (some low')
        ((b1' :: rest').map some) = some v ∧
      DTCWTInverse s true (mkGg g0o g1o g0a g0b g1a g1b) (((plinC a b (b1 :: rest) (b1' :: rest')).map some).map bsz)
        (bsz (some (blin a b b1 b1'))) (some (ilin a b low low')) ((plinC a b (b1 :: rest) (b1' :: rest')).map some)
        = some (ilin a b u v) := by
  have e1 := dtcwt_inverse_eq_ref s g0o g1o g0a g0b g1a g1b hm0 hm0' hab0 hm1 hm1' hab1 hg0 hg1 b1 rest low r c hr hc (hb.ok hr)
    (PyrR.left rest rest' r c low low' hok)
  have e2 := dtcwt_inverse_eq_ref s g0o g1o g0a g0b g1a g1b hm0 hm0' hab0 hm1 hm1' hab1 hg0 hg1 b1' rest' low' r c hr hc (hb'.ok hr)
    (PyrR.right rest rest' r c low low' hok)
  have e3 := dtcwt_inverse_eq_ref s g0o g1o g0a g0b g1a g1b hm0 hm0' hab0 hm1 hm1' hab1 hg0 hg1 (blin a b b1 b1') (plinC a b rest rest')
    (ilin a b low low') r c hr hc ((blin_rect a b b1 b1' r c hb hb').ok hr) (PyrR.comb a b rest rest' r c low low' hok)
  refine ⟨_, _, e1, e2, ?_⟩
  have hp : plinC a b (b1 :: rest) (b1' :: rest') = blin a b b1 b1' :: plinC a b rest rest' := rfl
  rw [hp, e3, ← hp, refInverse_linear s g0o g1o g0a g0b g1a g1b hg0 hg1 a b b1 b1' rest rest' low low' r c hr hc hb hb' hok]

/-- the band-shape hypothesis `BandRect` is satisfiable: one level of six 1 × 1 complex bands -/
example : BandRect (R := Int) (List.replicate 6 ([[5]], [[6]])) 1 1 := by
  refine ⟨rfl, fun k hk => ?_⟩
  rw [List.getD_eq_getElem?_getD, List.getElem?_replicate, if_pos hk]
  exact ⟨⟨rfl, by simp⟩, ⟨rfl, by simp⟩⟩

end WV.C07U
