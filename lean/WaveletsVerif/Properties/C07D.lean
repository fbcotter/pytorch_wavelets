/-
  C07 — linearity of the other one-dimensional operators of the library, with the calculus `C07.Lin`:
  the synthesis bank `sfb1d` and the stationary filter `afb1d_atrous` (lowlevel.py), and the DTCWT column
  filters `colfilter`, `coldfilt`, `colifilt` (dtcwt/lowlevel.py).

  * every gather `x ↦ [x[idx(n,0)], …, x[idx(n,cnt n − 1)]]` whose index table depends on the length `n` only is
    linear (`lin_gather`): Python slices with step 2, the `symm_pad_1d` index vectors, de-interleaving;
  * transposed convolution is linear in the coefficients; element-wise sums and interleavings of linear maps
    are linear;
  * hence `sfb1d` is linear in the pair (lo, hi) in every mode, `afb1d_atrous` in every mode it accepts, and
    the column filters for every filter, column length and highpass flag; whether they raise depends on the
    lengths only.
-/
import WaveletsVerif.Properties.C07
import WaveletsVerif.Model.Dtcwt
namespace WV.C07D
open Finset WV WV.C07
variable {R : Type} [CommRing R]

theorem lin_gather (cnt : Nat → Nat) (idx : Nat → Nat → Nat) :
    Lin (fun x : List R => tab (cnt x.length) fun i => getN x (idx x.length i)) := by
  refine Lin.of_tab cnt (fun x i => getN x (idx x.length i)) (fun _ => rfl) ?_
  intro a b x y hxy i
  simp only [lincomb_length, ← hxy]
  exact getN_lincomb a b x y hxy _

theorem lin_slice2 (p q : Int) : Lin (fun x : List R => slice2 x p q) := by
  unfold slice2
  exact lin_gather (fun n => (pyBound n q - pyBound n p + 1) / 2) (fun n i => pyBound n p + 2*i)

theorem lin_slice2From (p : Int) : Lin (fun x : List R => slice2From x p) := by
  unfold slice2From slice2
  exact lin_gather (fun n => (pyBound n (n:Int) - pyBound n p + 1) / 2) (fun n i => pyBound n p + 2*i)

theorem lin_symmPad (m : Nat) : Lin (fun x : List R => symmPad x m) := by
  unfold symmPad; exact lin_padIdx symIdx m m

theorem vadd_lincomb (a b : R) (u u' v v' : List R) (hu : u.length = u'.length) (hv : v.length = v'.length) :
    vadd (lincomb a b u u') (lincomb a b v v') = lincomb a b (vadd u v) (vadd u' v') := by
  apply list_ext_getN
  · simp [vadd]
  · intro i hi
    simp only [vadd, length_tab, lincomb_length] at hi
    have hl : (vadd u v).length = (vadd u' v').length := by simp [vadd, hu]
    rw [getN_vadd _ _ _ (by rw [lincomb_length]; exact hi), getN_lincomb a b _ _ hu, getN_lincomb a b _ _ hv,
      getN_lincomb a b _ _ hl, getN_vadd _ _ _ hi, getN_vadd _ _ _ (by rw [← hu]; exact hi)]
    ring

theorem lin_vadd {F G : List R → List R} (hF : Lin F) (hG : Lin G) : Lin (fun x => vadd (F x) (G x)) := by
  intro a b x y hxy
  obtain ⟨f1, f2⟩ := hF a b x y hxy
  obtain ⟨g1, g2⟩ := hG a b x y hxy
  refine ⟨?_, by simp [vadd, f2]⟩
  show vadd (F (lincomb a b x y)) (G (lincomb a b x y)) = _
  rw [f1, g1]
  exact vadd_lincomb a b _ _ _ _ f2 g2

theorem getN_interleave2 (u v : List R) (i : Nat) (hi : i < 2 * u.length) :
    getN (interleave2 u v) i = if i % 2 = 0 then getN u (i/2) else getN v (i/2) := by
  unfold interleave2; rw [getN_tab, if_pos hi]

theorem getN_interleave4 (u v w z : List R) (i : Nat) (hi : i < 4 * u.length) :
    getN (interleave4 u v w z) i
      = match i % 4 with
        | 0 => getN u (i/4) | 1 => getN v (i/4) | 2 => getN w (i/4) | _ => getN z (i/4) := by
  unfold interleave4; rw [getN_tab, if_pos hi]
  rcases (show i % 4 = 0 ∨ i % 4 = 1 ∨ i % 4 = 2 ∨ i % 4 = 3 by omega) with h | h | h | h <;> simp [h]

/-- `stack((a, b)).view(…)`: interleaving two linear maps -/
theorem lin_interleave2 {F G : List R → List R} (hF : Lin F) (hG : Lin G) :
    Lin (fun x => interleave2 (F x) (G x)) := by
  intro a b x y hxy
  obtain ⟨f1, f2⟩ := hF a b x y hxy
  obtain ⟨g1, g2⟩ := hG a b x y hxy
  refine ⟨?_, by simp [interleave2, f2]⟩
  simp only [f1, g1]
  apply list_ext_getN
  · simp [interleave2]
  · intro i hi
    simp only [interleave2, length_tab, lincomb_length] at hi
    have hl : (interleave2 (F x) (G x)).length = (interleave2 (F y) (G y)).length := by simp [interleave2, f2]
    rw [getN_lincomb a b _ _ hl, getN_interleave2 _ _ i (by rw [lincomb_length]; exact hi), getN_interleave2 _ _ i hi,
      getN_interleave2 _ _ i (by rw [← f2]; exact hi)]
    split
    · rw [getN_lincomb a b _ _ f2]
    · rw [getN_lincomb a b _ _ g2]

theorem lin_interleave4 {F1 F2 F3 F4 : List R → List R} (h1 : Lin F1) (h2 : Lin F2) (h3 : Lin F3) (h4 : Lin F4) :
    Lin (fun x => interleave4 (F1 x) (F2 x) (F3 x) (F4 x)) := by
  intro a b x y hxy
  obtain ⟨a1, a2⟩ := h1 a b x y hxy
  obtain ⟨b1, b2⟩ := h2 a b x y hxy
  obtain ⟨c1, c2⟩ := h3 a b x y hxy
  obtain ⟨d1, d2⟩ := h4 a b x y hxy
  refine ⟨?_, by simp [interleave4, a2]⟩
  simp only [a1, b1, c1, d1]
  apply list_ext_getN
  · simp [interleave4]
  · intro i hi
    simp only [interleave4, length_tab, lincomb_length] at hi
    have hl : (interleave4 (F1 x) (F2 x) (F3 x) (F4 x)).length = (interleave4 (F1 y) (F2 y) (F3 y) (F4 y)).length := by
      simp [interleave4, a2]
    rw [getN_lincomb a b _ _ hl, getN_interleave4 _ _ _ _ i (by rw [lincomb_length]; exact hi), getN_interleave4 _ _ _ _ i hi,
      getN_interleave4 _ _ _ _ i (by rw [← a2]; exact hi)]
    split
    · rw [getN_lincomb a b _ _ a2]
    · rw [getN_lincomb a b _ _ b2]
    · rw [getN_lincomb a b _ _ c2]
    · rw [getN_lincomb a b _ _ d2]

theorem lin_convTFull (w : List R) : Lin (fun g : List R => convTFull w g) := by
  refine Lin.of_tab (fun n => 2 * (n - 1) + w.length) _ (fun _ => rfl) ?_
  intro a b x y hxy i
  simp only [lincomb_length, ← hxy]
  rw [← sumN_lincomb]
  congr 1; funext k
  rw [getN_lincomb a b x y hxy]; ring

theorem lin_convT (w : List R) (P : Nat) : Lin (fun g : List R => convT w g P) := by
  unfold convT
  exact Lin.comp (F := fun full : List R => tab (full.length - 2*P) fun i => getN full (i + P))
    (lin_gather (fun n => n - 2*P) (fun _ i => i + P)) (lin_convTFull w)

theorem pair_linear {F G K : List R → List R} (hF : Lin F) (hG : Lin G) (hK : Lin K) (a b : R)
    (lo lo' hi hi' : List R) (hl : lo.length = lo'.length) (hh : hi.length = hi'.length) :
    K (vadd (F (lincomb a b lo lo')) (G (lincomb a b hi hi')))
      = lincomb a b (K (vadd (F lo) (G hi))) (K (vadd (F lo') (G hi'))) := by
  obtain ⟨f1, f2⟩ := hF a b lo lo' hl
  obtain ⟨g1, g2⟩ := hG a b hi hi' hh
  rw [f1, g1, vadd_lincomb a b _ _ _ _ f2 g2]
  exact (hK a b _ _ (by simp [vadd, f2])).1

/-- `sfb1d` is linear in the pair of bands in every mode (zero, symmetric, reflect, periodic: two transposed
convolutions cropped by `L−2`; periodization: fold and roll), and whether it raises depends on lengths only -/
theorem sfb1dCh_linear (m : Mode) (g0 g1 lo lo' hi hi' : List R) (a b : R) (hl : lo.length = lo'.length)
    (hh : hi.length = hi'.length) :
    sfb1dCh m g0 g1 (lincomb a b lo lo') (lincomb a b hi hi')
      = (sfb1dCh m g0 g1 lo hi).bind fun u => (sfb1dCh m g0 g1 lo' hi').bind fun v => some (lincomb a b u v) := by
  unfold sfb1dCh
  simp only [lincomb_length, ← hl, ← hh]
  by_cases hg : g0.length < 2 ∨ g1.length ≠ g0.length ∨ lo.length < 1 ∨ hi.length ≠ lo.length
  · rw [if_pos hg, if_pos hg]; rfl
  · rw [if_neg hg, if_neg hg, if_neg hg]
    have hpad : ∀ (c : Prop) [Decidable c],
        (if c then (none : Option (List R)) else
          some (vadd (convT g0 (lincomb a b lo lo') (g0.length - 2)) (convT g1 (lincomb a b hi hi') (g0.length - 2))))
        = (if c then none else some (vadd (convT g0 lo (g0.length - 2)) (convT g1 hi (g0.length - 2)))).bind fun u =>
          (if c then none else some (vadd (convT g0 lo' (g0.length - 2)) (convT g1 hi' (g0.length - 2)))).bind fun v =>
            some (lincomb a b u v) := by
      intro c _
      by_cases hc : c
      · simp [hc]
      · simp only [hc, if_false, Option.bind_some]
        rw [pair_linear (lin_convT g0 (g0.length - 2)) (lin_convT g1 (g0.length - 2)) lin_id a b lo lo' hi hi' hl hh]
    cases m with
    | periodization =>
      simp only [Option.bind_some]
      have hK : Lin (fun y : List R => rollPy ((foldAdd y (g0.length - 2) (2 * lo.length)).take (2 * lo.length))
          (1 - ((g0.length / 2 : Nat) : Int))) :=
        (lin_rollPy _).comp ((lin_take _).comp (lin_foldAdd _ _))
      rw [pair_linear (lin_convTFull g0) (lin_convTFull g1) hK a b lo lo' hi hi' hl hh]
    | zero => exact hpad _
    | symmetric => exact hpad _
    | reflect => exact hpad _
    | periodic => exact hpad _
    | constant => simp
    | replicate => simp

/-- `afb1d_atrous` (the stationary transform's filter) is linear in every mode it accepts -/
theorem afb1dAtrousOne_guardedLin (m : Mode) (d : Nat) (w : List R) : GuardedLin (afb1dAtrousOne m d w) := by
  cases m with
  | periodic =>
    exact GuardedLin.of_not (fun n => w.length < 2 ∨ n < 1 ∨ d < 1 ∨ (w.length * d) / 2 < d)
      ((lin_corr w 1 d).comp (lin_padIdx perIdx _ _)) (fun _ => rfl)
  | symmetric =>
    exact GuardedLin.of_not (fun n => w.length < 2 ∨ n < 1 ∨ d < 1 ∨ (w.length * d) / 2 < d)
      ((lin_corr w 1 d).comp (lin_padIdx symIdx _ _)) (fun _ => rfl)
  | zero =>
    exact GuardedLin.of_not (fun n => w.length < 2 ∨ n < 1 ∨ d < 1 ∨ (w.length * d) / 2 < d)
      ((lin_corr w 1 d).comp (lin_zeroPad _ _)) (fun _ => rfl)
  | reflect =>
    exact GuardedLin.of_not_and (fun n => w.length < 2 ∨ n < 1 ∨ d < 1 ∨ (w.length * d) / 2 < d)
      (fun n => (w.length * d) / 2 - d < n ∧ (w.length * d) / 2 < n)
      ((lin_corr w 1 d).comp (lin_padIdx reflIdx _ _)) (fun _ => rfl)
  | _ =>
    refine GuardedLin.of_none (fun x => ?_)
    unfold afb1dAtrousOne
    by_cases hg : w.length < 2 ∨ x.length < 1 ∨ d < 1 ∨ (w.length * d) / 2 < d <;> simp [hg]

theorem afb1dAtrousOne_linear (m : Mode) (d : Nat) (w x y : List R) (a b : R) (hxy : x.length = y.length) :
    afb1dAtrousOne m d w (lincomb a b x y)
      = (afb1dAtrousOne m d w x).bind fun u => (afb1dAtrousOne m d w y).bind fun v => some (lincomb a b u v) :=
  (afb1dAtrousOne_guardedLin m d w).linear a b x y hxy

theorem colfilter1_lin (sym : Bool) (w : List R) : Lin (colfilter1 sym w) := by
  unfold colfilter1
  cases sym
  · simp only [Bool.false_eq_true, if_false]
    exact (lin_corr w 1 1).comp (lin_zeroPad _ _)
  · simp only [if_true]
    exact (lin_corr w 1 1).comp (lin_symmPad _)

theorem colfilter1_linear (sym : Bool) (w x y : List R) (a b : R) (hxy : x.length = y.length) :
    colfilter1 sym w (lincomb a b x y) = lincomb a b (colfilter1 sym w x) (colfilter1 sym w y) :=
  (colfilter1_lin sym w a b x y hxy).1

theorem coldfilt1_guardedLin (ha hb : List R) (hp : Bool) : GuardedLin (coldfilt1 ha hb hp) := by
  have hA : Lin (fun x : List R => corr ha (slice2From (symmPad x ha.length) 2) 2 1) :=
    (lin_corr ha 2 1).comp ((lin_slice2From 2).comp (lin_symmPad _))
  have hB : Lin (fun x : List R => corr hb (slice2From (symmPad x ha.length) 3) 2 1) :=
    (lin_corr hb 2 1).comp ((lin_slice2From 3).comp (lin_symmPad _))
  exact GuardedLin.of_not (fun n => n % 4 ≠ 0 ∨ n = 0) (lin_const_ite (hp = true) (lin_interleave2 hB hA) (lin_interleave2 hA hB))
    (fun _ => rfl)

theorem coldfilt1_linear (ha hb : List R) (hp : Bool) (x y : List R) (a b : R) (hxy : x.length = y.length) :
    coldfilt1 ha hb hp (lincomb a b x y)
      = (coldfilt1 ha hb hp x).bind fun u => (coldfilt1 ha hb hp y).bind fun v => some (lincomb a b u v) :=
  (coldfilt1_guardedLin ha hb hp).linear a b x y hxy

/-- `F` below spells out the four branches of `colifilt` (parity of `len(ha)/2` × highpass flag); each is an
interleaving of four correlations of stride-2 slices of the symmetric extension, hence linear (`br`) -/
theorem colifilt1_guardedLin (ha hb : List R) (hp : Bool) : GuardedLin (colifilt1 ha hb hp) := by
  have br : ∀ (h : List R) (p : Int) (q : Option Int),
      Lin (fun x : List R => corr h (match q with | some q => slice2 (symmPad x (ha.length/2)) p q | none => slice2From (symmPad x (ha.length/2)) p) 1 1) := by
    intro h p q
    cases q with
    | none => exact (lin_corr h 1 1).comp ((lin_slice2From p).comp (lin_symmPad _))
    | some q => exact (lin_corr h 1 1).comp ((lin_slice2 p q).comp (lin_symmPad _))
  refine GuardedLin.of_not (fun n => n % 2 ≠ 0 ∨ n = 0) (F := fun x =>
      if (ha.length/2) % 2 = 0 then
        (if hp then interleave4 (corr (slice2From ha 0) (slice2 (symmPad x (ha.length/2)) 1 (-2)) 1 1)
            (corr (slice2From hb 0) (slice2 (symmPad x (ha.length/2)) 0 (-2)) 1 1)
            (corr (slice2From ha 1) (slice2From (symmPad x (ha.length/2)) 3) 1 1)
            (corr (slice2From hb 1) (slice2From (symmPad x (ha.length/2)) 2) 1 1)
         else interleave4 (corr (slice2From ha 0) (slice2 (symmPad x (ha.length/2)) 0 (-2)) 1 1)
            (corr (slice2From hb 0) (slice2 (symmPad x (ha.length/2)) 1 (-2)) 1 1)
            (corr (slice2From ha 1) (slice2From (symmPad x (ha.length/2)) 2) 1 1)
            (corr (slice2From hb 1) (slice2From (symmPad x (ha.length/2)) 3) 1 1))
      else
        (if hp then interleave4 (corr (slice2From ha 1) (slice2 (symmPad x (ha.length/2)) 2 (-1)) 1 1)
            (corr (slice2From hb 1) (slice2 (symmPad x (ha.length/2)) 1 (-1)) 1 1)
            (corr (slice2From ha 0) (slice2 (symmPad x (ha.length/2)) 2 (-1)) 1 1)
            (corr (slice2From hb 0) (slice2 (symmPad x (ha.length/2)) 1 (-1)) 1 1)
         else interleave4 (corr (slice2From ha 1) (slice2 (symmPad x (ha.length/2)) 1 (-1)) 1 1)
            (corr (slice2From hb 1) (slice2 (symmPad x (ha.length/2)) 2 (-1)) 1 1)
            (corr (slice2From ha 0) (slice2 (symmPad x (ha.length/2)) 1 (-1)) 1 1)
            (corr (slice2From hb 0) (slice2 (symmPad x (ha.length/2)) 2 (-1)) 1 1)))
    ?_ ?_
  · apply lin_const_ite
    · apply lin_const_ite
      · exact lin_interleave4 (br _ 1 (some (-2))) (br _ 0 (some (-2))) (br _ 3 none) (br _ 2 none)
      · exact lin_interleave4 (br _ 0 (some (-2))) (br _ 1 (some (-2))) (br _ 2 none) (br _ 3 none)
    · apply lin_const_ite
      · exact lin_interleave4 (br _ 2 (some (-1))) (br _ 1 (some (-1))) (br _ 2 (some (-1))) (br _ 1 (some (-1)))
      · exact lin_interleave4 (br _ 1 (some (-1))) (br _ 2 (some (-1))) (br _ 1 (some (-1))) (br _ 2 (some (-1)))
  · intro x
    unfold colifilt1
    by_cases hg : x.length % 2 ≠ 0 ∨ x.length = 0
    · rw [if_pos hg, if_pos hg]
    · rw [if_neg hg, if_neg hg]
      by_cases hm : (ha.length/2) % 2 = 0 <;> cases hp <;> simp [hm]

theorem colifilt1_linear (ha hb : List R) (hp : Bool) (x y : List R) (a b : R) (hxy : x.length = y.length) :
    colifilt1 ha hb hp (lincomb a b x y)
      = (colifilt1 ha hb hp x).bind fun u => (colifilt1 ha hb hp y).bind fun v => some (lincomb a b u v) :=
  (colifilt1_guardedLin ha hb hp).linear a b x y hxy

end WV.C07D
