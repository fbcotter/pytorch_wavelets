/-
  C19 — the non-separable filter bank equals the separable one.

  The algebraic heart: a 2-D correlation with an outer-product kernel factors into
  a row correlation followed by a column correlation, at every pixel of the output, for every
  kernel with at least one row, every image size and stride (`corr2_outer_eq`); and the kernels `afb2d_nonsep` builds (`np.outer(hc, hr)[::-1, ::-1]`)
  are the outer products of the *reversed* filters, i.e. of the buffers `afb2d` uses.
-/
import WaveletsVerif.Lemmas.Img
namespace WV.C19
open Finset WV
variable {R : Type} [CommRing R]

/-- the kernel of `afb2d_nonsep` is the outer product of the reversed filters -/
theorem outerRev_eq (a b : List R) : outerRev a b = outer a.reverse b.reverse := by
  unfold outerRev outer
  simp only [List.length_reverse]
  unfold tab2
  apply tab_ext rfl; intro i hi
  apply tab_ext rfl; intro j hj
  show getN a (a.length - 1 - i) * getN b (b.length - 1 - j) = getN a.reverse i * getN b.reverse j
  rw [getN_reverse' a i hi, getN_reverse' b j hj]

/-- a 2-D correlation with the rank-one kernel `a ⊗ b` is a nested pair of 1-D correlations:
`Σ_i Σ_j a_i b_j x[sh·p+i, sw·q+j] = Σ_i a_i · (Σ_j b_j x[sh·p+i, sw·q+j])` -/
theorem corr2_outer_eq (a b : List R) (x : Img R) (sh sw p q : Nat) (ha : 0 < a.length)
    (hp : p < corrLen x.length a.length sh 1) (hq : q < corrLen x.width b.length sw 1) :
    get2 (corr2 (outer a b) x sh sw) p q
      = ∑ i ∈ range a.length, getN a i * (∑ j ∈ range b.length, getN b j * get2 x (sh*p + i) (sw*q + j)) := by
  unfold corr2
  rw [outer_length, outer_width a b ha, get2_tab2 _ _ _ _ _ hp hq, sumN_eq]
  apply Finset.sum_congr rfl; intro i hi
  have hi' : i < a.length := by simpa using hi
  rw [sumN_eq, Finset.mul_sum]
  apply Finset.sum_congr rfl; intro j hj
  have hj' : j < b.length := by simpa using hj
  unfold outer
  rw [get2_tab2 _ _ _ _ _ hi' hj']
  ring

/-- the inner sum is exactly what the separable row pass computes -/
theorem rows_corr_get (b : List R) (x : Img R) (sw r q : Nat)
    (hq : q < corrLen (x.getD r []).length b.length sw 1) :
    get2 (x.map fun row => corr b row sw 1) r q = ∑ j ∈ range b.length, getN b j * get2 x r (sw*q + j) := by
  have hr : r < x.length := by
    by_contra hcon
    have : x.getD r [] = [] := by
      rw [List.getD_eq_getElem?_getD, List.getElem?_eq_none (by omega)]; rfl
    rw [this] at hq
    simp [corrLen] at hq
  have e : (x.map fun row => corr b row sw 1).getD r [] = corr b (x.getD r []) sw 1 := by
    simp [List.getD_eq_getElem?_getD, List.getElem?_eq_getElem hr]
  unfold get2
  rw [e]
  unfold corr
  rw [getD_tab]; simp only [hq, if_true]
  rw [sumN_eq]
  apply Finset.sum_congr rfl; intro j _
  simp [getN]

/-- a concrete check of the factorisation of `corr2_outer_eq` on integers: 2 × 2 kernel, 3 × 3 image, stride 1, pixel (1, 1),
an instance of its hypotheses -/
example : get2 (corr2 (outer [1, 2] [3, -1]) ([[1,2,3],[4,5,6],[7,8,9]] : Img Int) 1 1) 1 1
    = 1 * (3*5 + -1*6) + 2 * (3*8 + -1*9) := by decide

end WV.C19
