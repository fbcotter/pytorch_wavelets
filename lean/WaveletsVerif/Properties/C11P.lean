/-
  C11 — the inverse DTCWT of the implementation model IS the reference inverse, on every pyramid of forward-compatible
  shape with all levels present (whether or not it is the transform of an image; absent inputs are C11Z), for every
  number of levels ≥ 1 (`mode='symmetric'`; level-1 synthesis filters of odd length, q-shift synthesis filters of even
  length ≥ 2, the two trees equally long).

  `Spec.refInverse` is `dtcwt.numpy.Transform2d.inverse` written with the index formulas of C03/C11 (validated against
  the package on every run).  The level synthesis of the model equals the reference's (`invJ1_eq_ref`, `invJ2_eq_ref`:
  the same column-then-row order, sums in the other order), the crop placed before a level by the library is the crop
  placed after the previous level by the reference, and the two loops agree by induction over the levels
  (`dtcwt_inverse_eq_ref`).  Shapes are the ones a forward transform produces (`PyrOK`): per level a band size
  `(r, c)`, the next coarser synthesis result `4r' × 4c'` equal to `2r × 2c` or larger by the padding `+2`.
-/
import WaveletsVerif.Properties.C03P
import WaveletsVerif.Properties.C06
namespace WV.C11P
open Finset WV WV.C04 WV.C04Q WV.C04P WV.C03P
variable {R : Type} [CommRing R]

abbrev Eg (ga gb : List R) (hp : Bool) : List R → List R := Spec.colifilt ga gb hp

/-- the six complex bands of one level all have the shape `r × c` (only the real parts' shapes matter for `c2q`) -/
def BandOK (o : List (Cplx R)) (r c : Nat) : Prop :=
  ∀ k < 6, (o.getD k ([], [])).1.length = r ∧ Img.width (o.getD k ([], [])).1 = c

theorem bandSize_of_ok (o : List (Cplx R)) (r c : Nat) (h : BandOK o r c) : bandSize o = (r, c) := by
  unfold bandSize
  have := h 0 (by omega)
  have e : o.headD ([], []) = o.getD 0 ([], []) := by cases o <;> rfl
  rw [e, this.1, this.2]

theorem highs_rect (s : R) (o : List (Cplx R)) (r c : Nat) (h : BandOK o r c) :
    Rect (orientationsToHighs s o).1 (2*r) (2*c) ∧ Rect (orientationsToHighs s o).2.1 (2*r) (2*c) ∧
      Rect (orientationsToHighs s o).2.2 (2*r) (2*c) := by
  unfold orientationsToHighs
  simp only
  exact ⟨C06.c2q_rect' s _ _ r c (h 0 (by omega)).1 (h 0 (by omega)).2, C06.c2q_rect' s _ _ r c (h 2 (by omega)).1 (h 2 (by omega)).2,
    C06.c2q_rect' s _ _ r c (h 1 (by omega)).1 (h 1 (by omega)).2⟩

theorem invJ2_eq_ref (s : R) (g0a g0b g1a g1b : List R) (hm0 : g0b.length % 2 = 0) (hm0' : 2 ≤ g0b.length)
    (hab0 : g0a.length = g0b.length) (hm1 : g1b.length % 2 = 0) (hm1' : 2 ≤ g1b.length) (hab1 : g1a.length = g1b.length)
    (l : Img R) (o : List (Cplx R)) (r c : Nat) (hr : 1 ≤ r) (hc : 1 ≤ c) (hl : Rect l (2*r) (2*c)) (ho : BandOK o r c) :
    invJ2 s (prepFilt g0a) (prepFilt g1a) (prepFilt g0b) (prepFilt g1b) (some l) (some o)
      = some (Spec.refInvLevel2 s g0a g0b g1a g1b l o) ∧ Rect (Spec.refInvLevel2 s g0a g0b g1a g1b l o) (4*r) (4*c) := by
  obtain ⟨rlh, rhl, rhh⟩ := highs_rect s o r c ho
  have h2r := one_le_two_mul hr
  have h2c := one_le_two_mul hc
  have q1 := colifilt_alongH_rect g1b g1a true _ _ _ rhh h2r h2c
  have q2 := colifilt_alongH_rect g0b g0a false _ _ _ rhl h2r h2c
  have q3 := colifilt_alongH_rect g1b g1a true _ _ _ rlh h2r h2c
  have q4 := colifilt_alongH_rect g0b g0a false l _ _ hl h2r h2c
  have w1 := colifilt_alongW_rect g1b g1a true _ _ _ (iadd_rect _ _ _ _ q1 q2)
  have w2 := colifilt_alongW_rect g0b g0a false _ _ _ (iadd_rect _ _ _ _ q3 q4)
  -- the reference adds the same four terms in the other order
  have hspec : Spec.refInvLevel2 s g0a g0b g1a g1b l o
      = iadd (alongW (Eg g0b g0a false) (iadd (alongH (Eg g0b g0a false) l) (alongH (Eg g1b g1a true) (orientationsToHighs s o).1)))
             (alongW (Eg g1b g1a true) (iadd (alongH (Eg g0b g0a false) (orientationsToHighs s o).2.1)
               (alongH (Eg g1b g1a true) (orientationsToHighs s o).2.2))) := rfl
  constructor
  · rw [invJ2_eq s g0a g0b g1a g1b hm0 hm0' hab0 hm1 hm1' hab1 l o r c hr hc hl rlh rhl rhh, hspec, iadd_comm _ _ _ _ w1 w2,
      iadd_comm _ _ _ _ q3 q4, iadd_comm _ _ _ _ q1 q2]
  · rw [hspec, show 4*r = 2*(2*r) by ring, show 4*c = 2*(2*c) by ring, iadd_comm _ _ _ _ q4 q3, iadd_comm _ _ _ _ q2 q1]
    exact iadd_rect _ _ _ _ w2 w1

theorem invJ1_eq_ref (s : R) (g0 g1 : List R) (hg0 : g0.length % 2 = 1) (hg1 : g1.length % 2 = 1)
    (l : Img R) (o : List (Cplx R)) (r c : Nat) (hr : 1 ≤ r) (hc : 1 ≤ c) (hl : Rect l (2*r) (2*c)) (ho : BandOK o r c) :
    invJ1 s true (prepFilt g0) (prepFilt g1) (r, c) (some l) (some o) = some (Spec.refInvLevel1 s g0 g1 l o) := by
  obtain ⟨rlh, rhl, rhh⟩ := highs_rect s o r c ho
  have h2r := one_le_two_mul hr
  have h2c := one_le_two_mul hc
  have q1 := alongH_rect g1 hg1 _ _ _ rhh h2r h2c
  have q2 := alongH_rect g0 hg0 _ _ _ rhl h2r h2c
  have q3 := alongH_rect g1 hg1 _ _ _ rlh h2r h2c
  have q4 := alongH_rect g0 hg0 l _ _ hl h2r h2c
  have w1 := alongW_rect g1 hg1 _ _ _ (iadd_rect _ _ _ _ q1 q2)
  have w2 := alongW_rect g0 hg0 _ _ _ (iadd_rect _ _ _ _ q3 q4)
  -- the reference adds the same four terms in the other order
  rw [invJ1_eq s g0 g1 hg0 hg1 l o r c hr hc hl rlh rhl rhh, iadd_comm _ _ _ _ w1 w2, iadd_comm _ _ _ _ q3 q4,
    iadd_comm _ _ _ _ q1 q2]
  rfl

theorem crop_rows_rect (Y : Img R) (H W r : Nat) (hr : 1 ≤ r) (hY : Rect Y H W) (hH : H = 2*r ∨ H = 2*r + 2) :
    Rect (if H ≠ 2*r then slice Y 1 (-1) else Y) (2*r) W := by
  split
  · rw [slice_one_neg_one Y (by rw [hY.1]; omega)]
    refine ⟨by rw [List.length_drop, List.length_take, hY.1]; omega, ?_⟩
    intro row hrow
    exact hY.2 row (List.mem_of_mem_take (List.mem_of_mem_drop hrow))
  · exact ⟨by rw [hY.1]; omega, hY.2⟩

theorem cropToHighs_eq (Y : Img R) (H W r c : Nat) (hr : 1 ≤ r) (hY : Rect Y H W) (hH : H = 2*r ∨ H = 2*r + 2) :
    cropToHighs Y r c = (if H ≠ 2*r then slice Y 1 (-1) else Y).map fun row => if W ≠ 2*c then slice row 1 (-1) else row :=
  rows_then_cols (fun n => n ≠ 2*r) (fun n => n ≠ 2*c) (fun Y => slice Y 1 (-1)) (fun row => slice row 1 (-1)) Y H W hY.1
    (rect_width _ _ _ (crop_rows_rect Y H W r hr hY hH) (by omega))

/-- cropping an image that is as large as twice the band, or larger by the padding, gives twice the band -/
theorem crop_rect (Y : Img R) (H W r c : Nat) (hr : 1 ≤ r) (hc : 1 ≤ c) (hY : Rect Y H W)
    (hH : H = 2*r ∨ H = 2*r + 2) (hW : W = 2*c ∨ W = 2*c + 2) : Rect (cropToHighs Y r c) (2*r) (2*c) := by
  rw [cropToHighs_eq Y H W r c hr hY hH]
  refine alongW_rect_of_length _ _ _ W _ (crop_rows_rect Y H W r hr hY hH) ?_
  intro row hrow
  split
  · rw [slice_one_neg_one row (by omega), List.length_drop, List.length_take]
    omega
  · omega

def mkGg (g0o g1o g0a g0b g1a g1b : List R) : InvFilters R :=
  { g0o := prepFilt g0o, g1o := prepFilt g1o, g0a := prepFilt g0a, g0b := prepFilt g0b, g1a := prepFilt g1a, g1b := prepFilt g1b }

/-- shapes of a forward-compatible pyramid above a level whose band size is `(r, c)`: `rest` are the coarser levels,
finest first, `Z` the low-pass -/
def PyrOK : Nat → Nat → List (List (Cplx R)) → Img R → Prop
  | r, c, [], Z => Rect Z (2*r) (2*c)
  | r, c, b :: rest, Z => ∃ r' c', 1 ≤ r' ∧ 1 ≤ c' ∧ BandOK b r' c' ∧ (4*r' = 2*r ∨ 4*r' = 2*r + 2) ∧
      (4*c' = 2*c ∨ 4*c' = 2*c + 2) ∧ PyrOK r' c' rest Z

section pyr
variable (s : R) (g0o g1o g0a g0b g1a g1b : List R) (hm0 : g0b.length % 2 = 0) (hm0' : 2 ≤ g0b.length)
    (hab0 : g0a.length = g0b.length) (hm1 : g1b.length % 2 = 0) (hm1' : 2 ≤ g1b.length) (hab1 : g1a.length = g1b.length)

include hm0 hm0' hab0 hm1 hm1' hab1 in
theorem go_eq_ref : ∀ (rest : List (List (Cplx R))) (finer : List (Cplx R)) (r c : Nat) (Z : Img R), 1 ≤ r → 1 ≤ c →
    bandSize finer = (r, c) → PyrOK r c rest Z →
    ∃ Zm, ((rest.map some).zip ((rest.map some).map bsz)).reverse.foldlM (dtcwtInvStep s (mkGg g0o g1o g0a g0b g1a g1b)) (some Z)
        = some (some Zm) ∧
      cropToHighs Zm r c = Spec.refInvGo s g0a g0b g1a g1b finer rest Z ∧
      Rect (Spec.refInvGo s g0a g0b g1a g1b finer rest Z) (2*r) (2*c) := by
  intro rest
  induction rest with
  | nil =>
    intro finer r c Z hr hc _ hok
    have hZ : Rect Z (2*r) (2*c) := hok
    refine ⟨Z, by simp, ?_, hZ⟩
    simp only [Spec.refInvGo]
    exact cropToHighs_id Z r c hZ.1 (rect_width _ _ _ hZ (by omega))
  | cons b rest ih =>
    intro finer r c Z hr hc hfin hok
    obtain ⟨r', c', hr', hc', hb, hrr, hcc, hrest⟩ := hok
    have hbs := bandSize_of_ok b r' c' hb
    obtain ⟨Zm', hfold, hcrop, hrect⟩ := ih b r' c' Z hr' hc' hbs hrest
    obtain ⟨hlev, hlevr⟩ := invJ2_eq_ref s g0a g0b g1a g1b hm0 hm0' hab0 hm1 hm1' hab1 _ b r' c' hr' hc' hrect hb
    refine ⟨Spec.refInvLevel2 s g0a g0b g1a g1b (Spec.refInvGo s g0a g0b g1a g1b b rest Z) b, ?_, ?_, ?_⟩
    · rw [List.map_cons, List.map_cons]
      refine invFold_cons_of s (mkGg g0o g1o g0a g0b g1a g1b) b _ _ _ Z Zm' _ hfold ?_
      rw [show bsz (some b) = (r', c') from hbs, hcrop]
      exact hlev
    · simp only [Spec.refInvGo, hfin]
    · simp only [Spec.refInvGo, hfin]
      exact crop_rect _ (4*r') (4*c') r c hr hc hlevr (by omega) (by omega)

include hm0 hm0' hab0 hm1 hm1' hab1 in
/-- the inverse DTCWT of the implementation model is the reference inverse on every pyramid of forward-compatible
shape with all levels present: level 1 of size `r × c` (`1 ≤ r`, `1 ≤ c`), the coarser levels and the low-pass as `PyrOK`
describes; `mode='symmetric'`, level-1 filters of odd length, q-shift filters of even length ≥ 2, the two trees equally long -/
theorem dtcwt_inverse_eq_ref (hg0o : g0o.length % 2 = 1) (hg1o : g1o.length % 2 = 1)
    (b1 : List (Cplx R)) (rest : List (List (Cplx R))) (low : Img R) (r c : Nat) (hr : 1 ≤ r) (hc : 1 ≤ c)
    (hb1 : BandOK b1 r c) (hok : PyrOK r c rest low) :
    DTCWTInverse s true (mkGg g0o g1o g0a g0b g1a g1b) (((b1 :: rest).map some).map bsz) (bsz (some b1)) (some low)
        ((b1 :: rest).map some)
      = some (Spec.refInverse s g0o g1o g0a g0b g1a g1b low (b1 :: rest)) := by
  have hbs := bandSize_of_ok b1 r c hb1
  obtain ⟨Zm, hfold, hcrop, hrect⟩ := go_eq_ref s g0o g1o g0a g0b g1a g1b hm0 hm0' hab0 hm1 hm1' hab1 rest b1 r c low hr hc hbs hok
  rw [List.map_cons, List.map_cons, DTCWTInverse_cons, hfold]
  simp only [Option.bind_eq_bind, Option.bind_some]
  have hb2 : bsz (some b1) = (r, c) := hbs
  rw [hb2]
  simp only [hcrop, Spec.refInverse]
  exact invJ1_eq_ref s g0o g1o hg0o hg1o _ b1 r c hr hc hrect hb1

end pyr

/-- the shape hypotheses `hb1`, `hok` of `dtcwt_inverse_eq_ref` are satisfiable (instance `r = c = 2` over ℤ): a two-level
pyramid (level 1 bands 2×2, level 2 bands 1×1, low-pass 2×2) has a compatible shape -/
example : BandOK (R := Int) (List.replicate 6 ([[1, 2], [3, 4]], [[0, 0], [0, 0]])) 2 2 ∧
    PyrOK (R := Int) 2 2 [List.replicate 6 ([[5]], [[6]])] [[1, 2], [3, 4]] := by
  refine ⟨?_, 1, 1, by omega, by omega, ?_, by omega, by omega, ?_⟩
  · intro k hk; interval_cases k <;> simp [Img.width]
  · intro k hk; interval_cases k <;> simp [Img.width]
  · exact ⟨rfl, by intro r hr; simp at hr; rcases hr with rfl | rfl <;> rfl⟩

end WV.C11P
