/-
  C02 — perfect reconstruction through the WHOLE 1-D pyramid, every number of levels.

  `waverec(wavedec(x))` starts with `x` and has at most one extra trailing sample, for every `J`, every signal
  length ≥ 1, every filter length ≥ 2 and every bank with `PRBank`, in the modes zero / symmetric / periodic
  (`pyramid_pr`; stated on PyWavelets' formulas): at each level
  the one-sample-longer reconstruction is exactly what the un-pad rule trims.  With C01 (`DWT1DForward = wavedec`)
  and C10 (`DWT1DInverse = waverec` on forward-compatible pyramids, which the pyramid of a signal is:
  `compat_wavedec`) this gives the same statement for the implementation models of the two modules
  on a one-channel input (`DWT1D_roundtrip`).
-/
import WaveletsVerif.Properties.C02
namespace WV.C02J
open Finset WV WV.C02
variable {R : Type} [CommRing R]

/-- one level: `idwt(dwt x)` starts with `x` and has `N` or `N+1` samples -/
theorem level_pr (m : Mode) (hm : m = .zero ∨ m = .symmetric ∨ m = .periodic) (h0 h1 g0 g1 x : List R) (hL : 2 ≤ h0.length)
    (hh1 : h1.length = h0.length) (hg0 : g0.length = h0.length) (hg1 : g1.length = h0.length)
    (hpr : PRBank h0 h1 g0 g1) (hN : 1 ≤ x.length) :
    (Spec.idwt m g0 g1 (Spec.dwt m h0 x) (Spec.dwt m h1 x)).take x.length = x ∧
    ((Spec.idwt m g0 g1 (Spec.dwt m h0 x) (Spec.dwt m h1 x)).length = x.length ∨
     (Spec.idwt m g0 g1 (Spec.dwt m h0 x) (Spec.dwt m h1 x)).length = x.length + 1) := by
  have hmp : m ≠ .periodization := by rcases hm with rfl | rfl | rfl <;> decide
  have hlen : (Spec.idwt m g0 g1 (Spec.dwt m h0 x) (Spec.dwt m h1 x)).length = 2 * dwtCoeffLen x.length h0.length + 2 - h0.length := by
    rw [C10.idwt_length_all, if_neg hmp, C01.dwt_length m hm, hg0]
  have hu := unpad_length x.length h0.length hL hN
  refine ⟨?_, by rw [hlen]; exact hu⟩
  apply take_eq_of_getN
  · rw [hlen]; omega
  · intro t ht
    exact pr_padded m hmp h0 h1 g0 g1 x hL hh1 hg0 hg1 hpr t ht

theorem waverec_wavedec_succ (m : Mode) (h0 h1 g0 g1 : List R) (J : Nat) (x : List R) :
    Spec.waverec m g0 g1 (Spec.wavedec m h0 h1 (J+1) x).1 ((Spec.wavedec m h0 h1 (J+1) x).2.map some)
      = C10.stepS m g0 g1 (Spec.waverec m g0 g1 (Spec.wavedec m h0 h1 J (Spec.dwt m h0 x)).1
          ((Spec.wavedec m h0 h1 J (Spec.dwt m h0 x)).2.map some)) (some (Spec.dwt m h1 x)) := by
  simp only [Spec.wavedec, List.map_cons]
  rw [C10.waverec_eq_foldl, List.reverse_cons, List.foldl_append, ← C10.waverec_eq_foldl, List.foldl_cons, List.foldl_nil]

/-- the un-pad rule hands exactly `a` to the synthesis when the reconstruction so far starts with `a` and is at most one
sample longer -/
theorem stepS_of_take (m : Mode) (g0 g1 Rc a v : List R) (hv : v.length = a.length) (h1 : Rc.take a.length = a)
    (h2 : Rc.length = a.length ∨ Rc.length = a.length + 1) :
    C10.stepS m g0 g1 Rc (some v) = Spec.idwt m g0 g1 a v := by
  unfold C10.stepS
  simp only
  rcases h2 with e | e
  · rw [if_neg (by rw [e, hv]; omega)]
    have : Rc = a := by rw [← h1, ← e, List.take_length]
    rw [this]
  · rw [if_pos (by rw [e, hv])]
    have : Rc.take (Rc.length - 1) = a := by rw [← h1, e]; congr 1
    rw [this]

/-- the pyramid in any mode, from one level: if `idwt(dwt x)` starts with `x` and is at most one sample longer, so is
`waverec(wavedec(x))` for every J — at each level the one-sample-longer reconstruction is what the un-pad rule trims -/
theorem pyramid_pr_of (m : Mode) (h0 h1 g0 g1 : List R)
    (hlev : ∀ x : List R, 1 ≤ x.length →
      (Spec.dwt m h1 x).length = (Spec.dwt m h0 x).length ∧ 1 ≤ (Spec.dwt m h0 x).length ∧
      (Spec.idwt m g0 g1 (Spec.dwt m h0 x) (Spec.dwt m h1 x)).take x.length = x ∧
      ((Spec.idwt m g0 g1 (Spec.dwt m h0 x) (Spec.dwt m h1 x)).length = x.length ∨
       (Spec.idwt m g0 g1 (Spec.dwt m h0 x) (Spec.dwt m h1 x)).length = x.length + 1)) :
    ∀ (J : Nat) (x : List R), 1 ≤ x.length →
    (Spec.waverec m g0 g1 (Spec.wavedec m h0 h1 J x).1 ((Spec.wavedec m h0 h1 J x).2.map some)).take x.length = x ∧
    ((Spec.waverec m g0 g1 (Spec.wavedec m h0 h1 J x).1 ((Spec.wavedec m h0 h1 J x).2.map some)).length = x.length ∨
     (Spec.waverec m g0 g1 (Spec.wavedec m h0 h1 J x).1 ((Spec.wavedec m h0 h1 J x).2.map some)).length = x.length + 1) := by
  intro J
  induction J with
  | zero =>
    intro x hN
    simp [Spec.wavedec, Spec.waverec]
  | succ J ih =>
    intro x hN
    obtain ⟨hK1, hK0, hpr⟩ := hlev x hN
    obtain ⟨ih1, ih2⟩ := ih (Spec.dwt m h0 x) hK0
    rw [waverec_wavedec_succ, stepS_of_take m g0 g1 _ _ _ hK1 ih1 ih2]
    exact hpr

/-- `waverec(wavedec(x))` starts with `x` and is at most one sample longer, for every J -/
theorem pyramid_pr (m : Mode) (hm : m = .zero ∨ m = .symmetric ∨ m = .periodic) (h0 h1 g0 g1 : List R) (hL : 2 ≤ h0.length)
    (hh1 : h1.length = h0.length) (hg0 : g0.length = h0.length) (hg1 : g1.length = h0.length)
    (hpr : PRBank h0 h1 g0 g1) : ∀ (J : Nat) (x : List R), 1 ≤ x.length →
    (Spec.waverec m g0 g1 (Spec.wavedec m h0 h1 J x).1 ((Spec.wavedec m h0 h1 J x).2.map some)).take x.length = x ∧
    ((Spec.waverec m g0 g1 (Spec.wavedec m h0 h1 J x).1 ((Spec.wavedec m h0 h1 J x).2.map some)).length = x.length ∨
     (Spec.waverec m g0 g1 (Spec.wavedec m h0 h1 J x).1 ((Spec.wavedec m h0 h1 J x).2.map some)).length = x.length + 1) := by
  exact pyramid_pr_of m h0 h1 g0 g1 fun x hN =>
    ⟨by rw [C01.dwt_length m hm, C01.dwt_length m hm, hh1], by rw [C01.dwt_length m hm]; exact bandLen_pos x.length h0.length hL hN,
      level_pr m hm h0 h1 g0 g1 x hL hh1 hg0 hg1 hpr hN⟩

/-- admissibility of the pyramid of a signal, from one level: `C` is built from the level condition `OK` along `stepS`
(`hcons`), and under an invariant `P J x` ("`x` can go through `J` more levels") that passes to the approximation band,
the reconstruction of the coarser levels together with this level's detail band satisfies `OK` -/
theorem compat_wavedec_of (m : Mode) (h0 h1 g0 g1 : List R) (OK : List R → Option (List R) → Prop)
    (C : List R → List (Option (List R)) → Prop) (hnil : ∀ a, C a [])
    (hcons : ∀ a d rest, C a (d :: rest) ↔ OK a d ∧ C (C10.stepS m g0 g1 a d) rest) (P : Nat → List R → Prop)
    (hP : ∀ J x, P (J+1) x → P J (Spec.dwt m h0 x) ∧
      OK (Spec.waverec m g0 g1 (Spec.wavedec m h0 h1 J (Spec.dwt m h0 x)).1
        ((Spec.wavedec m h0 h1 J (Spec.dwt m h0 x)).2.map some)) (some (Spec.dwt m h1 x))) :
    ∀ (J : Nat) (x : List R), P J x →
      C (Spec.wavedec m h0 h1 J x).1 ((Spec.wavedec m h0 h1 J x).2.map some).reverse := by
  intro J
  induction J with
  | zero => intro x _; exact hnil _
  | succ J ih =>
    intro x hx
    obtain ⟨hnext, hok⟩ := hP J x hx
    simp only [Spec.wavedec, List.map_cons, List.reverse_cons]
    -- first the coarser levels (IH), then this level on their reconstruction
    apply compat_append (C10.stepS m g0 g1) OK C hcons _ _ _ (ih _ hnext)
    rw [← C10.waverec_eq_foldl]
    exact (hcons _ _ _).mpr ⟨hok, hnil _⟩

/-- the pyramid of a signal has the shapes the inverse accepts (`Compat`), at every level -/
theorem compat_wavedec (m : Mode) (hm : m = .zero ∨ m = .symmetric ∨ m = .periodic) (h0 h1 g0 g1 : List R) (hL : 2 ≤ h0.length)
    (hh1 : h1.length = h0.length) (hg0 : g0.length = h0.length) (hg1 : g1.length = h0.length)
    (hpr : PRBank h0 h1 g0 g1) : ∀ (J : Nat) (x : List R), 1 ≤ x.length →
    C10.Compat m g0 g1 (Spec.wavedec m h0 h1 J x).1 ((Spec.wavedec m h0 h1 J x).2.map some).reverse := by
  apply compat_wavedec_of m h0 h1 g0 g1 (C10.StepOK g0) (C10.Compat m g0 g1) (fun _ => trivial) (fun _ _ _ => Iff.rfl)
    (fun _ x => 1 ≤ x.length)
  intro J x hN
  have hK : (Spec.dwt m h0 x).length = dwtCoeffLen x.length h0.length := C01.dwt_length m hm h0 x
  have hKpos : 1 ≤ dwtCoeffLen x.length h0.length := bandLen_pos x.length h0.length hL hN
  obtain ⟨_, p2⟩ := pyramid_pr m hm h0 h1 g0 g1 hL hh1 hg0 hg1 hpr J (Spec.dwt m h0 x) (by rw [hK]; exact hKpos)
  refine ⟨by rw [hK]; exact hKpos, ?_⟩
  unfold C10.StepOK
  simp only
  rw [C01.dwt_length m hm h1 x, hh1]
  refine ⟨by rw [hK] at p2; exact p2, hKpos, ?_⟩
  rw [hg0]; exact dwtCoeffLen_fits x.length h0.length hL hN

/-- J-level perfect reconstruction of the implementation models: `DWT1DInverse(DWT1DForward(x))` returns, and its
result starts with `x` and has at most one extra trailing sample (as PyWavelets) — one channel `[x]`, every J, every
length ≥ 1, every bank with `PRBank`, modes zero / symmetric / periodic -/
theorem DWT1D_roundtrip (m : Mode) (hm : m = .zero ∨ m = .symmetric ∨ m = .periodic) (h0 h1 g0 g1 : List R) (hL : 2 ≤ h0.length)
    (hh1 : h1.length = h0.length) (hg0 : g0.length = h0.length) (hg1 : g1.length = h0.length)
    (hpr : PRBank h0 h1 g0 g1) (J : Nat) (x : List R) (hN : 1 ≤ x.length) :
    ∃ yl yh y, DWT1DForwardM m J h0 h1 [x] = some (yl, yh) ∧
      DWT1DInverse m g0 g1 yl (yh.map some) = some [y] ∧ y.take x.length = x ∧ (y.length = x.length ∨ y.length = x.length + 1) := by
  have hf := C01.DWT1DForward_eq_wavedec m hm h0 h1 hL (by omega) J x hN
  have hc := compat_wavedec m hm h0 h1 g0 g1 hL hh1 hg0 hg1 hpr J x hN
  have hi := C10.DWT1DInverse_eq_waverec m (C10.modeS_of hm) g0 g1 (by omega) (by omega) (Spec.wavedec m h0 h1 J x).1
    ((Spec.wavedec m h0 h1 J x).2.map some) hc
  obtain ⟨p1, p2⟩ := pyramid_pr m hm h0 h1 g0 g1 hL hh1 hg0 hg1 hpr J x hN
  refine ⟨_, _, _, hf, ?_, p1, p2⟩
  rw [map_some_map]
  exact hi

end WV.C02J
