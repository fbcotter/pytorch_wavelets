/-
  C05 — back-propagation through the J-level ONE-DIMENSIONAL inverse transform on EVERY number of channels `C ≥ 1` is the adjoint,
  channel by channel: the stack version of `C05V.loop_adjoint` (crops of the running low-pass stack, a zero appended to every channel
  of the low-pass gradient where the forward pass cropped), for any mode in which one level is adjoint on one channel
  (`loop_adjoint_channels`), instantiated in mode zero (`DWT1DInverse_zero_adjoint_channels`) and in periodization
  (`DWT1DInverse_per_adjoint_channels`) under the size conditions of `C05V.DWT1DInverse_zero_adjoint` /
  `C05V.DWT1DInverse_per_adjoint`.
-/
import WaveletsVerif.Properties.C05W
namespace WV.C05X
open Finset WV WV.C05D WV.C05P WV.C05U WV.C07M WV.C05V WV.C05W
variable {R : Type} [CommRing R]

/-- `SFB1D_adjoint_channels` together with the shapes of everything it returns -/
theorem SFB1D_adjoint_channels_shapes (m : Mode) (g0 g1 : List R) (Fit : Nat → Prop) (Out : Nat → Nat) (hA : LevelAdjS m g0 g1 Fit Out)
    (K : Nat) (hK : Fit K) (los his dys : List (List R)) (hl0 : his.length = los.length) (hl1 : dys.length = los.length)
    (hb : ∀ c < los.length, (los.getD c []).length = K ∧ (his.getD c []).length = K)
    (hd : ∀ c < los.length, (dys.getD c []).length = Out K) :
    ∃ ys dlos dhis, SFB1D_forward m g0 g1 los his = some ys ∧ SFB1D_backward m g0 g1 dys = some (dlos, dhis) ∧
      ys.length = los.length ∧ dlos.length = los.length ∧ dhis.length = los.length ∧
      (∀ c < los.length, (ys.getD c []).length = Out K ∧ (dlos.getD c []).length = K ∧ (dhis.getD c []).length = K) ∧
      ∀ c < los.length, dotN (Out K) (dys.getD c []) (ys.getD c [])
        = dotN K (dlos.getD c []) (los.getD c []) + dotN K (dhis.getD c []) (his.getD c []) := by
  have hf := fun c (hc : c < los.length) => hA.fwd (hb c hc).1 (hb c hc).2 hK (hd c hc)
  have hg := fun c (hc : c < los.length) => hA.bwd hK (hd c hc)
  refine ⟨_, _, _, SFB1D_forward_channels m g0 g1 los his (sfbV m g0 g1) hl0 fun c hc => (hf c hc).1,
    SFB1D_backward_val hA hK dys fun c hc => hd c (by rw [← hl1]; exact hc), length_tab _ _, (length_tab _ _).trans hl1,
    (length_tab _ _).trans hl1, ?_, ?_⟩
  · intro c hc
    rw [getD_tab, getD_tab, getD_tab, if_pos hc, if_pos (by rw [hl1]; exact hc), if_pos (by rw [hl1]; exact hc)]
    exact ⟨(hf c hc).2.1, (hg c hc).2.2.1, (hg c hc).2.2.2⟩
  · intro c hc
    rw [getD_tab, getD_tab, getD_tab, if_pos hc, if_pos (by rw [hl1]; exact hc), if_pos (by rw [hl1]; exact hc)]
    exact (hf c hc).2.2

/-- the chain of `SFB1D.backward` passes on a stack of channels -/
def DWT1DInverseBackwardC (m : Mode) (g0 g1 : List R) : List Bool → List (List R) → Option (List (List R) × List (List (List R)))
  | [], dys => some (dys, [])
  | c :: fl, dys => do
    let r ← SFB1D_backward m g0 g1 dys
    let (gls, rest) ← DWT1DInverseBackwardC m g0 g1 fl (if c then r.1.map (· ++ [0]) else r.1)
    some (gls, r.2 :: rest)

def BandsOKC (C : Nat) : List Nat → List (List (List R)) → Prop
  | [], [] => True
  | K :: ks, b :: bs => b.length = C ∧ (∀ c < C, (b.getD c []).length = K) ∧ BandsOKC C ks bs
  | _, _ => False

def bandsDotC (c : Nat) : List Nat → List (List (List R)) → List (List (List R)) → R
  | K :: ks, b :: bs, d :: ds => dotN K (d.getD c []) (b.getD c []) + bandsDotC c ks bs ds
  | _, _, _ => 0

/-- one step of the loop on a stack of `C ≥ 1` channels of length `Z`, band-pass channels of length `K`: every channel of the running
low-pass is cropped as in the one-channel loop (the module decides by channel 0), then the stack is synthesised -/
theorem DWT1DInverse_step_crop (m : Mode) (g0 g1 : List R) (Zs b : List (List R)) (C Z K : Nat) (hC : 1 ≤ C) (hZl : Zs.length = C)
    (hZ : ∀ c < C, (Zs.getD c []).length = Z) (hb : ∀ c < C, (b.getD c []).length = K) :
    ∃ Zc, DWT1DInverse_step m g0 g1 Zs (some b) = SFB1D_forward m g0 g1 Zc b ∧ Zc.length = C ∧
      ∀ c < C, Zc.getD c [] = if (Zs.getD c []).length > K then (Zs.getD c []).take ((Zs.getD c []).length - 1) else Zs.getD c [] := by
  refine ⟨if (Zs.headD []).length > (b.headD []).length then Zs.map (fun ch => ch.take (ch.length - 1)) else Zs, ?_, ?_, ?_⟩
  · unfold DWT1DInverse_step
    rfl
  · split
    · rw [List.length_map, hZl]
    · exact hZl
  · intro c hc
    rw [headD_eq_getD, headD_eq_getD, hZ 0 hC, hb 0 hC, getD_ite_map _ _ Zs c (by rw [hZl]; exact hc), hZ c hc]

/-- back-propagation through the J-level `DWT1DInverse` on `C ≥ 1` channels is the adjoint, channel by channel -/
theorem loop_adjoint_channels (m : Mode) (g0 g1 : List R) (Fit : Nat → Prop) (Out : Nat → Nat) (hA : LevelAdjS m g0 g1 Fit Out)
    (C : Nat) (hC : 1 ≤ C) :
    ∀ (ks : List Nat) (A : Nat) (yls : List (List R)) (bss : List (List (List R))) (dys : List (List R)),
    SizesOK1 Fit Out ks A → yls.length = C → (∀ c < C, (yls.getD c []).length = A) → BandsOKC C ks bss →
    dys.length = C → (∀ c < C, (dys.getD c []).length = outSize1 Out ks A) →
    ∃ ys gls dss, DWT1DInverse m g0 g1 yls (bss.map fun b => some b) = some ys ∧ ys.length = C ∧
      (∀ c < C, (ys.getD c []).length = outSize1 Out ks A) ∧
      DWT1DInverseBackwardC m g0 g1 (flags1 Out ks A) dys = some (gls, dss) ∧ gls.length = C ∧ (∀ c < C, (gls.getD c []).length = A) ∧
      ∀ c < C, dotN (outSize1 Out ks A) (dys.getD c []) (ys.getD c []) = dotN A (gls.getD c []) (yls.getD c []) + bandsDotC c ks bss dss := by
  intro ks
  induction ks with
  | nil =>
    intro A yls bss dys _ hyl hyA hb hdl hdA
    cases bss with
    | cons b bs => exact absurd hb (by simp [BandsOKC])
    | nil =>
      refine ⟨yls, dys, [], rfl, hyl, hyA, rfl, hdl, hdA, ?_⟩
      intro c _
      simp only [outSize1, bandsDotC, add_zero]
  | cons K ks ih =>
    intro A yls bss dys hs hyl hyA hb hdl hdA
    cases bss with
    | nil => exact absurd hb (by simp [BandsOKC])
    | cons b bs =>
      obtain ⟨hbl, hbK, hbr⟩ := hb
      obtain ⟨hsr, hfit, hz⟩ := hs
      simp only [outSize1] at hdA ⊢
      subst hdl
      -- this level's backward pass and the zero-extended low-pass gradients
      have hg := fun c (hc : c < dys.length) => hA.bwd hfit (hdA c hc)
      have hpad := fun c (hc : c < dys.length) => getD_ite_map (decide (outSize1 Out ks A > K) = true) (· ++ [(0 : R)])
        (tab dys.length fun c => afbV m g0 (dys.getD c [])) c (by rw [length_tab]; exact hc) []
      obtain ⟨Zs, gls, dss, hfold, lZs, lZc, hbw, lgls, lglc, hid'⟩ := ih A yls bs
        (if decide (outSize1 Out ks A > K) = true then (tab dys.length fun c => afbV m g0 (dys.getD c [])).map (· ++ [0])
          else tab dys.length fun c => afbV m g0 (dys.getD c [])) hsr hyl hyA hbr
        (by split <;> simp only [List.length_map, length_tab])
        (fun c hc => by rw [hpad c hc, getD_tab, if_pos hc]; exact length_pad1 _ K _ (hg c hc).2.2.1 hz)
      -- this level applied to the cropped running low-pass
      obtain ⟨Zc, hstep, lZc', hZc⟩ := DWT1DInverse_step_crop m g0 g1 Zs b dys.length _ K hC lZs lZc hbK
      have hf := fun c (hc : c < dys.length) => hA.fwd (lo := Zc.getD c []) (hi := b.getD c []) (dy := dys.getD c [])
        (by rw [hZc c hc]; exact length_crop1 _ K _ (lZc c hc) hz) (hbK c hc) hfit (hdA c hc)
      refine ⟨tab Zc.length fun c => sfbV m g0 g1 (Zc.getD c []) (b.getD c []), gls,
        (tab dys.length fun c => afbV m g1 (dys.getD c [])) :: dss, ?_, (length_tab _ _).trans lZc', ?_, ?_, lgls, lglc, ?_⟩
      · rw [List.map_cons, DWT1DInverse_cons, hfold, Option.bind_some, hstep]
        exact SFB1D_forward_channels m g0 g1 Zc b (sfbV m g0 g1) (hbl.trans lZc'.symm) fun c hc => (hf c (by rw [← lZc']; exact hc)).1
      · intro c hc
        rw [getD_tab, if_pos (by rw [lZc']; exact hc)]
        exact (hf c hc).2.1
      · simp only [flags1, DWT1DInverseBackwardC, SFB1D_backward_val hA hfit dys hdA, Option.bind_eq_bind, Option.bind_some, hbw]
      · intro c hc
        have := hid' c hc
        rw [hpad c hc, getD_tab, if_pos hc] at this
        rw [getD_tab, if_pos (by rw [lZc']; exact hc), (hf c hc).2.2, hZc c hc,
          crop_adjoint1 (Zs.getD c []) _ K _ (lZc c hc) (hg c hc).2.2.1 hz, this]
        simp only [bandsDotC, getD_tab, if_pos hc]
        ring

/-- mode zero, every channel count `C ≥ 1`, crops included -/
theorem DWT1DInverse_zero_adjoint_channels (g0 g1 : List R) (hL : 2 ≤ g0.length) (hg : g1.length = g0.length) (C : Nat) (hC : 1 ≤ C)
    (ks : List Nat) (A : Nat) (yls : List (List R)) (bss : List (List (List R))) (dys : List (List R))
    (hs : SizesOK1 (fun K => 1 ≤ K ∧ g0.length ≤ 2 * K + 1) (fun K => 2 * K + 2 - g0.length) ks A)
    (hyl : yls.length = C) (hyA : ∀ c < C, (yls.getD c []).length = A) (hb : BandsOKC C ks bss) (hdl : dys.length = C)
    (hdA : ∀ c < C, (dys.getD c []).length = outSize1 (fun K => 2 * K + 2 - g0.length) ks A) :
    ∃ ys gls dss, DWT1DInverse .zero g0 g1 yls (bss.map fun b => some b) = some ys ∧ ys.length = C ∧
      (∀ c < C, (ys.getD c []).length = outSize1 (fun K => 2 * K + 2 - g0.length) ks A) ∧
      DWT1DInverseBackwardC .zero g0 g1 (flags1 (fun K => 2 * K + 2 - g0.length) ks A) dys = some (gls, dss) ∧ gls.length = C ∧
      (∀ c < C, (gls.getD c []).length = A) ∧
      ∀ c < C, dotN (outSize1 (fun K => 2 * K + 2 - g0.length) ks A) (dys.getD c []) (ys.getD c [])
        = dotN A (gls.getD c []) (yls.getD c []) + bandsDotC c ks bss dss :=
  loop_adjoint_channels .zero g0 g1 _ _ (levelAdjS_zero g0 g1 hL hg) C hC ks A yls bss dys hs hyl hyA hb hdl hdA

/-- periodization, every channel count `C ≥ 1` -/
theorem DWT1DInverse_per_adjoint_channels (g0 g1 : List R) (hL : 2 ≤ g0.length) (hLe : g0.length % 2 = 0) (hg : g1.length = g0.length)
    (C : Nat) (hC : 1 ≤ C) (ks : List Nat) (A : Nat) (yls : List (List R)) (bss : List (List (List R))) (dys : List (List R))
    (hs : SizesOK1 (fun K => g0.length ≤ 2 * K) (fun K => 2 * K) ks A)
    (hyl : yls.length = C) (hyA : ∀ c < C, (yls.getD c []).length = A) (hb : BandsOKC C ks bss) (hdl : dys.length = C)
    (hdA : ∀ c < C, (dys.getD c []).length = outSize1 (fun K => 2 * K) ks A) :
    ∃ ys gls dss, DWT1DInverse .periodization g0 g1 yls (bss.map fun b => some b) = some ys ∧ ys.length = C ∧
      (∀ c < C, (ys.getD c []).length = outSize1 (fun K => 2 * K) ks A) ∧
      DWT1DInverseBackwardC .periodization g0 g1 (flags1 (fun K => 2 * K) ks A) dys = some (gls, dss) ∧ gls.length = C ∧
      (∀ c < C, (gls.getD c []).length = A) ∧
      ∀ c < C, dotN (outSize1 (fun K => 2 * K) ks A) (dys.getD c []) (ys.getD c [])
        = dotN A (gls.getD c []) (yls.getD c []) + bandsDotC c ks bss dss :=
  loop_adjoint_channels .periodization g0 g1 _ _ (levelAdjS_per g0 g1 hL hLe hg) C hC ks A yls bss dys hs hyl hyA hb hdl hdA

/-- non-vacuity of hypothesis `hb` (`BandsOKC`) of `DWT1DInverse_zero_adjoint_channels`: two channels, band lengths 5 and 4 (finest first) -/
example : BandsOKC 2 [5, 4] ([[[1, 2, 3, 4, 5], [5, 4, 3, 2, 1]], [[1, 2, 3, 4], [4, 3, 2, 1]]] : List (List (List Int))) := by
  refine ⟨rfl, ?_, rfl, ?_, trivial⟩ <;> decide

end WV.C05X
