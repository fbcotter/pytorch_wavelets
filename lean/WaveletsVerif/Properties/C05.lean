/-
  C05 — DWT back-propagation is the exact adjoint.

  Adjointness is stated as an inner-product identity (no matrices):
  `⟨forward x, g⟩ = ⟨x, backward g⟩` for every signal `x` and cotangent `g`.
  Proved here in one dimension on one channel: for `AFB1D` and `SFB1D` in mode `zero`
  (every signal length `N ≥ 1`, every filter length `L ≥ 2`, both filters of one length,
  any commutative ring; synthesis side with `L ≤ 2n + 1` for `n` coefficients per band)
  and for `AFB1D` in periodization (every length `N ≥ 1`, even filter lengths that fit the
  even-extended signal, `L ≤ N + N % 2`).  For symmetric / reflect / periodic the model's
  `AFB1D.backward` is the same map as in mode `zero` (`sfb1dCh` and `foldCrop` depend on the
  mode only through periodization), i.e. the adjoint of the *zero-padded* bank and not of the
  forward map, and `SFB1D.backward` runs the analysis bank with the mode's signal extension
  although the synthesis never pads: these are the known findings
  C05-afb-backward-padded-modes / C05-sfb-backward-padded-modes (a witness for `AFB1D` in mode
  symmetric is below).
-/
import WaveletsVerif.Lemmas.Circ
import WaveletsVerif.Lemmas.FoldCrop
import WaveletsVerif.Properties.C01
import WaveletsVerif.Properties.C10
namespace WV.C05
open Finset WV
variable {R : Type} [CommRing R]

/-- the core of every gradient statement: a strided correlation and the transposed
convolution with the same taps are mutual adjoints.  The number of coefficients is a parameter `K` tied to `g.length`
by `hK`, so that the lemma rewrites sums over `range K` whatever expression `K` is written as. -/
theorem corr_convT_adjoint (w x g : List R) (P : Nat) (K : Nat) (hK : K = g.length) :
    ∑ k ∈ range K, getN g k * (∑ j ∈ range w.length, getN w j * getZ x ((2*k + j : Nat) - (P:Int)))
      = ∑ i ∈ range x.length, getN x i * (∑ k ∈ range K, getN g k * getZ w ((i:Int) + P - 2*k)) := by
  subst hK
  have h : ∀ k ∈ range g.length, getN g k * (∑ j ∈ range w.length, getN w j * getZ x ((2*k + j : Nat) - (P:Int)))
      = ∑ i ∈ range x.length, getN g k * (getN x i * getZ w ((i:Int) + P - 2*k)) := by
    intro k _
    have e : ∀ j ∈ range w.length, getN w j * getZ x (((2*k + j : Nat):Int) - (P:Int))
        = getN w j * getZ x ((j:Int) + (2*(k:Int) - P)) := by
      intro j _; congr 2; push_cast; ring
    rw [Finset.sum_congr rfl e, reindex, Finset.mul_sum]
    apply Finset.sum_congr rfl; intro i _
    congr 3; ring
  rw [Finset.sum_congr rfl h, Finset.sum_comm]
  apply Finset.sum_congr rfl; intro i _
  rw [Finset.mul_sum]
  apply Finset.sum_congr rfl; intro k _
  ring

/-- the value `afb1d` computes in mode `zero` for one filter -/
def afbZeroVal (w x : List R) : List R :=
  let p := 2 * (dwtCoeffLen x.length w.length - 1) + w.length - x.length
  corr w (zeroPad (if p % 2 = 1 then zeroPad x 0 1 else x) (p/2) (p/2)) 2 1

theorem afb1dOne_zero_val (w x : List R) (hL : 2 ≤ w.length) (hN : 1 ≤ x.length) :
    afb1dOne .zero w x = some (afbZeroVal w x) := by
  simp only [afb1dOne, afbZeroVal, afb_guard hL hN, if_false]

theorem afbZeroVal_length (w x : List R) (hL : 2 ≤ w.length) (hN : 1 ≤ x.length) :
    (afbZeroVal w x).length = dwtCoeffLen x.length w.length := by
  obtain ⟨hD, _, hsum⟩ := afb_pad_spec x.length w.length hL hN
  simp only [afbZeroVal]
  rw [corr_length, length_zeroPad_split, hsum, corrLen_two _ _ hD (Nat.le_of_succ_le hL)]

theorem afbZeroVal_get (w x : List R) (hL : 2 ≤ w.length) (hN : 1 ≤ x.length) (k : Nat)
    (hk : k < dwtCoeffLen x.length w.length) :
    getN (afbZeroVal w x) k
      = ∑ j ∈ range w.length, getN w j * getZ x ((2*k + j : Nat) - ((w.length - 2 : Nat):Int)) := by
  obtain ⟨_, hhalf, _⟩ := afb_pad_spec x.length w.length hL hN
  have hlen := afbZeroVal_length w x hL hN
  simp only [afbZeroVal] at hlen ⊢
  rw [corr_length] at hlen
  rw [getN_corr2 _ _ k (by rw [hlen]; exact hk)]
  apply Finset.sum_congr rfl; intro j _
  rw [getZ_zeroPad_split, hhalf]

/-- one filter, mode `zero`: `⟨afb1d(x), g⟩ = ⟨x, conv_transpose(g) cropped by L−2⟩` for every
nonempty signal, every filter of length `L ≥ 2` and every cotangent of the coefficient length
`dwtCoeffLen N L` — the code's backward (`sfb1d` + crop) is the exact adjoint -/
theorem afb_zero_adjoint_one (w x g : List R) (hL : 2 ≤ w.length) (hN : 1 ≤ x.length)
    (hg : g.length = dwtCoeffLen x.length w.length) :
    ∑ k ∈ range g.length, getN (afbZeroVal w x) k * getN g k
      = ∑ i ∈ range x.length, getN x i * getN (convT w g (w.length - 2)) i := by
  have hK : ∀ k ∈ range g.length, getN (afbZeroVal w x) k * getN g k
      = getN g k * ∑ j ∈ range w.length, getN w j * getZ x ((2*k + j : Nat) - ((w.length - 2 : Nat):Int)) := by
    intro k hk
    rw [afbZeroVal_get w x hL hN k (by rw [← hg]; exact mem_range.mp hk), mul_comm]
  rw [Finset.sum_congr rfl hK, corr_convT_adjoint w x g (w.length - 2) g.length rfl]
  apply Finset.sum_congr rfl; intro i hi
  rw [getN_convT _ _ _ _ (by rw [hg]; exact Nat.lt_of_lt_of_le (mem_range.mp hi) (bandLen_le_synth _ _ hL hN))]

/-- in mode `zero` the crop is `P = L−2`: `K = dwtCoeffLen N L` coefficients are synthesised to `2(K−1)+L−2(L−2) ≥ N`
samples (`bandLen_le_synth`) -/
theorem convT_length (w g : List R) (P : Nat) : (convT w g P).length = 2 * (g.length - 1) + w.length - 2 * P := by
  simp only [convT, convTFull, length_tab]

theorem sfb1dCh_zero_val (w0 w1 a b : List R) (hL : 2 ≤ w0.length) (hw : w1.length = w0.length) (hn : 1 ≤ a.length)
    (hb : b.length = a.length) (hfit : w0.length ≤ 2 * a.length + 1) :
    sfb1dCh .zero w0 w1 a b = some (vadd (convT w0 a (w0.length - 2)) (convT w1 b (w0.length - 2))) := by
  have hfit' : ¬ (2 * (a.length - 1) + w0.length < 2 * (w0.length - 2) + 1) := by omega
  simp only [sfb1dCh, C10.sfb_guard hL hw hn hb, hfit', if_false]

theorem dot_comm (n : Nat) (u v : List R) :
    ∑ k ∈ range n, getN u k * getN v k = ∑ k ∈ range n, getN v k * getN u k :=
  Finset.sum_congr rfl fun _ _ => mul_comm _ _

/-- both filters of a bank in mode `zero`, as functions of lists of the right lengths: the two analysis outputs paired with
`a` and `b` are the signal paired with the sum of the two transposed convolutions.  Analysis side (`AFB1D`) and synthesis
side (`SFB1D`) are both this identity, read in one direction or the other. -/
theorem pair_zero_adjoint (w0 w1 : List R) (hL : 2 ≤ w0.length) (hw : w1.length = w0.length) (N K : Nat) (hN : 1 ≤ N)
    (hK : K = dwtCoeffLen N w0.length) (c a b : List R) (hc : c.length = N) (ha : a.length = K) (hb : b.length = K) :
    (∑ k ∈ range K, getN (afbZeroVal w0 c) k * getN a k) + (∑ k ∈ range K, getN (afbZeroVal w1 c) k * getN b k)
      = ∑ i ∈ range N, getN c i * getN (vadd (convT w0 a (w0.length - 2)) (convT w1 b (w0.length - 2))) i := by
  subst hc ha
  have e0 := afb_zero_adjoint_one w0 c a hL hN hK
  have e1 := afb_zero_adjoint_one w1 c b (by omega) hN (by rw [hb, hK, hw])
  rw [hb] at e1
  rw [e0, e1, hw, ← Finset.sum_add_distrib]
  apply Finset.sum_congr rfl; intro i hi
  have hi' : i < c.length := mem_range.mp hi
  have hlen : c.length ≤ (convT w0 a (w0.length - 2)).length := by
    rw [convT_length, hK]; exact bandLen_le_synth _ _ hL hN
  rw [getN_vadd _ _ _ (by omega), mul_add]

theorem pair_zero_adjoint_crop (w0 w1 : List R) (hL : 2 ≤ w0.length) (hw : w1.length = w0.length) (N K : Nat) (hN : 1 ≤ N)
    (hK : K = dwtCoeffLen N w0.length) (c a b : List R) (hc : c.length = N) (ha : a.length = K) (hb : b.length = K) :
    (∑ k ∈ range K, getN (afbZeroVal w0 c) k * getN a k) + (∑ k ∈ range K, getN (afbZeroVal w1 c) k * getN b k)
      = ∑ i ∈ range N, getN c i
          * getN (foldCrop .zero N (vadd (convT w0 a (w0.length - 2)) (convT w1 b (w0.length - 2)))) i := by
  rw [pair_zero_adjoint w0 w1 hL hw N K hN hK c a b hc ha hb]
  apply Finset.sum_congr rfl; intro i hi
  have hlen : N ≤ (vadd (convT w0 a (w0.length - 2)) (convT w1 b (w0.length - 2))).length := by
    simp only [vadd, length_tab, convT_length]; rw [ha, hK]; exact bandLen_le_synth N _ hL hN
  rw [getN_foldCrop_zero N _ hlen i (mem_range.mp hi)]

/-- `AFB1D.backward` in mode `zero` (both filters, crop to the input length) is the adjoint of
`AFB1D.forward`: `⟨lo, g0⟩ + ⟨hi, g1⟩ = ⟨x, dx⟩`. -/
theorem afb_zero_adjoint (w0 w1 x g0 g1 : List R) (hL : 2 ≤ w0.length) (hw : w1.length = w0.length)
    (hN : 1 ≤ x.length) (h0 : g0.length = dwtCoeffLen x.length w0.length) (h1 : g1.length = g0.length) :
    ∃ lo hi d, afb1dOne .zero w0 x = some lo ∧ afb1dOne .zero w1 x = some hi ∧
      sfb1dCh .zero w0 w1 g0 g1 = some d ∧
      (∑ k ∈ range g0.length, getN lo k * getN g0 k) + (∑ k ∈ range g1.length, getN hi k * getN g1 k)
        = ∑ i ∈ range x.length, getN x i * getN (foldCrop .zero x.length d) i := by
  refine ⟨_, _, _, afb1dOne_zero_val w0 x hL hN, afb1dOne_zero_val w1 x (by omega) hN,
    sfb1dCh_zero_val w0 w1 g0 g1 hL hw (by rw [h0]; exact bandLen_pos _ _ hL hN) h1
      (by rw [h0]; exact bandLen_fit _ _ hL hN), ?_⟩
  rw [h1]
  exact pair_zero_adjoint_crop w0 w1 hL hw x.length g0.length hN h0 x g0 g1 rfl rfl h1

/-- `SFB1D.backward` in mode `zero` — `afb1d(dy, g0, g1)` with the synthesis filters used as they are —
is the adjoint of `SFB1D.forward` (two transposed convolutions cropped by `L−2`):
`⟨sfb(lo, hi), dy⟩ = ⟨lo, dlow⟩ + ⟨hi, dhigh⟩` for every `lo, hi, dy` of matching lengths
(`lo` nonempty, `L ≤ 2·lo.length + 1`, `dy` of the output length `2·lo.length + 2 − L`). -/
theorem sfb_zero_adjoint (g0 g1 lo hi dy : List R) (hL : 2 ≤ g0.length) (hg : g1.length = g0.length)
    (hn : 1 ≤ lo.length) (hh : hi.length = lo.length)
    (hfit : g0.length ≤ 2 * lo.length + 1)
    (hdy : dy.length = 2 * lo.length + 2 - g0.length) :
    ∃ y dlow dhigh, sfb1dCh .zero g0 g1 lo hi = some y ∧ afb1dOne .zero g0 dy = some dlow ∧
      afb1dOne .zero g1 dy = some dhigh ∧
      ∑ i ∈ range dy.length, getN y i * getN dy i
        = (∑ k ∈ range lo.length, getN lo k * getN dlow k) + (∑ k ∈ range hi.length, getN hi k * getN dhigh k) := by
  have hN : 1 ≤ dy.length := by omega
  refine ⟨_, _, _, sfb1dCh_zero_val g0 g1 lo hi hL hg hn hh hfit, afb1dOne_zero_val g0 dy hL hN,
    afb1dOne_zero_val g1 dy (by omega) hN, ?_⟩
  rw [hh, dot_comm _ _ dy, dot_comm _ lo, dot_comm _ hi]
  exact (pair_zero_adjoint g0 g1 hL hg dy.length lo.length hN (by unfold dwtCoeffLen; omega) dy lo hi rfl rfl hh).symm

/-- non-vacuity of `afb_zero_adjoint_one`: the filter `[1, 1]`, a signal of length 5 and a cotangent of length
`3 = dwtCoeffLen 5 2` meet its three hypotheses -/
example : (2 ≤ ([1, 1] : List Int).length) ∧ (1 ≤ ([3, 1, 4, 1, 5] : List Int).length) ∧
    ([7, 8, 9] : List Int).length = dwtCoeffLen 5 2 := by decide

/-- known finding, witnessed on integers: in mode `symmetric` the model's backward (`sfb1d` + crop,
what `AFB1D.backward` does) is NOT the adjoint of the forward map: `⟨A e₀, g⟩ ≠ ⟨e₀, backward g⟩`
for the filter `[1,2,3,4]`, unit impulse `e₀` of length 6 and `g = (1,0,0,0)` on the low band. -/
example :
    (afb1dOne .symmetric [1,2,3,4] ([1,0,0,0,0,0] : List Int)).map (fun y => getN y 0)
      ≠ (sfb1dCh .symmetric [1,2,3,4] [1,2,3,4] ([1,0,0,0] : List Int) [0,0,0,0]).map
          (fun d => getN (foldCrop .symmetric 6 d) 0) := by decide

/-- periodization, both filters (of one even length `L ≥ 2`), as functions of lists of the right lengths, every length `N` with `n = ⌈N/2⌉` coefficients per
band: the two analysis outputs paired with `a` and `b` are the signal paired with the folded and cropped synthesis of `(a, b)`
with the reversed filters.  For odd `N` the transform sees `c` with its last sample repeated (`2n = N + 1` samples), and the
fold adds the gradient of the repeated sample to the last one. -/
theorem pair_per_adjoint (h0 h1 : List R) (hL : 2 ≤ h0.length) (hLe : h0.length % 2 = 0) (hh1 : h1.length = h0.length)
    (N n : Nat) (hn : 1 ≤ n) (hNn : N = 2 * n ∨ N + 1 = 2 * n) (c a b : List R) (hc : c.length = N) (ha : a.length = n) :
    (∑ k ∈ range n, getN (Spec.dwt .periodization h0 c) k * getN a k)
      + (∑ k ∈ range n, getN (Spec.dwt .periodization h1 c) k * getN b k)
      = ∑ i ∈ range N, getN c i
          * getN (foldCrop .periodization N (Spec.idwt .periodization h0.reverse h1.reverse a b)) i := by
  set y := Spec.idwt .periodization h0.reverse h1.reverse a b with hy
  have hylen : y.length = 2 * n := by rw [hy]; simp only [Spec.idwt, length_tab, ha]
  rcases hNn with rfl | hodd
  · have ht := WV.per_synthesis_is_transpose h0 h1 c a b n hn hc ha hL hLe hh1
    rw [dot_comm n _ a, dot_comm n _ b, ← ht, foldCrop_id _ _ y (by omega)]
  -- odd `N = M + 1`: the even case on `c ++ [c_M]` (same coefficients, `dwt_per_odd`); the two last terms `c_M·y_M + c_M·y_{M+1}`
  -- of its right side are the last term `c_M·(y_M + y_{M+1})` of the folded sum
  · obtain ⟨M, rfl⟩ : ∃ M, N = M + 1 := ⟨N - 1, by omega⟩
    have hcl : (c ++ [getN c M]).length = 2 * n := by rw [List.length_append, hc, List.length_singleton, hodd]
    have hd : ∀ h : List R, Spec.dwt .periodization h c = Spec.dwt .periodization h (c ++ [getN c M]) := by
      intro h
      rw [dwt_per_odd h c (by omega), hc, Nat.add_sub_cancel]
    have hci : ∀ i < M + 1, getN (c ++ [getN c M]) i = getN c i := by
      intro i hi
      rw [getN_append, if_pos (by rw [hc]; exact hi)]
    have hclast : getN (c ++ [getN c M]) (M + 1) = getN c M := by
      rw [getN_append, hc, if_neg (Nat.lt_irrefl _), Nat.sub_self]
      rfl
    have ht := WV.per_synthesis_is_transpose h0 h1 (c ++ [getN c M]) a b n hn hcl ha hL hLe hh1
    have hs : ∑ i ∈ range M, getN c i * getN (foldCrop .periodization (M + 1) y) i
        = ∑ i ∈ range M, getN (c ++ [getN c M]) i * getN y i := by
      apply Finset.sum_congr rfl; intro i hi
      have hi' : i < M := mem_range.mp hi
      rw [hci i (by omega), getN_foldCrop_per _ _ i (by omega), if_neg (by omega)]
    rw [hd h0, hd h1, dot_comm n _ a, dot_comm n _ b, ← ht, ← hodd, Finset.sum_range_succ, Finset.sum_range_succ,
      Finset.sum_range_succ _ M, hs, hclast, hci M (by omega), getN_foldCrop_per _ _ M (by omega),
      if_pos ⟨by omega, rfl⟩]
    ring

/-- `AFB1D.backward` is the adjoint of `AFB1D.forward` in periodization mode, every length `N ≥ 1` (odd included: the gradient of
the repeated last sample is folded back by `foldCrop`), every even filter length `L ≤ N + N % 2`, with
`⌈N/2⌉ = (N + N % 2) / 2` coefficients per band. -/
theorem afb_per_adjoint (h0 h1 x g0 g1 : List R) (hL : 2 ≤ h0.length) (hLe : h0.length % 2 = 0)
    (hh1 : h1.length = h0.length) (hN : 1 ≤ x.length) (hLN : h0.length ≤ x.length + x.length % 2)
    (hg0 : g0.length = (x.length + x.length % 2) / 2) (hg1 : g1.length = g0.length) :
    ∃ lo hi d, afb1dOne .periodization h0.reverse x = some lo ∧ afb1dOne .periodization h1.reverse x = some hi ∧
      sfb1dCh .periodization h0.reverse h1.reverse g0 g1 = some d ∧
      (∑ k ∈ range g0.length, getN lo k * getN g0 k) + (∑ k ∈ range g1.length, getN hi k * getN g1 k)
        = ∑ i ∈ range x.length, getN x i * getN (foldCrop .periodization x.length d) i := by
  refine ⟨_, _, _, C01.afb1dOne_per_eq_dwt_partial_all h0 x hLe hL hN hLN,
    C01.afb1dOne_per_eq_dwt_partial_all h1 x (by rw [hh1]; exact hLe) (by rw [hh1]; exact hL) hN (by rw [hh1]; exact hLN),
    C10.sfb1dCh_per_eq_idwt_partial h0.reverse h1.reverse g0 g1 (by rw [List.length_reverse]; exact hL)
      (by rw [List.length_reverse, List.length_reverse, hh1]) (by rw [hg0]; exact halfUp_pos _ hN) hg1
      (by rw [List.length_reverse, hg0]; omega), ?_⟩
  rw [hg1]
  exact pair_per_adjoint h0 h1 hL hLe hh1 x.length g0.length (hg0 ▸ halfUp_pos _ hN)
    (hg0 ▸ (two_mul_halfUp x.length).imp Eq.symm Eq.symm) x g0 g1 rfl rfl

end WV.C05
