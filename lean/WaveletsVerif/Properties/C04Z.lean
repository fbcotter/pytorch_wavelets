/-
  The size logic of `DTCWTInverse.forward` and of the scattering modules, tied to the source by translation.

  `Gen/Sizes.lean` (regenerated on every run) holds, read from `dtcwt/transform2d.py` and `scatternet/layers.py` at fixed statement
  shapes: the two tests `r != r1 * 2` / `c != c1 * 2` and the four crops `low = low[..., 1:-1]` of the inverse (inside the level loop
  and before level 1), the odd-size tests of `ScatLayer.forward` and the channel counts of the two final `view`s.  The theorems
  restate the hand-written model (`cropToHighs`, the parity tests of `extendEven`, the channel count of `scatJ1`) with them, for
  all sizes; the `49C` of the second-order `view` is only put in closed form.
-/
import WaveletsVerif.Gen.Sizes
import WaveletsVerif.Properties.C08
namespace WV.C04Z
open WV WV.Gen.Sizes
variable {R : Type} [CommRing R]

/-- the crop of the inverse's low-pass, written with the generated tests and slice bounds (loop copy) -/
def cropGen (from_r to_r from_c to_c : Int) (ll : Img R) (r1 c1 : Nat) : Img R :=
  let ll1 : Img R := if (ll.length : Int) ≠ (r1 : Int) * 2 then slice ll from_r to_r else ll
  if (ll1.width : Int) ≠ (c1 : Int) * 2 then ll1.map (fun r => slice r from_c to_c) else ll1

/-- `cropToHighs` with the tests and slice bounds read from the source, for the copy inside the level loop and the copy before
level 1; both copies test and crop alike, rows on axis 2 and columns on axis 3 -/
theorem cropToHighs_gen (ll : Img R) (r1 c1 : Nat) :
    cropToHighs ll r1 c1 = cropGen dtcwt_inv_crop_from_rows_loop dtcwt_inv_crop_to_rows_loop dtcwt_inv_crop_from_cols_loop dtcwt_inv_crop_to_cols_loop ll r1 c1 ∧
    cropToHighs ll r1 c1 = cropGen dtcwt_inv_crop_from_rows_last dtcwt_inv_crop_to_rows_last dtcwt_inv_crop_from_cols_last dtcwt_inv_crop_to_cols_last ll r1 c1 ∧
    (∀ r r1 : Int, (dtcwt_inv_rows_differ_loop r r1 ↔ r ≠ r1 * 2) ∧ (dtcwt_inv_rows_differ_last r r1 ↔ r ≠ r1 * 2)) ∧
    (∀ c c1 : Int, (dtcwt_inv_cols_differ_loop c c1 ↔ c ≠ c1 * 2) ∧ (dtcwt_inv_cols_differ_last c c1 ↔ c ≠ c1 * 2)) ∧
    dtcwt_inv_crop_axis_rows_loop = 2 ∧ dtcwt_inv_crop_axis_rows_last = 2 ∧ dtcwt_inv_crop_axis_cols_loop = 3 ∧ dtcwt_inv_crop_axis_cols_last = 3 := by
  have key : ∀ (ll : Img R) (r1 c1 : Nat), cropToHighs ll r1 c1 = cropGen 1 (-1) 1 (-1) ll r1 c1 := by
    intro ll r1 c1
    unfold cropToHighs cropGen
    have e1 : ∀ n m : Nat, ((n : Int) ≠ (m : Int) * 2) ↔ n ≠ 2 * m := fun n m => by omega
    simp only [e1]
  refine ⟨key ll r1 c1, key ll r1 c1, fun _ _ => ⟨Iff.rfl, Iff.rfl⟩, fun _ _ => ⟨Iff.rfl, Iff.rfl⟩, rfl, rfl, rfl, rfl⟩

/-- the odd-size tests of `ScatLayer.forward` are the parity tests of the model's `extendEven`; the channel counts of the two
final `view`s in closed form (`scatJ1_channels_gen` ties the first to the model's output) -/
theorem scat_sizes_gen :
    (∀ r : Nat, scat1_rows_odd r ↔ r % 2 ≠ 0) ∧ (∀ c : Nat, scat1_cols_odd c ↔ c % 2 ≠ 0) ∧
    (∀ C : Nat, (scat1_channels C).toNat = 7 * C) ∧ (∀ C : Nat, (scatj2_channels C).toNat = 49 * C) := by
  refine ⟨fun r => ?_, fun c => ?_, fun C => ?_, fun C => ?_⟩
  · unfold scat1_rows_odd; omega
  · unfold scat1_cols_odd; omega
  · unfold scat1_channels; omega
  · unfold scatj2_channels; omega

theorem scatJ1_channels_gen (m : MagOps R) (sym : Bool) (h0 h1 : List R) (h2 : Option (List R))
    (x y : List (Img R)) (h : scatJ1 m sym h0 h1 h2 false x = some y) : y.length = (scat1_channels x.length).toNat := by
  rw [C08.scatJ1_channels m sym h0 h1 h2 x y h, scat_sizes_gen.2.2.1]

end WV.C04Z
