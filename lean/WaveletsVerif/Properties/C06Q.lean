/-
  C06 (levels ≥ 2) — the backward pass of a q-shift stage is its adjoint.

  `FWD_J2PLUS.backward` runs `inv_j2plus` with the analysis buffers and trees a/b exchanged: the gradient of
  `coldfilt(·, h, reverse h)` is computed as `colifilt(·, reverse h, h)`.  We prove that this IS the transpose:

      ⟨coldfilt h (reverse h) hp x, g⟩ = ⟨x, colifilt (reverse h) h hp g⟩

  for every even filter length ≥ 2, every filter VALUE (no orthogonality needed), both highpass flags, every column
  length that is a positive multiple of 4 and every cotangent (`coldfilt_colifilt_adjoint`), over any commutative
  ring.  Route: tap forms of the two line operators (`lineD_taps`, `lineE_taps`), transposition of one tap on the
  periodic line (`transpose_tap`: a decimation re-indexing and a window shift), and the reflection equivariance
  of `lineE`, which folds the full-period identity back to the half period without dividing by 2.
  Lifted to images and to the models of `FWD_J2PLUS.backward` / `INV_J2PLUS.backward` through `C06.level_adjoint`
  (`fwdJ2_backward_adjoint`, `INV_J2PLUS_backward_adjoint`): sides positive multiples of 4, six band cotangents.
-/
import WaveletsVerif.Properties.C04Q
import WaveletsVerif.Properties.C06
namespace WV.C06Q
open Finset WV WV.C04 WV.C04Q
variable {R : Type} [CommRing R]

theorem window_shift_one (Ψ : Int → R) (N : Nat) (hΨ : ∀ v : Int, Ψ (v + N) = Ψ v) (A : Int) :
    ∑ v ∈ range N, Ψ (A + 1 + (v:Int)) = ∑ v ∈ range N, Ψ (A + (v:Int)) := by
  have h1 : ∑ v ∈ range (N+1), Ψ (A + (v:Int)) = ∑ v ∈ range N, Ψ (A + 1 + (v:Int)) + Ψ A := by
    rw [Finset.sum_range_succ']
    congr 1
    · apply Finset.sum_congr rfl; intro v _; congr 1; push_cast; ring
    · simp
  have h2 : ∑ v ∈ range (N+1), Ψ (A + (v:Int)) = ∑ v ∈ range N, Ψ (A + (v:Int)) + Ψ (A + N) := Finset.sum_range_succ _ _
  rw [hΨ] at h2
  have := h1.symm.trans h2
  exact add_right_cancel this

theorem window_shift (Ψ : Int → R) (N : Nat) (hΨ : ∀ v : Int, Ψ (v + N) = Ψ v) (A : Int) :
    ∑ v ∈ range N, Ψ (A + (v:Int)) = ∑ v ∈ range N, Ψ (v:Int) := by
  induction A using Int.induction_on with
  | zero => simp
  | succ k ih => rw [window_shift_one Ψ N hΨ]; exact ih
  | pred k ih =>
    have := window_shift_one Ψ N hΨ (-(k:Int) - 1)
    have e : -(k:Int) - 1 + 1 = -(k:Int) := by ring
    rw [e] at this
    rw [← this]; exact ih

theorem sum_decimate4 (N ρ : Nat) (hρ : ρ < 4) (f : Nat → R) :
    ∑ i ∈ range (4*N), (if i % 4 = ρ then f i else 0) = ∑ v ∈ range N, f (4*v + ρ) := by
  induction N with
  | zero => simp
  | succ N ih =>
    rw [show 4 * (N+1) = 4*N + 3 + 1 by ring, Finset.sum_range_succ, Finset.sum_range_succ, Finset.sum_range_succ,
      Finset.sum_range_succ, ih, Finset.sum_range_succ]
    simp only [Nat.mul_add_mod, Nat.mul_mod_right, Nat.reduceMod]
    have hc : ρ = 0 ∨ ρ = 1 ∨ ρ = 2 ∨ ρ = 3 := by omega
    rcases hc with h | h | h | h <;> subst h <;>
      simp only [Nat.reduceEqDiff, if_true, if_false, add_zero]

/-- one tap of the decimating stage, restricted to the outputs `w ≡ s (mod 2)`, and its transpose: for `X` of
period `4n` and `G` of period `2n` (`n` even),
`Σ_v G(−n+2v+s)·X(2(−n+2v+s)+c) = Σ_{u in a period} X(u)·[u−c ≡ 2s mod 4]·G((u−c)/2)` -/
theorem transpose_tap (X G : Int → R) (n : Nat) (hn : n % 2 = 0)
    (hX : ∀ u : Int, X (u + ((4*n : Nat):Int)) = X u) (hG : ∀ w : Int, G (w + ((2*n : Nat):Int)) = G w)
    (c s : Int) (hs : s = 0 ∨ s = 1) :
    ∑ v ∈ range n, G (-(n:Int) + 2*(v:Int) + s) * X (2 * (-(n:Int) + 2*(v:Int) + s) + c)
      = ∑ i ∈ range (4*n), X (-(2*(n:Int)) + (i:Int)) *
          (if (-(2*(n:Int)) + (i:Int) - c) % 4 = 2*s then G ((-(2*(n:Int)) + (i:Int) - c) / 2) else 0) := by
  -- `c + 2s = 4α + ρ`, `n = 2n'`
  obtain ⟨α, ρ, hcs, hρ4⟩ : ∃ (α : Int) (ρ : Nat), c + 2*s = 4*α + (ρ:Int) ∧ ρ < 4 :=
    ⟨(c + 2*s) / 4, ((c + 2*s) % 4).toNat, by omega, by omega⟩
  obtain ⟨n', hn'⟩ : ∃ n' : Nat, n = 2*n' := ⟨n/2, by omega⟩
  clear hn
  -- the right-hand side: only `i ≡ ρ` survives
  have hiff : ∀ i : Nat, ((-(2*(n:Int)) + (i:Int) - c) % 4 = 2*s) ↔ (i % 4 = ρ) := fun i => by omega
  simp only [mul_ite, mul_zero, hiff]
  rw [sum_decimate4 n ρ hρ4]
  clear hiff hs hn' hρ4
  -- both sides are windows of the same `n`-periodic function
  set Ψ : Int → R := fun v => G (-(n:Int) + 2*v + s) * X (2 * (-(n:Int) + 2*v + s) + c) with hΨ
  have hper : ∀ v : Int, Ψ (v + n) = Ψ v := by
    intro v
    simp only [hΨ]
    have e1 : -(n:Int) + 2*(v + n) + s = (-(n:Int) + 2*v + s) + ((2*n : Nat):Int) := by push_cast; ring
    have e2 : 2 * (-(n:Int) + 2*(v + n) + s) + c = (2 * (-(n:Int) + 2*v + s) + c) + ((4*n : Nat):Int) := by push_cast; ring
    rw [e2, e1, hG, hX]
  have hL : ∑ v ∈ range n, G (-(n:Int) + 2*(v:Int) + s) * X (2 * (-(n:Int) + 2*(v:Int) + s) + c)
      = ∑ v ∈ range n, Ψ (v:Int) := rfl
  have hRR : ∑ v ∈ range n, X (-(2*(n:Int)) + ((4*v + ρ : Nat):Int)) * G ((-(2*(n:Int)) + ((4*v + ρ : Nat):Int) - c) / 2)
      = ∑ v ∈ range n, Ψ (-α + (v:Int)) := by
    apply Finset.sum_congr rfl; intro v _
    simp only [hΨ]
    have e1 : (-(2*(n:Int)) + ((4*v + ρ : Nat):Int) - c) / 2 = -(n:Int) + 2*(-α + (v:Int)) + s := by
      push_cast; omega
    have e2 : -(2*(n:Int)) + ((4*v + ρ : Nat):Int) = 2 * (-(n:Int) + 2*(-α + (v:Int)) + s) + c := by
      push_cast; omega
    rw [e1, e2]; ring
  rw [hL, hRR, window_shift Ψ n hper (-α)]

theorem treeD_a (h : List R) (X : Int → R) (v : Int) :
    treeD h 2 X v = ∑ t ∈ range h.length, getN h t * X (4*v + (h.length:Int) - 2*(t:Int)) := by
  unfold treeD
  rw [← Finset.sum_range_reflect]
  apply Finset.sum_congr rfl; intro t ht
  have ht' : t < h.length := by simpa using ht
  have e1 : h.length - 1 - (h.length - 1 - t) = t := by omega
  rw [e1]
  congr 2
  have : ((h.length - 1 - t : Nat):Int) = (h.length:Int) - 1 - t := by omega
  rw [this]; ring

theorem treeD_b (h : List R) (X : Int → R) (v : Int) :
    treeD h.reverse 3 X v = ∑ t ∈ range h.length, getN h t * X (4*v + 2*(t:Int) + 3 - (h.length:Int)) := by
  unfold treeD
  rw [List.length_reverse]
  apply Finset.sum_congr rfl; intro t ht
  have ht' : t < h.length := by simpa using ht
  have hrv := getN_reverse h t ht'
  rw [hrv]

/-- offsets of tap `t`: output `w` reads `X(2w + cE)` when `w` is even and `X(2w + cO)` when `w` is odd -/
def cE (m : Nat) (hp : Bool) (t : Nat) : Int := if hp then 2*(t:Int) + 3 - (m:Int) else (m:Int) - 2*(t:Int)
def cO (m : Nat) (hp : Bool) (t : Nat) : Int := if hp then (m:Int) - 2*(t:Int) - 2 else 2*(t:Int) - (m:Int) + 1

theorem lineD_taps (h : List R) (hp : Bool) (X : Int → R) (w : Int) :
    lineD h h.reverse hp X w
      = ∑ t ∈ range h.length, getN h t * X (2*w + (if w % 2 = 0 then cE h.length hp t else cO h.length hp t)) := by
  unfold lineD cE cO
  by_cases hpar : w % 2 = 0
  · simp only [hpar, if_true]
    cases hp
    · simp only [Bool.false_eq_true, if_false]
      rw [treeD_a]; apply Finset.sum_congr rfl; intro t _; congr 2; omega
    · simp only [if_true]
      rw [treeD_b]; apply Finset.sum_congr rfl; intro t _; congr 2; omega
  · simp only [hpar, if_false]
    cases hp
    · simp only [Bool.false_eq_true, if_false]
      rw [treeD_b]; apply Finset.sum_congr rfl; intro t _; congr 2; omega
    · simp only [if_true]
      rw [treeD_a]; apply Finset.sum_congr rfl; intro t _; congr 2; omega

/-- the transpose of one tap, read at input position `u` -/
def Etap (m : Nat) (hp : Bool) (t : Nat) (G : Int → R) (u : Int) : R :=
  (if (u - cE m hp t) % 4 = 0 then G ((u - cE m hp t)/2) else 0)
    + (if (u - cO m hp t) % 4 = 2 then G ((u - cO m hp t)/2) else 0)

/-- a sum over all taps in which only the taps `2j + ε` contribute -/
theorem taps_match (h : List R) (m2 : Nat) (hm : h.length = 2*m2) (ε ε' : Nat) (hε : ε + ε' = 1) (E : Nat → R) (A : Nat → R)
    (hit : ∀ j < m2, E (2*j + ε) = A j) (miss : ∀ j < m2, E (2*j + ε') = 0) :
    ∑ t ∈ range h.length, getN h t * E t = ∑ j ∈ range m2, getN h (2*j + ε) * A j := by
  rw [hm, sum_range_two_mul]
  apply Finset.sum_congr rfl; intro j hj
  have hj' : j < m2 := by simpa using hj
  have hc : (ε = 0 ∧ ε' = 1) ∨ (ε = 1 ∧ ε' = 0) := by omega
  rcases hc with ⟨rfl, rfl⟩ | ⟨rfl, rfl⟩
  · have h0 : E (2*j) = A j := hit j hj'
    rw [miss j hj', h0, mul_zero, add_zero]; rfl
  · have h0 : E (2*j) = 0 := miss j hj'
    rw [hit j hj', h0, mul_zero, zero_add]

theorem ite_add_ite_excl (p q : Prop) [Decidable p] [Decidable q] (x y : R) (h : p → ¬ q) :
    (if p then x else 0) + (if q then y else 0) = if p then x else if q then y else 0 := by
  by_cases hp : p
  · rw [if_pos hp, if_neg (h hp), add_zero, if_pos hp]
  · rw [if_neg hp, zero_add, if_neg hp]

/-- the transpose of tap `t` in closed form (`m = 2·m2`): an even `u` is read by the even outputs `w` of the decimating
stage only, and by one of them when `u − m + 2t ≡ 0 (mod 4)`; an odd `u` by the odd outputs only, when `u + m − 2t − 1 ≡ 2` -/
theorem Etap_cases (m2 : Nat) (hp : Bool) (t : Nat) (G : Int → R) (u : Int) :
    Etap (2*m2) hp t G u
      = if (u - 2*m2 + 2*t) % 4 = 0 then G ((u - 2*m2 + 2*t) / 2 + (if hp then 1 else 0))
        else if (u + 2*m2 - 2*t - 1) % 4 = 2 then G ((u + 2*m2 - 2*t - 1) / 2 - 1 + (if hp then 0 else 1)) else 0 := by
  -- `a = u − m + 2t` and `b = u + m − 2t − 1` differ by `4(m2 − t) − 1`, so `a ≡ 0` and `b ≡ 2 (mod 4)` exclude each
  -- other; the lowpass stage tests `a` and `b` themselves, the highpass stage `b − 2 ≡ 0` and `a + 2 ≡ 2`
  generalize ha : u - 2*(m2:Int) + 2*(t:Int) = a
  generalize hb : u + 2*(m2:Int) - 2*(t:Int) - 1 = b
  have hex : a % 4 = 0 → ¬ b % 4 = 2 := by omega
  unfold Etap cE cO
  cases hp
  · simp only [Bool.false_eq_true, if_false, add_zero, sub_add_cancel]
    rw [show u - (((2*m2 : Nat):Int) - 2*(t:Int)) = a by rw [← ha]; push_cast; ring,
      show u - (2*(t:Int) - ((2*m2 : Nat):Int) + 1) = b by rw [← hb]; push_cast; ring]
    exact ite_add_ite_excl _ _ _ _ hex
  · simp only [if_true, add_zero]
    rw [show u - (2*(t:Int) + 3 - ((2*m2 : Nat):Int)) = b - 2 by rw [← hb]; push_cast; ring,
      show u - (((2*m2 : Nat):Int) - 2*(t:Int) - 2) = a + 2 by rw [← ha]; push_cast; ring,
      add_comm, ite_add_ite_excl _ _ _ _ (by omega)]
    simp only [show (a + 2) % 4 = 2 ↔ a % 4 = 0 by omega, show (b - 2) % 4 = 0 ↔ b % 4 = 2 by omega,
      show (a + 2) / 2 = a / 2 + 1 by omega, show (b - 2) / 2 = b / 2 - 1 by omega]

/-- the even rows `4q + 2σ`: a branch over `h.reverse` with tap offset `1 + ε`, `ε` the parity of `σ + m/2`, collects the
taps `t ≡ ε (mod 2)` -/
theorem brE_taps_even (h : List R) (m2 σ ε ε' l : Nat) (hm : h.length = 2*m2) (hε : ε + ε' = 1) (hl : σ + ε + m2 = 2*l)
    (hp : Bool) (G : Int → R) (q : Int) :
    brE h.reverse h.length (1 + ε) (((σ + ε : Nat):Int) + (if hp then 1 else 0)) G q
      = ∑ t ∈ range h.length, getN h t * Etap h.length hp t G (4*q + ((2*σ : Nat):Int)) := by
  rw [brE_direct h m2 hm ε (by omega)]
  refine (taps_match h m2 hm ε ε' hε _ _ ?_ ?_).symm
  · intro j _
    rw [hm, Etap_cases, if_pos (by push_cast; omega)]
    congr 1; push_cast; omega
  · intro j _
    rw [hm, Etap_cases, if_neg (by push_cast; omega), if_neg (by push_cast; omega)]

/-- the odd rows `4q + 2σ + 1`: the branch over `h` itself collects the taps `t ≢ ε (mod 2)` -/
theorem brE_taps_odd (h : List R) (m2 σ ε ε' l : Nat) (hm : h.length = 2*m2) (hε : ε + ε' = 1) (hl : σ + ε + m2 = 2*l)
    (hp : Bool) (G : Int → R) (q : Int) :
    brE h h.length (1 + ε) (((σ + ε : Nat):Int) + (if hp then 0 else 1)) G q
      = ∑ t ∈ range h.length, getN h t * Etap h.length hp t G (4*q + ((2*σ + 1 : Nat):Int)) := by
  rw [brE_refl h m2 hm ε ε' hε]
  refine (taps_match h m2 hm ε' ε ((add_comm _ _).trans hε) _ _ ?_ ?_).symm
  · intro j _
    rw [hm, Etap_cases, if_neg (by push_cast; omega), if_pos (by push_cast; omega)]
    congr 1; push_cast; omega
  · intro j _
    rw [hm, Etap_cases, if_neg (by push_cast; omega), if_neg (by push_cast; omega)]

/-- tap form of the interpolating stage with the trees exchanged: `colifilt(·, reverse h, h)` applies, tap
by tap, the transpose of `coldfilt(·, h, reverse h)` — all 16 combinations of output phase, parity of `m/2`
and highpass flag -/
theorem lineE_taps (h : List R) (hm : h.length % 2 = 0) (hm2 : 2 ≤ h.length) (hp : Bool) (G : Int → R) (u : Int) :
    lineE h.reverse h hp G u = ∑ t ∈ range h.length, getN h t * Etap h.length hp t G u := by
  obtain ⟨m2, hm2'⟩ : ∃ m2 : Nat, h.length = 2 * m2 := ⟨h.length / 2, by omega⟩
  have hdiv : h.length / 2 = m2 := by omega
  clear hm hm2
  obtain ⟨q, σ, β, rfl, hσ, hβ⟩ := rows4 u
  rw [lineE_row _ _ _ _ q σ β hσ hβ, List.length_reverse, hdiv]
  -- `ε` is the parity of `σ + m2`
  obtain ⟨ε, ε', l, hε, hl, he⟩ : ∃ ε ε' l, ε + ε' = 1 ∧ σ + ε + m2 = 2*l ∧ (σ + m2) % 2 = ε :=
    ⟨(σ+m2)%2, 1 - (σ+m2)%2, (σ + (σ+m2)%2 + m2)/2, by omega, by omega, rfl⟩
  rw [he]
  rcases Nat.le_one_iff_eq_zero_or_eq_one.mp hβ with rfl | rfl
  · rw [if_pos rfl, if_pos rfl]
    exact brE_taps_even h m2 σ ε ε' l hm2' hε hl hp G q
  · rw [if_neg Nat.one_ne_zero, if_neg Nat.one_ne_zero]
    exact brE_taps_odd h m2 σ ε ε' l hm2' hε hl hp G q

/-- `colifilt(·, reverse h, h)` is the transpose of `coldfilt(·, h, reverse h)` on periodic signals: for `X` of
period `4n` and `G` of period `2n` (`n` even, `h` of even length ≥ 2), summing over one period of each -/
theorem line_transpose (h : List R) (hm : h.length % 2 = 0) (hm2 : 2 ≤ h.length) (hp : Bool) (X G : Int → R) (n : Nat)
    (hn : n % 2 = 0) (hX : ∀ u : Int, X (u + ((4*n : Nat):Int)) = X u) (hG : ∀ w : Int, G (w + ((2*n : Nat):Int)) = G w) :
    ∑ i ∈ range (2*n), lineD h h.reverse hp X (-(n:Int) + (i:Int)) * G (-(n:Int) + (i:Int))
      = ∑ i ∈ range (4*n), X (-(2*(n:Int)) + (i:Int)) * lineE h.reverse h hp G (-(2*(n:Int)) + (i:Int)) := by
  -- both sides tap by tap (`lineE_taps`, `lineD_taps`); for one tap the even and the odd outputs of the decimating
  -- stage are transposed separately by `transpose_tap`, and the two transposes add up to `Etap`
  have hR : ∑ i ∈ range (4*n), X (-(2*(n:Int)) + (i:Int)) * lineE h.reverse h hp G (-(2*(n:Int)) + (i:Int))
      = ∑ t ∈ range h.length, getN h t *
          ∑ i ∈ range (4*n), X (-(2*(n:Int)) + (i:Int)) * Etap h.length hp t G (-(2*(n:Int)) + (i:Int)) := by
    simp only [lineE_taps h hm hm2, Finset.mul_sum]
    rw [Finset.sum_comm]
    apply Finset.sum_congr rfl; intro t _
    apply Finset.sum_congr rfl; intro i _
    ring
  have hL : ∑ i ∈ range (2*n), lineD h h.reverse hp X (-(n:Int) + (i:Int)) * G (-(n:Int) + (i:Int))
      = ∑ t ∈ range h.length, getN h t *
          ∑ i ∈ range (2*n), X (2*(-(n:Int) + (i:Int)) + (if (-(n:Int) + (i:Int)) % 2 = 0 then cE h.length hp t else cO h.length hp t))
            * G (-(n:Int) + (i:Int)) := by
    simp only [lineD_taps, Finset.sum_mul, Finset.mul_sum]
    rw [Finset.sum_comm]
    apply Finset.sum_congr rfl; intro t _
    apply Finset.sum_congr rfl; intro i _
    ring
  rw [hL, hR]
  apply Finset.sum_congr rfl; intro t _
  congr 1
  rw [sum_range_two_mul, Finset.sum_add_distrib]
  have he : ∀ v ∈ range n, X (2*(-(n:Int) + ((2*v : Nat):Int)) + (if (-(n:Int) + ((2*v : Nat):Int)) % 2 = 0 then cE h.length hp t else cO h.length hp t))
        * G (-(n:Int) + ((2*v : Nat):Int))
      = G (-(n:Int) + 2*(v:Int) + 0) * X (2 * (-(n:Int) + 2*(v:Int) + 0) + cE h.length hp t) := by
    intro v _
    have hz : (-(n:Int) + ((2*v : Nat):Int)) % 2 = 0 := by omega
    rw [if_pos hz]
    have e : -(n:Int) + ((2*v : Nat):Int) = -(n:Int) + 2*(v:Int) + 0 := by push_cast; ring
    rw [e]; ring
  have ho : ∀ v ∈ range n, X (2*(-(n:Int) + ((2*v+1 : Nat):Int)) + (if (-(n:Int) + ((2*v+1 : Nat):Int)) % 2 = 0 then cE h.length hp t else cO h.length hp t))
        * G (-(n:Int) + ((2*v+1 : Nat):Int))
      = G (-(n:Int) + 2*(v:Int) + 1) * X (2 * (-(n:Int) + 2*(v:Int) + 1) + cO h.length hp t) := by
    intro v _
    have hz : ¬ (-(n:Int) + ((2*v+1 : Nat):Int)) % 2 = 0 := by omega
    rw [if_neg hz]
    have e : -(n:Int) + ((2*v+1 : Nat):Int) = -(n:Int) + 2*(v:Int) + 1 := by push_cast; ring
    rw [e]; ring
  rw [Finset.sum_congr rfl he, Finset.sum_congr rfl ho,
    transpose_tap X G n hn hX hG (cE h.length hp t) 0 (Or.inl rfl),
    transpose_tap X G n hn hX hG (cO h.length hp t) 1 (Or.inr rfl), ← Finset.sum_add_distrib]
  apply Finset.sum_congr rfl; intro i _
  unfold Etap
  rw [mul_add]
  norm_num

/-- `g` on `[0,n)`, zero on `[n,2n)`, continued with period `2n` -/
def halfExt (g : List R) (w : Int) : R := getZ g (w % ((2 * g.length : Nat):Int))

theorem halfExt_period (g : List R) (w : Int) : halfExt g (w + ((2 * g.length : Nat):Int)) = halfExt g w := by
  unfold halfExt; rw [Int.add_emod_right]

/-- the symmetric extension is the half extension plus its mirror image -/
theorem xt_eq_half (g : List R) (hg : 1 ≤ g.length) (w : Int) :
    Spec.xt g w = halfExt g w + halfExt g (-1 - w) := by
  unfold Spec.xt symIdx halfExt
  have hN : ((2 * g.length : Nat):Int) = 2 * (g.length:Int) := by push_cast; ring
  rw [hN, neg_emod_aux (2 * (g.length:Int)) w (by omega)]
  have ht0 := Int.emod_nonneg w (show (2 * (g.length:Int)) ≠ 0 by omega)
  have ht1 := Int.emod_lt_of_pos w (show 0 < 2 * (g.length:Int) by omega)
  simp only
  by_cases hc : w % (2 * (g.length:Int)) < (g.length:Int)
  · rw [if_pos hc, getZ_of_ge g (2 * (g.length:Int) - 1 - w % (2 * (g.length:Int))) (by omega), add_zero]
  · rw [if_neg hc, getZ_of_ge g (w % (2 * (g.length:Int))) (by omega), zero_add]

theorem halfExt_inside (g : List R) (i : Nat) (hi : i < g.length) : halfExt g (i:Int) = getN g i := by
  unfold halfExt
  rw [Int.emod_eq_of_lt (by omega) (by push_cast; omega), ← getN_eq_getZ]

theorem halfExt_left (g : List R) (i : Nat) (hi : i < g.length) : halfExt g (-(g.length:Int) + (i:Int)) = 0 := by
  rw [← halfExt_period]
  unfold halfExt
  have e : -(g.length:Int) + (i:Int) + ((2 * g.length : Nat):Int) = (g.length:Int) + i := by push_cast; ring
  rw [e, Int.emod_eq_of_lt (by omega) (by push_cast; omega)]
  exact getZ_of_ge g _ (by omega)

/-- the backward pass of a q-shift stage is its adjoint: for every filter `h` of even length ≥ 2 (any values),
both highpass flags, every column `x` whose length is a positive multiple of 4 and every cotangent `g`,
`⟨coldfilt(x, h, reverse h), g⟩ = ⟨x, colifilt(g, reverse h, h)⟩` — trees exchanged, as `FWD_J2PLUS.backward`
and `INV_J2PLUS.backward` do. -/
theorem coldfilt_colifilt_adjoint (h x g : List R) (hp : Bool) (hm : h.length % 2 = 0) (hm2 : 2 ≤ h.length)
    (hr : x.length % 4 = 0) (hr0 : 0 < x.length) (hg : g.length = x.length / 2) :
    ∑ i ∈ range g.length, getN (Spec.coldfilt h h.reverse hp x) i * getN g i
      = ∑ k ∈ range x.length, getN x k * getN (Spec.colifilt h.reverse h hp g) k := by
  have hn2 : g.length % 2 = 0 := by omega
  have hxl : x.length = 2 * g.length := by omega
  have hg0 : 1 ≤ g.length := by omega
  clear hr hr0 hg
  have hX : ∀ u : Int, Spec.xt x (u + ((4 * g.length : Nat):Int)) = Spec.xt x u := by
    intro u
    have e : u + ((4 * g.length : Nat):Int) = u + 2 * (x.length:Int) * 1 := by rw [hxl]; push_cast; ring
    rw [e]; exact xt_period x u 1
  have LT := line_transpose h hm hm2 hp (Spec.xt x) (halfExt g) g.length hn2 hX (halfExt_period g)
  clear hn2 hX hm2
  -- left-hand side of LT = left-hand side of the claim: `halfExt g` vanishes on the left half of the period
  have hL : ∑ i ∈ range (2 * g.length),
        lineD h h.reverse hp (Spec.xt x) (-(g.length:Int) + (i:Int)) * halfExt g (-(g.length:Int) + (i:Int))
      = ∑ i ∈ range g.length, getN (Spec.coldfilt h h.reverse hp x) i * getN g i := by
    rw [two_mul, Finset.sum_range_add, Finset.sum_eq_zero, zero_add]
    · apply Finset.sum_congr rfl; intro i hi
      have hi' : i < g.length := by simpa using hi
      have e : -(g.length:Int) + ((g.length + i : Nat):Int) = (i:Int) := by push_cast; ring
      rw [e, ← coldfilt_get h h.reverse x hp h.length_reverse i (by omega), halfExt_inside g i hi']
    · intro i hi
      rw [halfExt_left g i (by simpa using hi), mul_zero]
  -- right-hand side of LT = right-hand side of the claim: fold the period at its middle
  have hxt0 : ∀ t : Int, Spec.xt x (-1 - t) = Spec.xt x t := xt_reflect x (by omega)
  have hR : ∑ i ∈ range (4 * g.length),
        Spec.xt x (-(2*(g.length:Int)) + (i:Int)) * lineE h.reverse h hp (halfExt g) (-(2*(g.length:Int)) + (i:Int))
      = ∑ k ∈ range x.length, getN x k * getN (Spec.colifilt h.reverse h hp g) k := by
    have e4 : 4 * g.length = 2 * g.length + 2 * g.length := by ring
    rw [e4, Finset.sum_range_add, ← Finset.sum_range_reflect, hxl, ← Finset.sum_add_distrib]
    apply Finset.sum_congr rfl; intro k hk
    have hk' : k < 2 * g.length := by simpa using hk
    have e1 : -(2*(g.length:Int)) + ((2 * g.length - 1 - k : Nat):Int) = -1 - (k:Int) := by omega
    have e2 : -(2*(g.length:Int)) + ((2 * g.length + k : Nat):Int) = (k:Int) := by push_cast; ring
    rw [e1, e2, hxt0, xt_inside x k (by omega)]
    have hrefl := lineE_reflect h.reverse hp (by rw [List.length_reverse]; exact hm) (halfExt g)
      (fun t => halfExt g (-1 - t)) (fun t => rfl) (fun t => by rw [sub_sub_cancel]) (k:Int)
    rw [List.reverse_reverse] at hrefl
    rw [hrefl, ← mul_add, ← lineE_add, colifilt_get h.reverse h g hp k hk']
    congr 2
    funext t
    rw [xt_eq_half g hg0 t, add_comm]
  rw [← hL, LT, hR]

open WV.C06 in
theorem alongH_DE_adjoint (h : List R) (hp : Bool) (hm : h.length % 2 = 0) (hm2 : 2 ≤ h.length) (x y : Img R) (H W : Nat)
    (hx : Rect x (2*(2*H)) W) (hy : Rect y (2*H) W) (hH : 1 ≤ H) (hW : 1 ≤ W) :
    dot2 (2*H) W (alongH (Spec.coldfilt h h.reverse hp) x) y
      = dot2 (2*(2*H)) W x (alongH (Spec.colifilt h.reverse h hp) y) := by
  refine alongH_adjoint_of _ _ x y (2*(2*H)) (2*H) W hx hy (by omega) (by omega) hW
    (coldfilt_half h h.reverse hp (2*H)) (colifilt_double h.reverse h hp (2*H)) fun j _ => ?_
  have hcx : (col x j).length = 2*(2*H) := by rw [col_length, hx.1]
  have hcy : (col y j).length = 2*H := by rw [col_length, hy.1]
  have := coldfilt_colifilt_adjoint h (col x j) (col y j) hp hm hm2 (by omega) (by omega) (by omega)
  rw [hcx, hcy] at this
  exact this

open WV.C06 in
theorem alongW_DE_adjoint (h : List R) (hp : Bool) (hm : h.length % 2 = 0) (hm2 : 2 ≤ h.length) (x y : Img R) (H W : Nat)
    (hx : Rect x H (2*(2*W))) (hy : Rect y H (2*W)) (hW : 1 ≤ W) :
    dot2 H (2*W) (alongW (Spec.coldfilt h h.reverse hp) x) y
      = dot2 H (2*(2*W)) x (alongW (Spec.colifilt h.reverse h hp) y) := by
  refine alongW_adjoint_of _ _ x y H (2*(2*W)) (2*W) hx hy fun i hi => ?_
  have hcx := row_length x _ _ hx i hi
  have hcy := row_length y _ _ hy i hi
  have := coldfilt_colifilt_adjoint h (x.getD i []) (y.getD i []) hp hm hm2 (by omega) (by omega) (by omega)
  rw [hcx, hcy] at this
  exact this

open WV.C06 in
/-- `FWD_J2PLUS.backward` is the adjoint of `fwd_j2plus` (implementation models): for q-shift analysis filters
of even length ≥ 2 with tree a the time reverse of tree b (ANY values), every image `x` whose sides are positive
multiples of 4, every low-pass cotangent `dl` and every six complex band cotangents,
`⟨fwd_j2plus x, (dl, dh)⟩ = ⟨x, backward(dl, dh)⟩`. -/
theorem fwdJ2_backward_adjoint_rect (s : R) (h0 h1 : List R) (hm0 : h0.length % 2 = 0) (hm0' : 2 ≤ h0.length)
    (hm1 : h1.length % 2 = 0) (hm1' : 2 ≤ h1.length) (x dl : Img R) (H W : Nat) (hH : 1 ≤ H) (hW : 1 ≤ W)
    (hx : Rect x (4*H) (4*W)) (hdl : Rect dl (2*H) (2*W)) (a b : Nat → Nat → Nat → R) :
    let dh : List (Cplx R) := (List.range 6).map fun k => (tab2 H W (a k), tab2 H W (b k))
    ∃ ll hs y,
      fwdJ2 s (prepFilt h0.reverse) (prepFilt h1.reverse) (prepFilt h0) (prepFilt h1) false x = some (ll, some hs) ∧
      FWD_J2PLUS_backward s (prepFilt h0.reverse) (prepFilt h1.reverse) (prepFilt h0) (prepFilt h1) dl (some dh) = some y ∧ Rect y (4*H) (4*W) ∧ Rect ll (2*H) (2*W) ∧
      dot2 (2*H) (2*W) ll dl
        + ∑ k ∈ range 6, (dot2 H W (hs.getD k ([], [])).1 (dh.getD k ([], [])).1
                          + dot2 H W (hs.getD k ([], [])).2 (dh.getD k ([], [])).2)
        = dot2 (4*H) (4*W) x y := by
  intro dh
  have h2H : 1 ≤ 2*H := by omega
  have h2W : 1 ≤ 2*W := by omega
  have lr : ∀ h : List R, h.reverse.length = h.length := fun h => List.length_reverse
  have hF := fwdJ2_eq s h0.reverse h0 h1.reverse h1 (by omega) (lr h0) (by omega) (lr h1) x H W hH hW hx
  rw [show 4*H = 2*(2*H) by ring, show 4*W = 2*(2*W) by ring] at hx ⊢
  have rLo := coldfilt_alongW_rect h0 h0.reverse false x _ _ hx
  have rHi := coldfilt_alongW_rect h1 h1.reverse true x _ _ hx
  have rll := coldfilt_alongH_rect h0 h0.reverse false _ _ _ rLo (by omega) h2W
  have rlh := coldfilt_alongH_rect h1 h1.reverse true _ _ _ rLo (by omega) h2W
  have rhl := coldfilt_alongH_rect h0 h0.reverse false _ _ _ rHi (by omega) h2W
  have rhh := coldfilt_alongH_rect h1 h1.reverse true _ _ _ rHi (by omega) h2W
  set lh' := c2q s (tab2 H W (a 0), tab2 H W (b 0)) (tab2 H W (a 5), tab2 H W (b 5)) with hlh'
  set hl' := c2q s (tab2 H W (a 2), tab2 H W (b 2)) (tab2 H W (a 3), tab2 H W (b 3)) with hhl'
  set hh' := c2q s (tab2 H W (a 1), tab2 H W (b 1)) (tab2 H W (a 4), tab2 H W (b 4)) with hhh'
  have r1 : Rect lh' (2*H) (2*W) := c2q_rect s H W hH _ _ _ _
  have r2 : Rect hl' (2*H) (2*W) := c2q_rect s H W hH _ _ _ _
  have r3 : Rect hh' (2*H) (2*W) := c2q_rect s H W hH _ _ _ _
  have hoth : orientationsToHighs s dh = (lh', hl', hh') := orientationsToHighs_range6 s _
  have hB := invJ2_eq s h0 h0.reverse h1 h1.reverse (by rw [lr]; exact hm0) (by rw [lr]; exact hm0') (lr h0).symm
    (by rw [lr]; exact hm1) (by rw [lr]; exact hm1') (lr h1).symm dl dh H W hH hW hdl (by rw [hoth]; exact r1)
    (by rw [hoth]; exact r2) (by rw [hoth]; exact r3)
  rw [hoth] at hB
  simp only [] at hB
  have q1 := colifilt_alongH_rect h1.reverse h1 true hh' _ _ r3 h2H h2W
  have q2 := colifilt_alongH_rect h0.reverse h0 false hl' _ _ r2 h2H h2W
  have q3 := colifilt_alongH_rect h1.reverse h1 true lh' _ _ r1 h2H h2W
  have q4 := colifilt_alongH_rect h0.reverse h0 false dl _ _ hdl h2H h2W
  have wHI := colifilt_alongW_rect h1.reverse h1 true _ _ _ (iadd_rect _ _ _ _ q1 q2)
  have wLO := colifilt_alongW_rect h0.reverse h0 false _ _ _ (iadd_rect _ _ _ _ q3 q4)
  refine ⟨_, _, _, hF, hB, iadd_rect _ _ _ _ wHI wLO, rll, ?_⟩
  -- the six band pairs through q2c / c2q, then every stage across the inner product
  have kb := bands_adjoint s H W hH _ _ _ rlh rhl rhh a b
  simp only [← hlh', ← hhl', ← hhh'] at kb
  rw [kb]
  exact level_adjoint _ _ _ _ (2*(2*H)) (2*(2*W)) (2*H) (2*W)
    (fun u v hu hv => alongW_DE_adjoint h0 false hm0 hm0' u v _ W hu hv hW)
    (fun u v hu hv => alongW_DE_adjoint h1 true hm1 hm1' u v _ W hu hv hW)
    (fun u v hu hv => alongH_DE_adjoint h0 false hm0 hm0' u v H _ hu hv hH h2W)
    (fun u v hu hv => alongH_DE_adjoint h1 true hm1 hm1' u v H _ hu hv hH h2W)
    x dl lh' hl' hh' hx rLo rHi hdl r1 r2 r3 q1 q2 q3 q4 wHI wLO

open WV.C06 in
theorem fwdJ2_backward_adjoint (s : R) (h0 h1 : List R) (hm0 : h0.length % 2 = 0) (hm0' : 2 ≤ h0.length)
    (hm1 : h1.length % 2 = 0) (hm1' : 2 ≤ h1.length) (x dl : Img R) (H W : Nat) (hH : 1 ≤ H) (hW : 1 ≤ W)
    (hx : Rect x (4*H) (4*W)) (hdl : Rect dl (2*H) (2*W)) (a b : Nat → Nat → Nat → R) :
    let dh : List (Cplx R) := (List.range 6).map fun k => (tab2 H W (a k), tab2 H W (b k))
    ∃ ll hs y,
      fwdJ2 s (prepFilt h0.reverse) (prepFilt h1.reverse) (prepFilt h0) (prepFilt h1) false x = some (ll, some hs) ∧
      FWD_J2PLUS_backward s (prepFilt h0.reverse) (prepFilt h1.reverse) (prepFilt h0) (prepFilt h1) dl (some dh) = some y ∧
      dot2 (2*H) (2*W) ll dl
        + ∑ k ∈ range 6, (dot2 H W (hs.getD k ([], [])).1 (dh.getD k ([], [])).1
                          + dot2 H W (hs.getD k ([], [])).2 (dh.getD k ([], [])).2)
        = dot2 (4*H) (4*W) x y := by
  intro dh
  obtain ⟨ll, hs, y, h1, h2, _, _, h3⟩ := fwdJ2_backward_adjoint_rect s h0 h1 hm0 hm0' hm1 hm1' x dl H W hH hW hx hdl a b
  exact ⟨ll, hs, y, h1, h2, h3⟩

open WV.C06 in
/-- `INV_J2PLUS.backward` is the adjoint of `inv_j2plus` (both inputs requiring grad): it runs `fwd_j2plus` with the
synthesis buffers and the trees exchanged; `⟨inv_j2plus(ll, highs), dy⟩ = ⟨(ll, highs), backward(dy)⟩` is
`fwdJ2_backward_adjoint` read from right to left. -/
theorem INV_J2PLUS_backward_adjoint (s : R) (k0 k1 : List R) (hm0 : k0.length % 2 = 0) (hm0' : 2 ≤ k0.length)
    (hm1 : k1.length % 2 = 0) (hm1' : 2 ≤ k1.length) (dy ll : Img R) (H W : Nat) (hH : 1 ≤ H) (hW : 1 ≤ W)
    (hdy : Rect dy (4*H) (4*W)) (hll : Rect ll (2*H) (2*W)) (a b : Nat → Nat → Nat → R) :
    let highs : List (Cplx R) := (List.range 6).map fun k => (tab2 H W (a k), tab2 H W (b k))
    ∃ dl dh y,
      INV_J2PLUS_backward s (prepFilt k0) (prepFilt k1) (prepFilt k0.reverse) (prepFilt k1.reverse) true true dy
        = some (some dl, some dh) ∧
      invJ2 s (prepFilt k0) (prepFilt k1) (prepFilt k0.reverse) (prepFilt k1.reverse) (some ll) (some highs) = some y ∧
      dot2 (4*H) (4*W) dy y
        = dot2 (2*H) (2*W) dl ll
          + ∑ k ∈ range 6, (dot2 H W (dh.getD k ([], [])).1 (highs.getD k ([], [])).1
                            + dot2 H W (dh.getD k ([], [])).2 (highs.getD k ([], [])).2) := by
  intro highs
  obtain ⟨dl, dh, y, h1, h2, h3⟩ := fwdJ2_backward_adjoint s k0 k1 hm0 hm0' hm1 hm1' dy ll H W hH hW hdy hll a b
  refine ⟨dl, dh, y, ?_, ?_, h3.symm⟩
  · unfold INV_J2PLUS_backward
    simp [h1]
  · exact h2

end WV.C06Q
