/-
  C18 / C15 — the loader's step structure, read from the source on every run, is the one the thread model enumerates.

  `Gen.loaderSteps` is the sequence of atomic steps of `_load_from_file` that `harness/translate.py` finds in
  `pytorch_wavelets/dtcwt/coeffs.py` (cache lookup; on a miss: read the WHOLE file into a local, store the complete table under
  its name; project the requested keys), `Gen.cacheMentions` how often the module names its cache at all.  The interleaving
  theorems of C15 (`sched_ok`: under every schedule of the atomic steps every call returns `specOut`) are about a thread whose
  program counter runs `start → read → store → done` (`Model/Cache.lean`); `miss_steps` shows that this is what the model does on
  a miss, and `loader_program_gen` that the source has exactly these steps and no other access to the cache.  A loader that
  publishes a placeholder before the read, fills the table entry by entry, or evicts, has a step the model lacks: the tie fails
  (and the concurrent-callers oracle looks for the schedule on which the real code then goes wrong).
-/
import WaveletsVerif.Model.Cache
import WaveletsVerif.Gen.Tables
namespace WV.C18Z
open WV.Cache

/-- the name of the atomic step a thread at this program counter performs next -/
def stepName : Pc → Option String
  | .start => some "lookup"
  | .read => some "read"
  | .store _ => some "store"
  | .done _ => none

/-- on a cache miss of an existing file the model's thread performs lookup, read, store — in this order — and finishes with the
projection of the complete table, which is then in the cache -/
theorem miss_steps (files : Files) (s : State) (name : String) (keys : List String) (t : Table)
    (hmiss : lookup s name = none) (hfile : lookup files name = some t) :
    let th0 : Thread := { name := name, keys := keys, pc := .start }
    let r1 := tstep files s th0
    let r2 := tstep files r1.1 r1.2
    let r3 := tstep files r2.1 r2.2
    [stepName th0.pc, stepName r1.2.pc, stepName r2.2.pc, stepName r3.2.pc] = [some "lookup", some "read", some "store", none] ∧
      r1.1 = s ∧ r2.1 = s ∧ r3.1 = (name, t) :: s ∧ (∃ o, r3.2.pc = .done o ∧ o = pick t keys) := by
  simp [tstep, hmiss, hfile, stepName]

/-- on a hit: lookup, then the projection -/
theorem hit_steps (files : Files) (s : State) (name : String) (keys : List String) (t : Table) (hhit : lookup s name = some t) :
    let th0 : Thread := { name := name, keys := keys, pc := .start }
    let r1 := tstep files s th0
    r1.1 = s ∧ (∃ o, r1.2.pc = .done o ∧ o = pick t keys) := by
  simp [tstep, hhit]

/-- the source's loader has exactly the model's steps (regenerated from `coeffs.py` on every run): lookup, read, store, project,
and the cache is named three times in the module — its definition, the lookup and the one store -/
theorem loader_program_gen :
    Gen.loaderSteps = ["lookup", "read", "store"] ++ ["project"] ∧ Gen.cacheMentions = 3 := by decide

end WV.C18Z
