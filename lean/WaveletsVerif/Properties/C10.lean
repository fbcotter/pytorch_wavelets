/-
  C10 — DWT synthesis (`sfb1d`, `SFB1D` / `SFB2D`, `DWT1DInverse`, `DWTInverse`) equals PyWavelets (`idwt`,
  `idwt2`, `waverec`, `waverec2`) on arbitrary coefficient pyramids — not only on the transform of a signal.

  One level, one row: `sfb1dCh` (what `sfb1d` does: two transposed stride-2 convolutions added, then cropped by
  `L-2` on both sides, or folded once and rolled in periodization mode) is PyWavelets' `idwt` formula, for bands of
  length `n` with `2n+2 > L` in the padded modes and with `L-2 ≤ 2n` in periodization (outside that range:
  known finding C10-periodization-short).  `SynthOK m fit` records this per mode; the level step (`None` → zeros,
  un-pad, `SFB1D` / `SFB2D` with its column and row passes) is derived from `SynthOK` alone.  The J-level theorems
  `DWT1DInverse_eq_waverec`, `DWTInverse_eq_waverec2` (one channel) are stated for the modes zero / symmetric / reflect /
  periodic: the model's fold over the levels is simulated by the specification's fold (`foldlM_sim`) under the
  shape invariant `Compat` / `Compat2`.
-/
import WaveletsVerif.Spec.Pywt
import WaveletsVerif.Lemmas.Adjoint
import WaveletsVerif.Lemmas.Per
import WaveletsVerif.Lemmas.Lift
import WaveletsVerif.Lemmas.Img
namespace WV.C10
open Finset WV
variable {R : Type} [CommRing R]

/-- PyWavelets' `idwt` in the padded modes, which share one formula -/
theorem idwt_padded (m : Mode) (hm : m ≠ .periodization) (g0 g1 lo hi : List R) :
    Spec.idwt m g0 g1 lo hi = tab (2 * lo.length + 2 - g0.length) fun t => sumN lo.length fun k =>
      getN lo k * getZ g0 ((t:Int) + g0.length - 2 - 2*k) + getN hi k * getZ g1 ((t:Int) + g0.length - 2 - 2*k) := by
  cases m <;> first | exact absurd rfl hm | rfl

theorem sfb_guard {L L1 n n1 : Nat} (hL : 2 ≤ L) (hg : L1 = L) (hn : 1 ≤ n) (hh : n1 = n) :
    ¬ (L < 2 ∨ L1 ≠ L ∨ n < 1 ∨ n1 ≠ n) := by
  omega

/-- the non-periodization modes of `sfb1d` (zero, symmetric, reflect, periodic all share one
branch): for every pair of bands of equal length `n ≥ 1` and every filter pair of length `L ≥ 2`
with `2n+2 > L`, the code's result is PyWavelets' `idwt`. -/
theorem sfb1dCh_eq_idwt (m : Mode) (hm : m = .zero ∨ m = .symmetric ∨ m = .reflect ∨ m = .periodic)
    (g0 g1 lo hi : List R) (hL : 2 ≤ g0.length) (hg : g1.length = g0.length) (hn : 1 ≤ lo.length)
    (hh : hi.length = lo.length) (hfit : 2 * (g0.length - 2) + 1 ≤ 2 * (lo.length - 1) + g0.length) :
    sfb1dCh m g0 g1 lo hi = some (Spec.idwt m g0 g1 lo hi) := by
  have key : vadd (convT g0 lo (g0.length - 2)) (convT g1 hi (g0.length - 2)) =
      tab (2 * lo.length + 2 - g0.length) fun t => sumN lo.length fun k =>
        getN lo k * getZ g0 ((t:Int) + g0.length - 2 - 2*k) + getN hi k * getZ g1 ((t:Int) + g0.length - 2 - 2*k) := by
    unfold vadd
    apply tab_ext
    · simp only [convT, convTFull, length_tab]; omega
    · intro i hi'
      simp only [convT, convTFull, length_tab] at hi'
      rw [getN_convT _ _ _ _ hi', getN_convT _ _ _ _ (by rw [hh, hg]; exact hi'), sumN_eq, hh,
        ← Finset.sum_add_distrib]
      apply Finset.sum_congr rfl; intro k _
      have e : ((i:Int) + ((g0.length - 2 : Nat) : Int) - 2 * (k:Int)) = (i:Int) + g0.length - 2 - 2*k := by
        push_cast [Nat.cast_sub hL]; ring
      rw [e]
  have hguard := sfb_guard hL hg hn hh
  have hfit' : ¬ (2 * (lo.length - 1) + g0.length < 2 * (g0.length - 2) + 1) := by omega
  rw [idwt_padded m (by rcases hm with rfl | rfl | rfl | rfl <;> decide), ← key]
  rcases hm with rfl | rfl | rfl | rfl <;> simp only [sfb1dCh, hguard, hfit', if_false]

/-! ### periodization synthesis (complement of the known finding: `L − 2 ≤ 2n`) -/

theorem length_vadd_convTFull (g0 g1 lo hi : List R) (hn : 1 ≤ lo.length) :
    (vadd (convTFull g0 lo) (convTFull g1 hi)).length = 2 * lo.length + g0.length - 2 := by
  simp only [vadd, convTFull, length_tab]
  omega

/-- the two transposed convolutions added, read on the integer line: PyWavelets' un-folded synthesis sum -/
theorem getZ_vadd_convTFull (g0 g1 lo hi : List R) (hg : g1.length = g0.length) (hh : hi.length = lo.length)
    (hn : 1 ≤ lo.length) (t : Int) :
    getZ (vadd (convTFull g0 lo) (convTFull g1 hi)) t
      = if t < 0 ∨ ((2 * lo.length + g0.length - 2 : Nat) : Int) ≤ t then 0 else
          sumN lo.length fun k => getN lo k * getZ g0 (t - 2*k) + getN hi k * getZ g1 (t - 2*k) := by
  have hlen := length_vadd_convTFull g0 g1 lo hi hn
  by_cases hc : t < 0 ∨ ((2 * lo.length + g0.length - 2 : Nat) : Int) ≤ t
  · rw [if_pos hc]
    exact getZ_outside _ _ (by rw [hlen]; omega)
  · rw [if_neg hc]
    obtain ⟨s, rfl⟩ : ∃ s : Nat, t = s := ⟨t.toNat, by omega⟩
    rw [← getN_eq_getZ, getN_vadd _ _ _ (by simp [convTFull]; omega), getN_convTFull _ _ _ (by omega),
      getN_convTFull _ _ _ (by rw [hh, hg]; omega), hh, ← Finset.sum_add_distrib, sumN_eq]

/-- a list no longer than `2N` summed over its shifts by multiples of `N`: only the first two shifts meet it -/
theorem sumN_shifts (y : List R) (N n w : Nat) (hy : y.length ≤ 2 * N) (hn : 2 ≤ n) :
    sumN n (fun r => getZ y ((w:Int) + (r:Int) * (N:Int))) = getN y w + getN y (N + w) := by
  have hcast : ∀ r : Nat, (w:Int) + (r:Int) * (N:Int) = ((w + r * N : Nat) : Int) := by
    intro r; push_cast; ring
  rw [sumN_two _ _ hn (fun r hr => by
    rw [hcast]
    have := Nat.mul_le_mul_right N hr
    exact getZ_of_ge _ _ (by omega))]
  rw [hcast 0, hcast 1, ← getN_eq_getZ, ← getN_eq_getZ, Nat.zero_mul, Nat.one_mul, Nat.add_zero, Nat.add_comm w N]

/-- `sfb1d`'s single fold of the tail of length `a ≤ N` onto the head, cut to `N` samples -/
theorem getN_foldAdd_take (y : List R) (a N w : Nat) (hy : y.length = N + a) (hw : w < N) :
    getN ((foldAdd y a N).take N) w = getN y w + getN y (N + w) := by
  rw [getN_take _ _ _ hw]
  unfold foldAdd
  rw [getN_tab, if_pos (by omega)]
  by_cases hwa : w < a
  · rw [if_pos hwa]
  · rw [if_neg hwa, getN_eq_getZ y (N + w), getZ_of_ge y _ (by omega), add_zero]

/-- `sfb1d` in periodization mode (transposed convolutions, ONE fold of the `L−2` tail, roll back by `L/2−1`)
equals PyWavelets' periodized `idwt` for arbitrary bands of equal length `n ≥ 1` and a filter pair of equal length
`L ≥ 2` whenever `L − 2 ≤ 2n` — exactly the complement of the
known finding C10-periodization-short. -/
theorem sfb1dCh_per_eq_idwt_partial (g0 g1 lo hi : List R) (hL : 2 ≤ g0.length) (hg : g1.length = g0.length)
    (hn : 1 ≤ lo.length) (hh : hi.length = lo.length) (hfit : g0.length - 2 ≤ 2 * lo.length) :
    sfb1dCh .periodization g0 g1 lo hi = some (Spec.idwt .periodization g0 g1 lo hi) := by
  simp only [sfb1dCh, Spec.idwt, sfb_guard hL hg hn hh, if_false]
  congr 1
  -- the roll back is by `c = L/2 − 1 ≤ L − 2`
  obtain ⟨c, hc, hcL⟩ : ∃ c, g0.length / 2 = c + 1 ∧ c ≤ g0.length - 2 := ⟨g0.length / 2 - 1, by omega, by omega⟩
  rw [hc, show (1 - ((c + 1 : Nat) : Int)) = -(c:Int) by push_cast; ring]
  have hylen : (vadd (convTFull g0 lo) (convTFull g1 hi)).length = 2 * lo.length + (g0.length - 2) := by
    rw [length_vadd_convTFull g0 g1 lo hi hn]; omega
  set z := (foldAdd (vadd (convTFull g0 lo) (convTFull g1 hi)) (g0.length - 2) (2 * lo.length)).take (2 * lo.length)
    with hz
  have hzlen : z.length = 2 * lo.length := by
    rw [hz, List.length_take, foldAdd, length_tab, hylen]
    exact Nat.min_eq_left (Nat.le_add_right _ _)
  have hcz : c ≤ z.length := by rw [hzlen]; omega
  apply eq_tab_of_getN
  · rw [rollPy_neg z c hcz, length_roll z c, hzlen]
  · intro u hu
    rw [getN_rollPy_neg z c u hcz (by rw [hzlen]; exact hu), hzlen,
      show ((u:Int) + ((c + 1 : Nat) : Int) - 1) = (u:Int) + (c:Int) by push_cast; ring]
    -- both sides read position `w = (u + c) mod 2n`
    obtain ⟨w, hw1, hv⟩ : ∃ w : Nat, w < 2 * lo.length ∧ ((u:Int) + (c:Int)) % ((2 * lo.length : Nat) : Int) = w :=
      ⟨(u + c) % (2 * lo.length), Nat.mod_lt _ (by omega), by rw [Int.natCast_mod, Nat.cast_add]⟩
    rw [hv, ← getN_eq_getZ, hz, getN_foldAdd_take _ _ _ w hylen hw1]
    -- the specification's fold: its summand is the same list read on the integer line
    simp only [← getZ_vadd_convTFull g0 g1 lo hi hg hh hn]
    rw [sumN_shifts _ _ _ w (by rw [hylen]; omega) (Nat.succ_le_succ (Nat.div_pos (by omega) (by omega)))]

/-- In mode `m`, on every pair of bands whose length `n` fits the filter length `L` (`fit L n`), `sfb1d` computes
PyWavelets' `idwt`.  The level loops use nothing else of the mode, so the level steps below take `SynthOK` as hypothesis. -/
def SynthOK (R : Type) [CommRing R] (m : Mode) (fit : Nat → Nat → Prop) : Prop :=
  ∀ (g0 g1 lo hi : List R), 2 ≤ g0.length → g1.length = g0.length → 1 ≤ lo.length → hi.length = lo.length →
    fit g0.length lo.length → sfb1dCh m g0 g1 lo hi = some (Spec.idwt m g0 g1 lo hi)

theorem synthOK_padded (m : Mode) (hm : m = .zero ∨ m = .symmetric ∨ m = .reflect ∨ m = .periodic) :
    SynthOK R m fun L n => 2 * (L - 2) + 1 ≤ 2 * (n - 1) + L :=
  fun g0 g1 lo hi hL hg hn hh hfit => sfb1dCh_eq_idwt m hm g0 g1 lo hi hL hg hn hh hfit

theorem synthOK_per : SynthOK R .periodization fun L n => L - 2 ≤ 2 * n :=
  fun g0 g1 lo hi hL hg hn hh hfit => sfb1dCh_per_eq_idwt_partial g0 g1 lo hi hL hg hn hh hfit

theorem SFB1D_forward_of {m : Mode} {fit : Nat → Nat → Prop} (hS : SynthOK R m fit) (g0 g1 : List R)
    (hL : 2 ≤ g0.length) (hg : g1.length = g0.length) (lo hi : List R) (hn : 1 ≤ lo.length) (hh : hi.length = lo.length)
    (hfit : fit g0.length lo.length) :
    SFB1D_forward m g0 g1 [lo] [hi] = some [Spec.idwt m g0 g1 lo hi] := by
  rw [SFB1D_forward_single, hS g0 g1 lo hi hL hg hn hh hfit]
  rfl

/-- one step of the level loop on the specification side (what `pywt.waverec` does per level) -/
def stepS (m : Mode) (g0 g1 a : List R) (d : Option (List R)) : List R :=
  let dv := match d with
    | some v => v
    | none => a.map fun _ => (0:R)
  let a' := if a.length = dv.length + 1 then a.take (a.length - 1) else a
  Spec.idwt m g0 g1 a' dv

theorem waverec_eq_foldl (m : Mode) (g0 g1 a : List R) (ds : List (Option (List R))) :
    Spec.waverec m g0 g1 a ds = ds.reverse.foldl (stepS m g0 g1) a := rfl

/-- shapes a forward transform produces: at every level the approximation is as long as the detail
band or one sample longer (the un-pad case), the band is non-empty and long enough for the filter -/
def StepOK (g0 : List R) (a : List R) (d : Option (List R)) : Prop :=
  let n := match d with
    | some v => v.length
    | none => a.length
  (a.length = n ∨ a.length = n + 1) ∧ 1 ≤ n ∧ 2 * (g0.length - 2) + 1 ≤ 2 * (n - 1) + g0.length

def Compat (m : Mode) (g0 g1 : List R) : List R → List (Option (List R)) → Prop
  | _, [] => True
  | a, d :: rest => StepOK g0 a d ∧ Compat m g0 g1 (stepS m g0 g1 a d) rest

theorem step_eq_of {m : Mode} {fit : Nat → Nat → Prop} (hS : SynthOK R m fit) (g0 g1 : List R) (hL : 2 ≤ g0.length)
    (hg : g1.length = g0.length) (a : List R) (d : Option (List R))
    (hok : let n := match d with
        | some v => v.length
        | none => a.length
      (a.length = n ∨ a.length = n + 1) ∧ 1 ≤ n ∧ fit g0.length n) :
    DWT1DInverse_step m g0 g1 [a] (d.map fun v => [v]) = some [stepS m g0 g1 a d] := by
  unfold DWT1DInverse_step stepS
  cases d with
  | some v =>
    obtain ⟨hlen, hn, hfit⟩ : (a.length = v.length ∨ a.length = v.length + 1) ∧ 1 ≤ v.length ∧ fit g0.length v.length := hok
    simp only [Option.map_some, List.headD_cons, List.map_cons, List.map_nil]
    -- both sides drop the last sample of `a` under the same condition
    by_cases hc : a.length = v.length + 1
    · rw [if_pos (by omega), if_pos hc]
      have hl : (a.take (a.length - 1)).length = v.length := by rw [List.length_take]; omega
      exact SFB1D_forward_of hS g0 g1 hL hg _ v (by omega) hl.symm (by rw [hl]; exact hfit)
    · rw [if_neg (by omega), if_neg hc]
      have hl : a.length = v.length := by omega
      exact SFB1D_forward_of hS g0 g1 hL hg a v (by omega) hl.symm (by rw [hl]; exact hfit)
  | none =>
    obtain ⟨_, hn, hfit⟩ : (a.length = a.length ∨ a.length = a.length + 1) ∧ 1 ≤ a.length ∧ fit g0.length a.length := hok
    simp only [Option.map_none, List.headD_cons, List.map_cons, List.map_nil, List.length_map]
    rw [if_neg (by omega), if_neg (by omega)]
    exact SFB1D_forward_of hS g0 g1 hL hg a _ hn (by rw [List.length_map]) hfit

/-- one level: `DWT1DInverse`'s loop body (None → zeros, un-pad, `SFB1D`) on one channel is the
specification's step -/
theorem step_eq (m : Mode) (hm : m = .zero ∨ m = .symmetric ∨ m = .reflect ∨ m = .periodic)
    (g0 g1 : List R) (hL : 2 ≤ g0.length) (hg : g1.length = g0.length) (a : List R) (d : Option (List R))
    (hok : StepOK g0 a d) :
    DWT1DInverse_step m g0 g1 [a] (d.map fun v => [v]) = some [stepS m g0 g1 a d] := by
  exact step_eq_of (synthOK_padded m hm) g0 g1 hL hg a d hok

/-- the J-level 1-D synthesis of one channel is PyWavelets' `waverec` on every pyramid of
forward-compatible shape — whether or not it is the transform of a signal — including `None`
levels (zeros) and the un-pad rule, for every number of levels; modes zero / symmetric / reflect /
periodic.  `Compat` is asked of `ds.reverse`: `ds` is finest first and `DWT1DInverse` folds over `yh.reverse`
(Python: `for x1 in highs[::-1]`), coarsest level first, as `Spec.waverec` does. -/
theorem DWT1DInverse_eq_waverec (m : Mode) (hm : m = .zero ∨ m = .symmetric ∨ m = .reflect ∨ m = .periodic)
    (g0 g1 : List R) (hL : 2 ≤ g0.length) (hg : g1.length = g0.length) (a : List R) (ds : List (Option (List R)))
    (hc : Compat m g0 g1 a ds.reverse) :
    DWT1DInverse m g0 g1 [a] (ds.map fun d => d.map fun v => [v]) = some [Spec.waverec m g0 g1 a ds] := by
  rw [waverec_eq_foldl]
  unfold DWT1DInverse
  rw [← List.map_reverse]
  exact foldlM_sim _ (stepS m g0 g1) (fun a => [a]) (fun d => d.map fun v => [v]) (Compat m g0 g1)
    (fun a d _ hc => ⟨step_eq m hm g0 g1 hL hg a d hc.1, hc.2⟩) ds.reverse a hc

/-- non-vacuity of `Compat` (hypothesis `hc` of `DWT1DInverse_eq_waverec`; mode zero, 4-tap integer filters): a concrete
two-level integer pyramid with a None level, listed coarsest level first, is compatible -/
example : Compat (R := Int) .zero [1, 2, 1, 1] [1, -1, 2, 1] [1, 2, 3] [none, some [4, 5, 6, 7]] := by
  simp [Compat, StepOK, stepS, Spec.idwt]

/-- the modes of `sfb1d`'s padded branch (the disjunction spelled out in the 1-D theorems above) -/
def ModeS (m : Mode) : Prop := m = .zero ∨ m = .symmetric ∨ m = .reflect ∨ m = .periodic

theorem modeS_of {m : Mode} (hm : m = .zero ∨ m = .symmetric ∨ m = .periodic) : ModeS m := by
  rcases hm with h | h | h
  · exact Or.inl h
  · exact Or.inr (Or.inl h)
  · exact Or.inr (Or.inr (Or.inr h))

theorem sfb1dImg_H {m : Mode} {fit : Nat → Nat → Prop} (hS : SynthOK R m fit) (g0 g1 : List R) (hL : 2 ≤ g0.length)
    (hg : g1.length = g0.length) (lo hi : Img R) (hw : hi.width = lo.width) (hh : hi.length = lo.length)
    (hn : 1 ≤ lo.length) (hfit : fit g0.length lo.length) :
    sfb1dImg .H m g0 g1 lo hi = some (tr (Spec.zip2 (Spec.idwt m g0 g1) (tr lo) (tr hi))) := by
  have hne : ¬ (lo.width ≠ hi.width) := by simp [hw]
  simp only [sfb1dImg, hne, if_false]
  rw [mapM_total _ (fun j => Spec.idwt m g0 g1 ((tr lo).getD j []) ((tr hi).getD j []))]
  · simp only [Option.map_some, Spec.zip2, tr_length, tab]
  · intro j hj
    have hj' : j < lo.width := by simpa using hj
    apply hS g0 g1 _ _ hL hg
    · rw [getD_tr_length lo j hj']; exact hn
    · rw [getD_tr_length lo j hj', getD_tr_length hi j (by omega)]; exact hh
    · rw [getD_tr_length lo j hj']; exact hfit

theorem sfb1dImg_W {m : Mode} {fit : Nat → Nat → Prop} (hS : SynthOK R m fit) (g0 g1 : List R) (hL : 2 ≤ g0.length)
    (hg : g1.length = g0.length) (lo hi : Img R) (hh : hi.length = lo.length) (w : Nat) (hlo : ∀ r ∈ lo, r.length = w)
    (hhi : ∀ r ∈ hi, r.length = w) (hn : 1 ≤ w) (hfit : fit g0.length w) :
    sfb1dImg .W m g0 g1 lo hi = some (Spec.zip2 (Spec.idwt m g0 g1) lo hi) := by
  have hne : ¬ (lo.length ≠ hi.length) := by simp [hh]
  simp only [sfb1dImg, hne, if_false]
  rw [mapM_total _ (fun i => Spec.idwt m g0 g1 (lo.getD i []) (hi.getD i []))]
  · simp only [Spec.zip2, tab]
  · intro i hi'
    have hi'' : i < lo.length := by simpa using hi'
    have e1 : (lo.getD i []).length = w := hlo _ (getD_mem lo i [] hi'')
    have e2 : (hi.getD i []).length = w := hhi _ (getD_mem hi i [] (by omega))
    apply hS g0 g1 _ _ hL hg
    · rw [e1]; exact hn
    · rw [e1, e2]
    · rw [e1]; exact hfit

theorem idwt_length_all (m : Mode) (g0 g1 lo hi : List R) :
    (Spec.idwt m g0 g1 lo hi).length = if m = .periodization then 2 * lo.length else 2 * lo.length + 2 - g0.length := by
  by_cases hm : m = .periodization
  · rw [if_pos hm, hm]
    simp only [Spec.idwt, length_tab]
  · rw [if_neg hm, idwt_padded m hm, length_tab]

theorem width_tr (x : Img R) (hw : 1 ≤ x.width) : (tr x).width = x.length := by
  have h0 : 0 < (tr x).length := by rw [tr_length]; exact hw
  have : (tr x).headD [] = (tr x).getD 0 [] := by
    cases htx : tr x with
    | nil => rw [htx] at h0; simp at h0
    | cons a l => simp
  unfold Img.width
  rw [this]
  exact getD_tr_length x 0 hw

theorem zip2_length (f : List R → List R → List R) (a b : Img R) : (Spec.zip2 f a b).length = a.length := by
  simp [Spec.zip2, tab]

theorem zip2_width (f : List R → List R → List R) (a b : Img R) (ha : 1 ≤ a.length) :
    (Spec.zip2 f a b).width = (f (a.getD 0 []) (b.getD 0 [])).length := by
  unfold Img.width Spec.zip2 tab
  cases hn : a.length with
  | zero => omega
  | succ k => simp [List.range_succ_eq_map]

theorem zip2_idwt_cols_shape (m : Mode) (g0 g1 : List R) (a b : Img R) (h w : Nat) (hw : 1 ≤ w)
    (sa : a.length = h ∧ a.width = w) :
    (Spec.zip2 (Spec.idwt m g0 g1) (tr a) (tr b)).length = w ∧
    (Spec.zip2 (Spec.idwt m g0 g1) (tr a) (tr b)).width
      = if m = .periodization then 2 * h else 2 * h + 2 - g0.length := by
  constructor
  · rw [zip2_length, tr_length, sa.2]
  · rw [zip2_width _ _ _ (by rw [tr_length]; omega), idwt_length_all, getD_tr_length a 0 (by omega), sa.1]

theorem sfb1dImg_W_cols {m : Mode} {fit : Nat → Nat → Prop} (hS : SynthOK R m fit) (gc0 gc1 gr0 gr1 : List R)
    (hLr : 2 ≤ gr0.length) (hgr : gr1.length = gr0.length) (a b a' b' : Img R) (h w : Nat) (hw : 1 ≤ w)
    (sa : a.length = h ∧ a.width = w) (sa' : a'.length = h ∧ a'.width = w) (hfitr : fit gr0.length w) :
    sfb1dImg .W m gr0 gr1 (tr (Spec.zip2 (Spec.idwt m gc0 gc1) (tr a) (tr b)))
        (tr (Spec.zip2 (Spec.idwt m gc0 gc1) (tr a') (tr b')))
      = some (Spec.zip2 (Spec.idwt m gr0 gr1) (tr (Spec.zip2 (Spec.idwt m gc0 gc1) (tr a) (tr b)))
          (tr (Spec.zip2 (Spec.idwt m gc0 gc1) (tr a') (tr b')))) := by
  have s1 := zip2_idwt_cols_shape m gc0 gc1 a b h w hw sa
  have s2 := zip2_idwt_cols_shape m gc0 gc1 a' b' h w hw sa'
  exact sfb1dImg_W hS gr0 gr1 hLr hgr _ _ (by rw [tr_length, tr_length, s1.2, s2.2]) w
    (fun r hr => by rw [tr_row_length _ r hr, s1.1]) (fun r hr => by rw [tr_row_length _ r hr, s2.1]) hw hfitr

theorem SFB2D_forward_eq_idwt2_of {m : Mode} {fit : Nat → Nat → Prop} (hS : SynthOK R m fit) (gc0 gc1 gr0 gr1 : List R)
    (hLc : 2 ≤ gc0.length) (hgc : gc1.length = gc0.length) (hLr : 2 ≤ gr0.length) (hgr : gr1.length = gr0.length)
    (cA cH cV cD : Img R) (h w : Nat) (hh : 1 ≤ h) (hw : 1 ≤ w)
    (sA : cA.length = h ∧ cA.width = w) (sH : cH.length = h ∧ cH.width = w)
    (sV : cV.length = h ∧ cV.width = w) (sD : cD.length = h ∧ cD.width = w)
    (hfitc : fit gc0.length h) (hfitr : fit gr0.length w) :
    SFB2D_forward m gr0 gr1 gc0 gc1 [cA] [[cH, cV, cD]] = some [Spec.idwt2 m gc0 gc1 gr0 gr1 cA cH cV cD] := by
  obtain ⟨a1, a2⟩ := sA; obtain ⟨b1, b2⟩ := sH; obtain ⟨c1, c2⟩ := sV; obtain ⟨d1, d2⟩ := sD
  simp only [SFB2D_forward, List.map_cons, List.map_nil, List.getD_cons_zero, List.getD_cons_succ]
  rw [sfb1dT_single, sfb1dT_single,
    sfb1dImg_H hS gc0 gc1 hLc hgc cA cH (by omega) (by omega) (by omega) (by rw [a1]; exact hfitc),
    sfb1dImg_H hS gc0 gc1 hLc hgc cV cD (by omega) (by omega) (by omega) (by rw [c1]; exact hfitc)]
  simp only [Option.map_some, Option.bind_eq_bind, Option.bind_some]
  rw [sfb1dT_single, sfb1dImg_W_cols hS gc0 gc1 gr0 gr1 hLr hgr cA cH cV cD h w hw ⟨a1, a2⟩ ⟨c1, c2⟩ hfitr]
  rfl

/-- one level of the 2-D synthesis on one channel is `pywt.idwt2` with (column wavelet, row wavelet): modes zero /
symmetric / reflect / periodic, four bands of one non-empty shape `h × w` with `2h+2 > Lc`, `2w+2 > Lr` -/
theorem SFB2D_forward_eq_idwt2 (m : Mode) (hm : ModeS m) (gc0 gc1 gr0 gr1 : List R)
    (hLc : 2 ≤ gc0.length) (hgc : gc1.length = gc0.length) (hLr : 2 ≤ gr0.length) (hgr : gr1.length = gr0.length)
    (cA cH cV cD : Img R) (h w : Nat) (hh : 1 ≤ h) (hw : 1 ≤ w)
    (sA : cA.length = h ∧ cA.width = w) (sH : cH.length = h ∧ cH.width = w)
    (sV : cV.length = h ∧ cV.width = w) (sD : cD.length = h ∧ cD.width = w)
    (hfitc : 2 * (gc0.length - 2) + 1 ≤ 2 * (h - 1) + gc0.length)
    (hfitr : 2 * (gr0.length - 2) + 1 ≤ 2 * (w - 1) + gr0.length) :
    SFB2D_forward m gr0 gr1 gc0 gc1 [cA] [[cH, cV, cD]] = some [Spec.idwt2 m gc0 gc1 gr0 gr1 cA cH cV cD] := by
  exact SFB2D_forward_eq_idwt2_of (synthOK_padded m hm) gc0 gc1 gr0 gr1 hLc hgc hLr hgr cA cH cV cD h w hh hw
    sA sH sV sD hfitc hfitr

/-- the specification's level step (body of the fold in `Spec.waverec2`) -/
def stepS2 (m : Mode) (gc0 gc1 gr0 gr1 : List R) (a : Img R) (d : Option (List (Img R))) : Img R :=
  let dv : List (Img R) := match d with
    | some v => v
    | none => [izero a.length a.width, izero a.length a.width, izero a.length a.width]
  let d0 := dv.getD 0 []
  let a1 : Img R := if a.length = d0.length + 1 then a.take (a.length - 1) else a
  let a2 := if a1.width = d0.width + 1 then a1.map (fun r => r.take (r.length - 1)) else a1
  Spec.idwt2 m gc0 gc1 gr0 gr1 a2 d0 (dv.getD 1 []) (dv.getD 2 [])

theorem waverec2_eq_foldl (m : Mode) (gc0 gc1 gr0 gr1 : List R) (a : Img R) (ds : List (Option (List (Img R)))) :
    Spec.waverec2 m gc0 gc1 gr0 gr1 a ds = ds.reverse.foldl (stepS2 m gc0 gc1 gr0 gr1) a := rfl

def Shape (x : Img R) (h w : Nat) : Prop := x.length = h ∧ x.width = w

/-- shapes a forward transform produces: per axis the approximation has the band's size or one more (un-pad),
the three bands of a level share one non-empty shape and are long enough for the filters -/
def StepOK2 (gc0 gr0 : List R) (a : Img R) (d : Option (List (Img R))) : Prop :=
  ∃ h w : Nat, 1 ≤ h ∧ 1 ≤ w ∧ (a.length = h ∨ a.length = h + 1) ∧ (a.width = w ∨ a.width = w + 1) ∧
    2 * (gc0.length - 2) + 1 ≤ 2 * (h - 1) + gc0.length ∧ 2 * (gr0.length - 2) + 1 ≤ 2 * (w - 1) + gr0.length ∧
    match d with
    | some v => ∃ cH cV cD, v = [cH, cV, cD] ∧ Shape cH h w ∧ Shape cV h w ∧ Shape cD h w
    | none => a.length = h ∧ a.width = w

theorem izero_shape (h w : Nat) (hh : 1 ≤ h) : Shape (izero h w : Img R) h w :=
  ⟨length_tab2 h w _, width_tab2 h w _ hh⟩

/-- un-padded approximation used by both sides -/
def unpad (a : Img R) (h w : Nat) : Img R :=
  let a1 : Img R := if a.length = h + 1 then a.take (a.length - 1) else a
  if a1.width = w + 1 then a1.map (fun r => r.take (r.length - 1)) else a1

omit [CommRing R] in
theorem unpad_shape (a : Img R) (h w : Nat) (hh : 1 ≤ h) (hl : a.length = h ∨ a.length = h + 1)
    (hwd : a.width = w ∨ a.width = w + 1) : Shape (unpad a h w) h w := by
  unfold unpad
  set a1 : Img R := if a.length = h + 1 then a.take (a.length - 1) else a with ha1
  have h1l : a1.length = h := by
    by_cases hc : a.length = h + 1
    · rw [ha1, if_pos hc]; simp; omega
    · rw [ha1, if_neg hc]; omega
  have h1w : a1.width = a.width := by
    by_cases hc : a.length = h + 1
    · rw [ha1, if_pos hc]; exact take_width a _ (by omega)
    · rw [ha1, if_neg hc]
  by_cases hc2 : a1.width = w + 1
  · simp only [hc2, if_true]
    have := map_take_shape a1 (by omega)
    exact ⟨by rw [this.1, h1l], by rw [this.2, hc2]; omega⟩
  · simp only [hc2, if_false]
    exact ⟨h1l, by omega⟩

/-- the un-padding the module applies to every channel of a stack, decided by the channels' COMMON shape `(A, B)` against
the band shape `(h, w)` -/
def unpadM (A B h w : Nat) (a : Img R) : Img R :=
  let a1 : Img R := if A > h then a.take (a.length - 1) else a
  if B > w then a1.map (fun r => r.take (r.length - 1)) else a1

omit [CommRing R] in
theorem unpadM_eq (A B h w : Nat) (hh : 1 ≤ h) (hA : A = h ∨ A = h + 1) (hB : B = w ∨ B = w + 1) (a : Img R) (sa : Shape a A B) :
    unpadM A B h w a = unpad a h w := by
  unfold unpadM unpad
  have e1 : (a.length = h + 1) ↔ A > h := by rw [sa.1]; omega
  by_cases c1 : A > h
  · have c1' := e1.mpr c1
    have hwt : Img.width (a.take (a.length - 1) : Img R) = a.width := take_width _ _ (by omega)
    rw [if_pos c1, if_pos c1']
    by_cases c2 : B > w
    · rw [if_pos c2, if_pos (by rw [hwt, sa.2]; omega)]
    · rw [if_neg c2, if_neg (by rw [hwt, sa.2]; omega)]
  · have c1' : ¬ (a.length = h + 1) := fun hx => c1 (e1.mp hx)
    rw [if_neg c1, if_neg c1']
    by_cases c2 : B > w
    · rw [if_pos c2, if_pos (by rw [sa.2]; omega)]
    · rw [if_neg c2, if_neg (by rw [sa.2]; omega)]

omit [CommRing R] in
theorem map_unpadM (A B h w : Nat) (as : List (Img R)) :
    (let ll1 := if A > h then as.map (fun im => im.take (im.length - 1)) else as
     (if B > w then ll1.map (fun im => im.map fun r => r.take (r.length - 1)) else ll1)) = as.map (unpadM A B h w) := by
  unfold unpadM
  by_cases c1 : A > h <;> by_cases c2 : B > w <;> simp [c1, c2, List.map_map, Function.comp_def]

/-- a level with detail bands, on a stack of channels of one shape `(A, B)`: the module un-pads every channel against
the shape `(h, w)` of the first band and runs `SFB2D` -/
theorem DWTInverse_step_some (m : Mode) (gc0 gc1 gr0 gr1 : List R) (as : List (Img R)) (v : List (List (Img R)))
    (h w A B : Nat) (hh : 1 ≤ h) (hA : A = h ∨ A = h + 1) (hB : B = w ∨ B = w + 1) (hC : 1 ≤ as.length)
    (hsa : ∀ c < as.length, Shape (as.getD c []) A B) (hv : Shape ((v.getD 0 []).getD 0 []) h w) :
    DWTInverse_step m gc0 gc1 gr0 gr1 as (some v)
      = SFB2D_forward m gr0 gr1 gc0 gc1 (tab as.length fun c => unpad (as.getD c []) h w) v := by
  have h0 := hsa 0 (by omega)
  have hun : as.map (unpadM A B h w) = tab as.length fun c => unpad (as.getD c []) h w := by
    rw [map_eq_tab as _ []]
    exact tab_ext rfl fun c hc => unpadM_eq A B h w hh hA hB _ (hsa c hc)
  unfold DWTInverse_step
  simp only [headD_eq_getD, h0.1, h0.2, hv.1, hv.2]
  rw [map_unpadM A B h w as, hun]

/-- a `None` level on a stack whose first channel has shape `(A, B)`: zero bands of that shape, nothing un-padded -/
theorem DWTInverse_step_none (m : Mode) (gc0 gc1 gr0 gr1 : List R) (as : List (Img R)) (A B : Nat) (hA : 1 ≤ A)
    (hC : 1 ≤ as.length) (h0 : Shape (as.getD 0 []) A B) :
    DWTInverse_step m gc0 gc1 gr0 gr1 as none
      = SFB2D_forward m gr0 gr1 gc0 gc1 as (as.map fun _ => [izero A B, izero A B, izero A B]) := by
  have sz := izero_shape (R := R) A B hA
  unfold DWTInverse_step
  simp only [headD_eq_getD, h0.1, h0.2]
  have e1 : ((as.map fun _ => [izero A B, izero A B, izero A B] : List (List (Img R))).getD 0 []).getD 0 [] = (izero A B : Img R) := by
    rw [getD_map_lt _ as 0 hC [] []]
    rfl
  rw [e1, sz.1, sz.2]
  simp

theorem stepS2_some (m : Mode) (gc0 gc1 gr0 gr1 : List R) (a cH cV cD : Img R) (h w : Nat) (sH : Shape cH h w) :
    stepS2 m gc0 gc1 gr0 gr1 a (some [cH, cV, cD]) = Spec.idwt2 m gc0 gc1 gr0 gr1 (unpad a h w) cH cV cD := by
  simp only [stepS2, unpad, List.getD_cons_zero, List.getD_cons_succ, sH.1, sH.2]

theorem stepS2_none (m : Mode) (gc0 gc1 gr0 gr1 : List R) (a : Img R) (h w : Nat) (hh : 1 ≤ h) (sa : Shape a h w) :
    stepS2 m gc0 gc1 gr0 gr1 a none = Spec.idwt2 m gc0 gc1 gr0 gr1 a (izero h w) (izero h w) (izero h w) := by
  have sz := izero_shape (R := R) h w hh
  simp only [stepS2, List.getD_cons_zero, List.getD_cons_succ, sa.1, sa.2, sz.1, sz.2]
  have c1 : ¬ (h = h + 1) := by omega
  have c2 : ¬ (w = w + 1) := by omega
  simp only [c1, if_false, sa.2, c2]

theorem step_eq2_of {m : Mode} {fit : Nat → Nat → Prop} (hS : SynthOK R m fit) (gc0 gc1 gr0 gr1 : List R)
    (hLc : 2 ≤ gc0.length) (hgc : gc1.length = gc0.length) (hLr : 2 ≤ gr0.length) (hgr : gr1.length = gr0.length)
    (a : Img R) (d : Option (List (Img R))) (h w : Nat) (hh : 1 ≤ h) (hw : 1 ≤ w) (hl : a.length = h ∨ a.length = h + 1)
    (hwd : a.width = w ∨ a.width = w + 1) (hfc : fit gc0.length h) (hfr : fit gr0.length w)
    (hd : match d with
      | some v => ∃ cH cV cD, v = [cH, cV, cD] ∧ Shape cH h w ∧ Shape cV h w ∧ Shape cD h w
      | none => a.length = h ∧ a.width = w) :
    DWTInverse_step m gc0 gc1 gr0 gr1 [a] (d.map fun v => [v]) = some [stepS2 m gc0 gc1 gr0 gr1 a d] := by
  have hsa : ∀ c < [a].length, Shape (([a] : List (Img R)).getD c []) a.length a.width := by
    intro c hc
    have : c = 0 := by simpa using hc
    subst this
    exact ⟨rfl, rfl⟩
  cases d with
  | some v =>
    obtain ⟨cH, cV, cD, rfl, sH, sV, sD⟩ := hd
    rw [Option.map_some, DWTInverse_step_some m gc0 gc1 gr0 gr1 [a] [[cH, cV, cD]] h w a.length a.width hh hl hwd
      (by simp) hsa sH, stepS2_some m gc0 gc1 gr0 gr1 a cH cV cD h w sH]
    exact SFB2D_forward_eq_idwt2_of hS gc0 gc1 gr0 gr1 hLc hgc hLr hgr _ cH cV cD h w hh hw
      (unpad_shape a h w hh hl hwd) sH sV sD hfc hfr
  | none =>
    have sz := izero_shape (R := R) h w hh
    rw [Option.map_none, DWTInverse_step_none m gc0 gc1 gr0 gr1 [a] h w hh (by simp) hd,
      stepS2_none m gc0 gc1 gr0 gr1 a h w hh hd]
    exact SFB2D_forward_eq_idwt2_of hS gc0 gc1 gr0 gr1 hLc hgc hLr hgr a _ _ _ h w hh hw hd sz sz sz hfc hfr

theorem step_eq2 (m : Mode) (hm : ModeS m) (gc0 gc1 gr0 gr1 : List R)
    (hLc : 2 ≤ gc0.length) (hgc : gc1.length = gc0.length) (hLr : 2 ≤ gr0.length) (hgr : gr1.length = gr0.length)
    (a : Img R) (d : Option (List (Img R))) (hok : StepOK2 gc0 gr0 a d) :
    DWTInverse_step m gc0 gc1 gr0 gr1 [a] (d.map fun v => [v]) = some [stepS2 m gc0 gc1 gr0 gr1 a d] := by
  obtain ⟨h, w, hh, hw, hl, hwd, hfc, hfr, hd⟩ := hok
  exact step_eq2_of (synthOK_padded m hm) gc0 gc1 gr0 gr1 hLc hgc hLr hgr a d h w hh hw hl hwd hfc hfr hd

def Compat2 (m : Mode) (gc0 gc1 gr0 gr1 : List R) : Img R → List (Option (List (Img R))) → Prop
  | _, [] => True
  | a, d :: rest => StepOK2 gc0 gr0 a d ∧ Compat2 m gc0 gc1 gr0 gr1 (stepS2 m gc0 gc1 gr0 gr1 a d) rest

/-- the J-level 2-D synthesis of one channel is PyWavelets' `waverec2` (column wavelet, row wavelet) on every
pyramid of forward-compatible shape, including `None` levels and the un-pad rule on both axes, for every number of
levels; modes zero / symmetric / reflect / periodic.  `ds.reverse` as in one dimension (`for h in yh[::-1]`). -/
theorem DWTInverse_eq_waverec2 (m : Mode) (hm : ModeS m) (gc0 gc1 gr0 gr1 : List R)
    (hLc : 2 ≤ gc0.length) (hgc : gc1.length = gc0.length) (hLr : 2 ≤ gr0.length) (hgr : gr1.length = gr0.length)
    (a : Img R) (ds : List (Option (List (Img R)))) (hc : Compat2 m gc0 gc1 gr0 gr1 a ds.reverse) :
    DWTInverse m gc0 gc1 gr0 gr1 [a] (ds.map fun d => d.map fun v => [v])
      = some [Spec.waverec2 m gc0 gc1 gr0 gr1 a ds] := by
  rw [waverec2_eq_foldl]
  unfold DWTInverse
  rw [← List.map_reverse]
  exact foldlM_sim _ (stepS2 m gc0 gc1 gr0 gr1) (fun a => [a]) (fun d => d.map fun v => [v]) (Compat2 m gc0 gc1 gr0 gr1)
    (fun a d _ hc => ⟨step_eq2 m hm gc0 gc1 gr0 gr1 hLc hgc hLr hgr a d hc.1, hc.2⟩) ds.reverse a hc

/-- non-vacuity of `Compat2` (hypothesis `hc` of `DWTInverse_eq_waverec2`; mode zero): a concrete one-level integer
pyramid (2×2 bands, Haar-like integer filters) is compatible -/
example : Compat2 (R := Int) .zero [1, 1] [1, -1] [1, 1] [1, -1] [[1, 2], [3, 4]]
    [some [[[1, 0], [0, 1]], [[2, 0], [0, 2]], [[0, 1], [1, 0]]]] := by
  refine ⟨⟨2, 2, by decide, by decide, Or.inl rfl, Or.inl rfl, by decide, by decide, ?_⟩, trivial⟩
  exact ⟨_, _, _, rfl, ⟨rfl, rfl⟩, ⟨rfl, rfl⟩, ⟨rfl, rfl⟩⟩

end WV.C10
