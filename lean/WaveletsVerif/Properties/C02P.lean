/-
  C02 — perfect reconstruction through the whole 2-D pyramid in PERIODIZATION mode, every number of levels, every image
  size (odd sizes included: the result then carries one extra row / column, as PyWavelets), every pair of even-length
  banks with `PRBank`.

  One level of the specification: `idwt2(dwt2(x))` has `x` in its top-left `H × W` corner and sides `2⌈H/2⌉ × 2⌈W/2⌉`
  (`level2d_pr_per`, from the 1-D `C02.pr_periodization` on every column and row — no size condition).  The un-pad rule
  removes the extra row / column before the next finer synthesis (`C02K.unpad_topleft`), so `waverec2(wavedec2(x))` has
  `x` in its top-left corner for every J (`pyramid2d_pr_per`, stated under `LevelsFitP` together with the shapes the
  inverse accepts).  With `C01P.DWTForward_per_eq_wavedec2` and
  `C10P.DWTInverse_per_eq_waverec2` this is the statement for the implementation models of `DWTForward` / `DWTInverse`
  on a one-channel input wherever the filters fit the levels (`DWT2D_roundtrip_per`, `LevelsFitP`).
-/
import WaveletsVerif.Lemmas.BandSizes
import WaveletsVerif.Properties.C02K
import WaveletsVerif.Properties.C01P
import WaveletsVerif.Properties.C10P
namespace WV.C02P
open Finset WV WV.C04 WV.C05D WV.C02 WV.C02K WV.C05P WV.C01P WV.C10P
variable {R : Type} [CommRing R]

section per
variable (hc0 hc1 gc0 gc1 : List R) (hLc : 2 ≤ hc0.length) (hLce : hc0.length % 2 = 0) (hhc : hc1.length = hc0.length)
  (hgc0 : gc0.length = hc0.length) (hgc1 : gc1.length = hc0.length) (hprc : PRBank hc0 hc1 gc0 gc1)
  (hr0 hr1 gr0 gr1 : List R) (hLr : 2 ≤ hr0.length) (hLre : hr0.length % 2 = 0) (hhr : hr1.length = hr0.length)
  (hgr0 : gr0.length = hr0.length) (hgr1 : gr1.length = hr0.length) (hprr : PRBank hr0 hr1 gr0 gr1)

include hLc hLce hhc hgc0 hgc1 hprc hLr hLre hhr hgr0 hgr1 hprr in
/-- one level in two dimensions, periodization: `idwt2(dwt2(x))` carries `x` in its top-left corner and has the
sides `2⌈H/2⌉ × 2⌈W/2⌉`; the four bands have the shape `⌈H/2⌉ × ⌈W/2⌉` -/
theorem level2d_pr_per (x : Img R) (H W : Nat) (hx : Rect x H W) (hH : 1 ≤ H) (hW : 1 ≤ W) :
    let d := Spec.dwt2 .periodization hc0 hc1 hr0 hr1 x
    Rect d.1 ((H + H % 2) / 2) ((W + W % 2) / 2) ∧
    Rect d.2.1 ((H + H % 2) / 2) ((W + W % 2) / 2) ∧
    Rect d.2.2.1 ((H + H % 2) / 2) ((W + W % 2) / 2) ∧
    Rect d.2.2.2 ((H + H % 2) / 2) ((W + W % 2) / 2) ∧
    TopLeft (Spec.idwt2 .periodization gc0 gc1 gr0 gr1 d.1 d.2.1 d.2.2.1 d.2.2.2) x H W := by
  intro d
  have hK := halfUp_pos H hH
  have hHf := two_mul_halfUp H
  have hKw := halfUp_pos W hW
  have hWf := two_mul_halfUp W
  exact level2d_pr_of .periodization hc0 hc1 gc0 gc1 hr0 hr1 gr0 gr1 hhc hhr x H W _ _
    (2 * ((H + H % 2) / 2)) (2 * ((W + W % 2) / 2)) hx hH hK hKw
    (fun h c _ hc => by rw [length_dwt_per, hc]) (fun h c _ hc => by rw [length_dwt_per, hc])
    (fun u v hu => by rw [length_idwt_per, hu]) (fun u v hu => by rw [length_idwt_per, hu]) hHf hWf
    (fun c hc i hi => pr_periodization hc0 hc1 gc0 gc1 c hLc hLce hhc hgc0 hgc1 hprc (hc ▸ hH) i (hc ▸ hi))
    (fun c hc j hj => pr_periodization hr0 hr1 gr0 gr1 c hLr hLre hhr hgr0 hgr1 hprr (hc ▸ hW) j (hc ▸ hj))

include hLc hLce hhc hgc0 hgc1 hprc hLr hLre hhr hgr0 hgr1 hprr in
/-- `waverec2(wavedec2(x))` in periodization carries `x` in its top-left corner, for every J, and the pyramid has the
shapes the inverse accepts wherever the filters fit the levels -/
theorem pyramid2d_pr_per : ∀ (J : Nat) (x : Img R) (H W : Nat), Rect x H W → 1 ≤ H → 1 ≤ W →
    LevelsFitP hc0.length hr0.length J H W →
    TopLeft (Spec.waverec2 .periodization gc0 gc1 gr0 gr1 (Spec.wavedec2 .periodization hc0 hc1 hr0 hr1 J x).1
      ((Spec.wavedec2 .periodization hc0 hc1 hr0 hr1 J x).2.map some)) x H W ∧
    Compat2P gc0 gc1 gr0 gr1 (Spec.wavedec2 .periodization hc0 hc1 hr0 hr1 J x).1
      ((Spec.wavedec2 .periodization hc0 hc1 hr0 hr1 J x).2.map some).reverse := by
  have hlev := level2d_pr_per hc0 hc1 gc0 gc1 hLc hLce hhc hgc0 hgc1 hprc hr0 hr1 gr0 gr1 hLr hLre hhr hgr0 hgr1 hprr
  have hKc : ∀ H, 1 ≤ H → 1 ≤ (H + H % 2) / 2 := fun H hH => halfUp_pos H hH
  have htl := pyramid2d_topleft_of .periodization hc0 hc1 gc0 gc1 hr0 hr1 gr0 gr1 (fun H => (H + H % 2) / 2)
    (fun W => (W + W % 2) / 2) hKc hKc hlev
  intro J x H W hx hH hW hfit
  refine ⟨htl J x H W hx hH hW, ?_⟩
  apply compat_wavedec2_of .periodization hc0 hc1 hr0 hr1 gc0 gc1 gr0 gr1 (StepOK2P gc0 gr0) (Compat2P gc0 gc1 gr0 gr1)
    (fun _ => trivial) (fun _ _ _ => Iff.rfl)
    (fun J x => ∃ H W, Rect x H W ∧ 1 ≤ H ∧ 1 ≤ W ∧ LevelsFitP hc0.length hr0.length J H W) _ J x ⟨H, W, hx, hH, hW, hfit⟩
  intro J x ⟨H, W, hx, hH, hW, hfH, hfW, hfrest⟩
  obtain ⟨rA, rH, rV, rD, _⟩ := hlev x H W hx hH hW
  have hK := hKc H hH
  have hKw := hKc W hW
  refine ⟨⟨_, _, rA, hK, hKw, hfrest⟩, ?_⟩
  obtain ⟨Hf, Wf, rR, hHf, hWf, _⟩ := htl J _ _ _ rA hK hKw
  refine ⟨_, _, hK, hKw, by rw [rR.1]; exact hHf, by rw [rect_width _ _ _ rR (by omega)]; exact hWf, ?_, ?_, ?_⟩
  · rw [hgc0, two_mul_halfUp_eq H]; exact le_trans (Nat.sub_le _ _) hfH
  · rw [hgr0, two_mul_halfUp_eq W]; exact le_trans (Nat.sub_le _ _) hfW
  · exact ⟨_, _, _, rfl, ⟨rH.1, rect_width _ _ _ rH hK⟩, ⟨rV.1, rect_width _ _ _ rV hK⟩, ⟨rD.1, rect_width _ _ _ rD hK⟩⟩

include hLc hLce hhc hgc0 hgc1 hprc hLr hLre hhr hgr0 hgr1 hprr in
/-- J-level 2-D perfect reconstruction of the implementation models in periodization mode: `DWTInverse(DWTForward(x))`
returns, and its result carries `x` in its top-left corner with at most one extra row and column — one channel `[x]`, every J, every
non-empty image size whose levels the filters fit (`LevelsFitP`), per-axis wavelets, every pair of even-length banks with `PRBank` -/
theorem DWT2D_roundtrip_per (J : Nat) (x : Img R) (H W : Nat) (hx : Rect x H W) (hH : 1 ≤ H) (hW : 1 ≤ W)
    (hfit : LevelsFitP hc0.length hr0.length J H W) :
    ∃ yl yh y, DWTForward .periodization hc0.reverse hc1.reverse hr0.reverse hr1.reverse J [x] = some (yl, yh) ∧
      DWTInverse .periodization gc0 gc1 gr0 gr1 yl (yh.map some) = some [y] ∧ TopLeft y x H W := by
  have hf := DWTForward_per_eq_wavedec2 hr0 hr1 hc0 hc1 hLr hLre hhr hLc hLce hhc J x H W hx hH hW hfit
  obtain ⟨p1, p2⟩ := pyramid2d_pr_per hc0 hc1 gc0 gc1 hLc hLce hhc hgc0 hgc1 hprc hr0 hr1 gr0 gr1 hLr hLre hhr hgr0 hgr1 hprr
    J x H W hx hH hW hfit
  have hi := DWTInverse_per_eq_waverec2 gc0 gc1 gr0 gr1 (hgc0 ▸ hLc) (hgc1.trans hgc0.symm) (hgr0 ▸ hLr) (hgr1.trans hgr0.symm)
    (Spec.wavedec2 .periodization hc0 hc1 hr0 hr1 J x).1 ((Spec.wavedec2 .periodization hc0 hc1 hr0 hr1 J x).2.map some) p2
  refine ⟨_, _, _, hf, ?_, p1⟩
  rw [map_some_map]
  exact hi

end per

/-- the size hypotheses are satisfiable together: `LevelsFitP` and the even length, for the 4-tap integer bank of C02's
`PRBank` example, a 7 × 5 image and two levels -/
example : LevelsFitP ([0, 1, 0, 0] : List Int).length ([0, 1, 0, 0] : List Int).length 2 7 5 ∧ ([0, 1, 0, 0] : List Int).length % 2 = 0 := by
  simp [LevelsFitP]

end WV.C02P
