/-
  C19 — the non-separable one-level analysis bank equals the separable one in the *extension* modes (symmetric,
  reflect), and the non-separable synthesis bank equals the separable one in the modes symmetric, reflect and periodic (`ExtMode`; under
  the size hypotheses of C19S, which has mode zero).  One channel.

  `afb2d_nonsep` pads both axes of the image with an index gather (`mypad`: rows first, then columns) and runs one
  strided 2-D correlation per outer-product kernel; the separable bank pads and filters the rows and then pads and
  filters the columns.  For ANY index map `idx` (half-sample symmetric, whole-sample reflect, …) the image padded on both
  axes is the 1-D padding along the rows and then along the columns (`xpPad_sep`; entry `(u, v)` is
  `x[idx H (u − l1), idx W (v − l2)]`, `xpPad_tab`), so the strided rank-one correlation on it is the separable analysis
  (`band_eq_pad`, by `GLA.corr2_outer_prep`) — every image size, every filter lengths ≥ 2.
  In reflect mode both implementations refuse images shorter than the padding; the theorem is stated where they run
  and the refusal of the non-separable model is `afb2d_nonsep_reflect_raises`.

  In synthesis the padding mode only matters for periodization: the models of `sfb2d_nonsep` and `SFB2D.forward` in
  modes symmetric / reflect / periodic are those of mode zero (`rfl`), hence C19S carries over.
-/
import WaveletsVerif.Properties.C19S
import WaveletsVerif.Properties.C19N
import WaveletsVerif.Properties.C07
namespace WV.C19X
open Finset WV WV.C04 WV.C04Q WV.C06 WV.C05D WV.C05S WV.C03P WV.GLA WV.C19N WV.C19S
variable {R : Type} [CommRing R]

/-- total padding of the extension modes: `2·(outsize − 1) − N + L` -/
def pd (N L : Nat) : Nat := 2 * (dwtCoeffLen N L - 1) + L - N

/-- the padded signal of `afb1d` in an extension mode with index map `idx` -/
def padE (idx : Int → Int → Int) (L : Nat) (c : List R) : List R :=
  padIdx idx c (pd c.length L / 2) ((pd c.length L + 1) / 2)

/-- one filter of `afb1d` in an extension mode: pad by the index map, stride-2 correlation -/
def Ap (idx : Int → Int → Int) (w c : List R) : List R := corr w (padE idx w.length c) 2 1

theorem pd_split (N L : Nat) : pd N L / 2 + (pd N L + 1) / 2 = pd N L := by omega

theorem pd_total (N L : Nat) (hL : 2 ≤ L) (hN : 1 ≤ N) : N + pd N L = 2 * (dwtCoeffLen N L - 1) + L :=
  (afb_pad_spec N L hL hN).2.2

theorem padE_length (idx : Int → Int → Int) (L : Nat) (c : List R) : (padE idx L c).length = c.length + pd c.length L := by
  unfold padE padIdx
  rw [length_tab]
  have := pd_split c.length L
  omega

theorem Ap_length (idx : Int → Int → Int) (w c : List R) (hL : 2 ≤ w.length) (hN : 1 ≤ c.length) :
    (Ap idx w c).length = dwtCoeffLen c.length w.length := by
  unfold Ap
  rw [corr_length, padE_length, pd_total _ _ hL hN]
  exact corrLen_two _ _ (afb_pad_spec c.length w.length hL hN).1 (by omega)

theorem getN_padE (idx : Int → Int → Int) (L : Nat) (c : List R) (u : Nat) (hu : u < c.length + pd c.length L) :
    getN (padE idx L c) u = getZ c (idx c.length ((u:Int) - ((pd c.length L / 2 : Nat):Int))) := by
  rw [getN_eq_getZ]
  unfold padE
  rw [getZ_padIdx idx c _ _ (u:Int) (by omega) (by have := pd_split c.length L; omega)]

theorem GL_padE (idx : Int → Int → Int) (L n : Nat) (hn : 1 ≤ n) : GL (padE (R := R) idx L) n (n + pd n L) := by
  have g := GL_padIdx (R := R) idx (pd n L / 2) ((pd n L + 1) / 2) n hn
  have e : pd n L / 2 + n + (pd n L + 1) / 2 = n + pd n L := by omega
  rw [e] at g
  exact GL.congr g (fun c hc => by unfold padE; rw [hc])

theorem afb1dOne_symmetric_val (w c : List R) (hL : 2 ≤ w.length) (hN : 1 ≤ c.length) :
    afb1dOne .symmetric w c = some (Ap symIdx w c) :=
  C07.afb1dOne_symmetric_val w c hL hN

theorem afb1dOne_reflect_val (w c : List R) (hL : 2 ≤ w.length) (hN : 1 ≤ c.length)
    (hfit : pd c.length w.length / 2 < c.length ∧ (pd c.length w.length + 1) / 2 < c.length) :
    afb1dOne .reflect w c = some (Ap reflIdx w c) := by
  have hg : ¬ (w.length < 2 ∨ c.length < 1) := by omega
  unfold pd at hfit
  simp only [afb1dOne, hg, if_false, hfit, and_self, if_true]
  rfl

/-- `mypad` on the rows and then on the columns, as the model of `afb2d_nonsep` builds it -/
def xpPad (idx : Int → Int → Int) (Ly Lx : Nat) (x : Img R) : Img R :=
  let p1 := pd x.length Ly
  let p2 := pd x.width Lx
  let xr := x.map fun r => padIdx idx r (p2/2) ((p2+1)/2)
  tr ((tr xr).map fun c => padIdx idx c (p1/2) ((p1+1)/2))

/-- `mypad` on both axes is the 1-D padding along the rows and then along the columns -/
theorem xpPad_sep (idx : Int → Int → Int) (Ly Lx : Nat) (x : Img R) (H W : Nat) (hx : Rect x H W) (hH : 1 ≤ H) (hW : 1 ≤ W) :
    xpPad idx Ly Lx x = alongH (padE idx Ly) (alongW (padE idx Lx) x) := by
  have hw : x.width = W := rect_width x H W hx hH
  have hxr : (x.map fun r => padIdx idx r (pd W Lx/2) ((pd W Lx+1)/2)) = alongW (padE idx Lx) x := by
    unfold alongW
    apply List.map_congr_left
    intro r hr
    unfold padE; rw [hx.2 r hr]
  have hl : (alongW (padE idx Lx) x).length = H := (GL_alongW_rect (GL_padE idx Lx W hW) x H hx).1
  unfold xpPad alongH
  simp only [hx.1, hw, hxr]
  congr 1
  apply List.map_congr_left
  intro c hc
  unfold padE
  rw [tr_row_length _ c hc, hl]

theorem xpPad_tab (idx : Int → Int → Int) (Ly Lx : Nat) (x : Img R) (H W : Nat) (hx : Rect x H W) (hH : 1 ≤ H) (hW : 1 ≤ W) :
    xpPad idx Ly Lx x = tab2 (H + pd H Ly) (W + pd W Lx) fun u v =>
      if 0 ≤ idx H ((u:Int) - ((pd H Ly / 2 : Nat):Int)) ∧ idx H ((u:Int) - ((pd H Ly / 2 : Nat):Int)) < H then
        getZ (x.getD (idx H ((u:Int) - ((pd H Ly / 2 : Nat):Int))).toNat []) (idx W ((v:Int) - ((pd W Lx / 2 : Nat):Int)))
      else 0 := by
  have hR : alongW (padE idx Lx) x = tab2 H (W + pd W Lx) fun i j => getN (padE idx Lx (x.getD i [])) j :=
    alongW_tab2 (padE idx Lx) x H W _ hx (fun c hc => by rw [padE_length, hc])
  rw [xpPad_sep idx Ly Lx x H W hx hH hW,
    alongH_tab2 (padE idx Ly) _ H (H + pd H Ly) (W + pd W Lx) (by rw [hR]; exact tab2_rect _ _ _) hH (by omega)
    (fun c hc => by rw [padE_length, hc])]
  apply tab2_congr; intro u hu v hv
  have hcol : col (alongW (padE idx Lx) x) v = tab H fun i => getN (padE idx Lx (x.getD i [])) v := by
    rw [hR, col_tab2 _ _ _ v hv]
  have hcl : (col (alongW (padE idx Lx) x) v).length = H := by rw [hcol, length_tab]
  rw [getN_padE idx Ly _ u (by rw [hcl]; exact hu), hcl, hcol, getZ_tab]
  split
  · rename_i hs
    have hrow : (x.getD (idx H ((u:Int) - ((pd H Ly / 2 : Nat):Int))).toNat []).length = W :=
      row_length x H W hx _ (by omega)
    rw [getN_padE idx Lx _ v (by rw [hrow]; exact hv), hrow]
  · rfl

/-- one sub-band in an extension mode: the strided 2-D correlation with `outerRev hc hr` on the image padded on both
axes is the padded row pass with `hr.reverse` followed by the padded column pass with `hc.reverse` -/
theorem band_eq_pad (idx : Int → Int → Int) (hc hr : List R) (Ly Lx : Nat) (hcl : hc.length = Ly) (hrl : hr.length = Lx)
    (hLy : 2 ≤ Ly) (hLx : 2 ≤ Lx) (x : Img R) (H W : Nat) (hx : Rect x H W) (hH : 1 ≤ H) (hW : 1 ≤ W) :
    corr2 (outerRev hc hr) (xpPad idx Ly Lx x) 2 2 = alongH (Ap idx hc.reverse) (alongW (Ap idx hr.reverse) x) := by
  have hcr : hc.reverse.length = Ly := by rw [List.length_reverse, hcl]
  have hrr : hr.reverse.length = Lx := by rw [List.length_reverse, hrl]
  have hMw : 1 ≤ corrLen (W + pd W Lx) hr.reverse.length 2 1 := by
    rw [hrr, pd_total W Lx hLx hW, corrLen_two _ _ (afb_pad_spec W Lx hLx hW).1 (by omega)]
    exact (afb_pad_spec W Lx hLx hW).1
  have eA : ∀ (w : List R) (L : Nat), w.length = L → (fun c => corr w (padE idx L c) 2 1) = Ap idx w := by
    intro w L h; subst h; rfl
  rw [xpPad_sep idx Ly Lx x H W hx hH hW, C19.outerRev_eq,
    corr2_outer_prep hc.reverse hr.reverse _ _ H W _ _ (GL_padE idx Ly H hH) (GL_padE idx Lx W hW) x hx hH (by omega) (by omega)
      (by rw [hcr]; omega) hMw,
    eA _ _ hcr, eA _ _ hrr]

/-- `afb2d_nonsep` = `afb2d` in mode symmetric, every image size and every filter lengths ≥ 2 -/
theorem afb2d_nonsep_symmetric_eq_sep (hc0 hc1 hr0 hr1 : List R) (hLy : 2 ≤ hc0.length) (hLx : 2 ≤ hr0.length)
    (hc : hc1.length = hc0.length) (hr : hr1.length = hr0.length) (x : Img R) (H W : Nat) (hx : Rect x H W) (hH : 1 ≤ H) (hW : 1 ≤ W) :
    afb2dNonsepCh .symmetric hc0 hc1 hr0 hr1 x
      = some [alongH (Ap symIdx hc0.reverse) (alongW (Ap symIdx hr0.reverse) x), alongH (Ap symIdx hc1.reverse) (alongW (Ap symIdx hr0.reverse) x),
              alongH (Ap symIdx hc0.reverse) (alongW (Ap symIdx hr1.reverse) x), alongH (Ap symIdx hc1.reverse) (alongW (Ap symIdx hr1.reverse) x)] := by
  have hw : x.width = W := rect_width x H W hx hH
  have hguard : ¬ (hc0.length < 2 ∨ hr0.length < 2 ∨ hc1.length ≠ hc0.length ∨ hr1.length ≠ hr0.length ∨ x.length < 1 ∨ x.width < 1) := by
    rw [hx.1, hw]; omega
  have hval : afb2dNonsepCh .symmetric hc0 hc1 hr0 hr1 x
      = some ([outerRev hc0 hr0, outerRev hc1 hr0, outerRev hc0 hr1, outerRev hc1 hr1].map fun f =>
          corr2 f (xpPad symIdx hc0.length hr0.length x) 2 2) := by
    simp only [afb2dNonsepCh, hguard, if_false, xpPad, pd]
  rw [hval]
  simp only [List.map_cons, List.map_nil]
  rw [band_eq_pad symIdx hc0 hr0 _ _ rfl rfl hLy hLx x H W hx hH hW, band_eq_pad symIdx hc1 hr0 _ _ hc rfl hLy hLx x H W hx hH hW,
    band_eq_pad symIdx hc0 hr1 _ _ rfl hr hLy hLx x H W hx hH hW, band_eq_pad symIdx hc1 hr1 _ _ hc hr hLy hLx x H W hx hH hW]

/-- `afb2d_nonsep` = `afb2d` in mode reflect, wherever the padding fits inside the image (elsewhere torch refuses) -/
theorem afb2d_nonsep_reflect_eq_sep (hc0 hc1 hr0 hr1 : List R) (hLy : 2 ≤ hc0.length) (hLx : 2 ≤ hr0.length)
    (hc : hc1.length = hc0.length) (hr : hr1.length = hr0.length) (x : Img R) (H W : Nat) (hx : Rect x H W) (hH : 1 ≤ H) (hW : 1 ≤ W)
    (hfit : pd H hc0.length / 2 < H ∧ (pd H hc0.length + 1) / 2 < H ∧ pd W hr0.length / 2 < W ∧ (pd W hr0.length + 1) / 2 < W) :
    afb2dNonsepCh .reflect hc0 hc1 hr0 hr1 x
      = some [alongH (Ap reflIdx hc0.reverse) (alongW (Ap reflIdx hr0.reverse) x), alongH (Ap reflIdx hc1.reverse) (alongW (Ap reflIdx hr0.reverse) x),
              alongH (Ap reflIdx hc0.reverse) (alongW (Ap reflIdx hr1.reverse) x), alongH (Ap reflIdx hc1.reverse) (alongW (Ap reflIdx hr1.reverse) x)] := by
  have hw : x.width = W := rect_width x H W hx hH
  have hguard : ¬ (hc0.length < 2 ∨ hr0.length < 2 ∨ hc1.length ≠ hc0.length ∨ hr1.length ≠ hr0.length ∨ x.length < 1 ∨ x.width < 1) := by
    rw [hx.1, hw]; omega
  have hval : afb2dNonsepCh .reflect hc0 hc1 hr0 hr1 x
      = some ([outerRev hc0 hr0, outerRev hc1 hr0, outerRev hc0 hr1, outerRev hc1 hr1].map fun f =>
          corr2 f (xpPad reflIdx hc0.length hr0.length x) 2 2) := by
    have hfit' : pd x.length hc0.length / 2 < x.length ∧ (pd x.length hc0.length + 1) / 2 < x.length ∧
        pd x.width hr0.length / 2 < x.width ∧ (pd x.width hr0.length + 1) / 2 < x.width := by rw [hx.1, hw]; exact hfit
    unfold pd at hfit'
    simp only [afb2dNonsepCh, hguard, if_false, xpPad, pd]
    rw [if_pos hfit']
  rw [hval]
  simp only [List.map_cons, List.map_nil]
  rw [band_eq_pad reflIdx hc0 hr0 _ _ rfl rfl hLy hLx x H W hx hH hW, band_eq_pad reflIdx hc1 hr0 _ _ hc rfl hLy hLx x H W hx hH hW,
    band_eq_pad reflIdx hc0 hr1 _ _ rfl hr hLy hLx x H W hx hH hW, band_eq_pad reflIdx hc1 hr1 _ _ hc hr hLy hLx x H W hx hH hW]

/-- in reflect mode the non-separable model refuses whenever a padding does not fit inside the image -/
theorem afb2d_nonsep_reflect_raises (hc0 hc1 hr0 hr1 : List R) (x : Img R)
    (hfit : ¬ (pd x.length hc0.length / 2 < x.length ∧ (pd x.length hc0.length + 1) / 2 < x.length ∧
               pd x.width hr0.length / 2 < x.width ∧ (pd x.width hr0.length + 1) / 2 < x.width)) :
    afb2dNonsepCh .reflect hc0 hc1 hr0 hr1 x = none := by
  unfold pd at hfit
  by_cases hg : (hc0.length < 2 ∨ hr0.length < 2 ∨ hc1.length ≠ hc0.length ∨ hr1.length ≠ hr0.length ∨ x.length < 1 ∨ x.width < 1)
  · simp only [afb2dNonsepCh, hg, if_true]
  · simp only [afb2dNonsepCh, hg, if_false]
    rw [if_neg hfit]

/-- symmetric mode: the non-separable bank and the autograd Function `AFB2D.forward` agree band by band -/
theorem afb2d_nonsep_symmetric_eq_AFB2D (hc0 hc1 hr0 hr1 : List R) (hLy : 2 ≤ hc0.length) (hLx : 2 ≤ hr0.length)
    (hc : hc1.length = hc0.length) (hr : hr1.length = hr0.length) (x : Img R) (H W : Nat) (hx : Rect x H W) (hH : 1 ≤ H) (hW : 1 ≤ W) :
    ∃ ll lh hl hh, afb2dNonsepCh .symmetric hc0 hc1 hr0 hr1 x = some [ll, lh, hl, hh] ∧
      AFB2D_forward .symmetric hr0.reverse hr1.reverse hc0.reverse hc1.reverse [x] = some ([ll], [[lh, hl, hh]]) :=
  ⟨_, _, _, _, afb2d_nonsep_symmetric_eq_sep hc0 hc1 hr0 hr1 hLy hLx hc hr x H W hx hH hW,
    C05D.AFB2D_forward_total .symmetric (Ap symIdx) hr0.reverse hr1.reverse hc0.reverse hc1.reverse (by simp [hr]) (by simp [hc]) x H W hx
      (fun w c hw hcl => afb1dOne_symmetric_val w c (by rw [hw]; simpa using hLx) (by omega))
      (fun w c hw hcl => afb1dOne_symmetric_val w c (by rw [hw]; simpa using hLy) (by omega))⟩

/-- reflect mode: the non-separable bank and `AFB2D.forward` agree band by band wherever the padding fits -/
theorem afb2d_nonsep_reflect_eq_AFB2D (hc0 hc1 hr0 hr1 : List R) (hLy : 2 ≤ hc0.length) (hLx : 2 ≤ hr0.length)
    (hc : hc1.length = hc0.length) (hr : hr1.length = hr0.length) (x : Img R) (H W : Nat) (hx : Rect x H W) (hH : 1 ≤ H) (hW : 1 ≤ W)
    (hfit : pd H hc0.length / 2 < H ∧ (pd H hc0.length + 1) / 2 < H ∧ pd W hr0.length / 2 < W ∧ (pd W hr0.length + 1) / 2 < W) :
    ∃ ll lh hl hh, afb2dNonsepCh .reflect hc0 hc1 hr0 hr1 x = some [ll, lh, hl, hh] ∧
      AFB2D_forward .reflect hr0.reverse hr1.reverse hc0.reverse hc1.reverse [x] = some ([ll], [[lh, hl, hh]]) :=
  ⟨_, _, _, _, afb2d_nonsep_reflect_eq_sep hc0 hc1 hr0 hr1 hLy hLx hc hr x H W hx hH hW hfit,
    C05D.AFB2D_forward_total .reflect (Ap reflIdx) hr0.reverse hr1.reverse hc0.reverse hc1.reverse (by simp [hr]) (by simp [hc]) x H W hx
      (fun w c hw hcl => afb1dOne_reflect_val w c (by rw [hw]; simpa using hLx) (by omega)
        (by rw [hw, hcl, List.length_reverse]; exact ⟨hfit.2.2.1, hfit.2.2.2⟩))
      (fun w c hw hcl => afb1dOne_reflect_val w c (by rw [hw]; simpa using hLy) (by omega)
        (by rw [hw, hcl, List.length_reverse]; exact ⟨hfit.1, hfit.2.1⟩))⟩

/-- a padding mode other than zero and periodization that the synthesis banks accept -/
def ExtMode (m : Mode) : Prop := m = .symmetric ∨ m = .reflect ∨ m = .periodic

theorem sfb2dNonsep_mode (m : Mode) (hm : ExtMode m) (dense : Bool) (gc0 gc1 gr0 gr1 : List R) (bands : List (Img R)) :
    sfb2dNonsepCh m dense gc0 gc1 gr0 gr1 bands = sfb2dNonsepCh .zero dense gc0 gc1 gr0 gr1 bands := by
  rcases hm with rfl | rfl | rfl <;> rfl

theorem sfb1dCh_mode (m : Mode) (hm : ExtMode m) (g0 g1 lo hi : List R) : sfb1dCh m g0 g1 lo hi = sfb1dCh .zero g0 g1 lo hi := by
  rcases hm with rfl | rfl | rfl <;> rfl

theorem SFB2D_forward_mode (m : Mode) (hm : ExtMode m) (gr0 gr1 gc0 gc1 : List R) (low : List (Img R)) (highs : List (List (Img R))) :
    SFB2D_forward m gr0 gr1 gc0 gc1 low highs = SFB2D_forward .zero gr0 gr1 gc0 gc1 low highs := by
  have h : sfb1dCh m = (sfb1dCh .zero : List R → List R → List R → List R → Option (List R)) := by
    funext g0 g1 lo hi; exact sfb1dCh_mode m hm g0 g1 lo hi
  unfold SFB2D_forward sfb1dT sfb1dImg
  rw [h]

section synth
variable (gr0 gr1 gc0 gc1 : List R) (hLr : 2 ≤ gr0.length) (hgr : gr1.length = gr0.length)
    (hLc : 2 ≤ gc0.length) (hgc : gc1.length = gc0.length) (Kh Kw : Nat) (hKh : 1 ≤ Kh) (hKw : 1 ≤ Kw)
    (hfc : gc0.length ≤ 2 * Kh + 1) (hfr : gr0.length ≤ 2 * Kw + 1)

include hLr hgr hLc hgc hKh hKw hfc hfr in
/-- `sfb2d_nonsep` = `SFB2D.forward` in modes symmetric, reflect and periodic -/
theorem sfb2d_nonsep_ext_eq_SFB2D (m : Mode) (hm : ExtMode m) (dense : Bool) (ll lh hl hh : Img R) (r1 : Rect ll Kh Kw)
    (r2 : Rect lh Kh Kw) (r3 : Rect hl Kh Kw) (r4 : Rect hh Kh Kw) :
    ∃ y, sfb2dNonsepCh m dense gc0 gc1 gr0 gr1 [ll, lh, hl, hh] = some y ∧
      SFB2D_forward m gr0 gr1 gc0 gc1 [ll] [[lh, hl, hh]] = some [y] := by
  rw [sfb2dNonsep_mode m hm, SFB2D_forward_mode m hm]
  exact sfb2d_nonsep_zero_eq_SFB2D gr0 gr1 gc0 gc1 hLr hgr hLc hgc Kh Kw hKh hKw hfc hfr dense ll lh hl hh r1 r2 r3 r4

end synth

/-- the hypotheses `hx` and `hfit` of `afb2d_nonsep_reflect_eq_sep` are satisfiable: a 3×4 image, reflect padding fits for 2-tap filters -/
example : Rect ([[1,2,3,4],[5,6,7,8],[9,10,11,12]] : Img Int) 3 4 ∧
    (pd 3 2 / 2 < 3 ∧ (pd 3 2 + 1) / 2 < 3 ∧ pd 4 2 / 2 < 4 ∧ (pd 4 2 + 1) / 2 < 4) := by
  refine ⟨by constructor <;> simp, by decide⟩

end WV.C19X
