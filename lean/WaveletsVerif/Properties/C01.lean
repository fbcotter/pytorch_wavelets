/-
  C01 — DWT analysis equals PyWavelets.

  The model of `afb1d` (what lowlevel.py does: pad sizes, index vectors, roll + zero-padded strided
  correlation + fold) returns `Spec.dwt`, PyWavelets' closed index formula over the un-reversed filter,
  over any commutative ring of scalars: for every signal length ≥ 1 and filter length ≥ 2 in the modes
  zero / symmetric / periodic; in mode reflect, for signal length ≥ 2, whenever `afb1d` returns at all (it
  raises when a pad is not smaller than the signal); in mode periodization for even filter length `L ≤ N + N % 2` (for
  shorter signals the code differs from PyWavelets: known finding C01-periodization-short, witness
  below).  On top of the one-level 1-D statement: `AFB2D.forward` is `dwt2`, `DWTForward` is `wavedec2`
  for every J (one channel), `AFB1D.forward` and `DWT1DForward` are `dwt` / `wavedec` channel by channel
  for every J and any number of channels — these for zero / symmetric / periodic (`ModeOK`).
-/
import WaveletsVerif.Lemmas.Img
import WaveletsVerif.Lemmas.Per
import WaveletsVerif.Spec.Pywt
import WaveletsVerif.Lemmas.Lift
namespace WV.C01
open Finset WV
variable {R : Type} [CommRing R]

/-- `p = 2*(outsize-1) - N + L` of `afb1d` -/
def padTotal (N L : Nat) : Nat := 2 * (dwtCoeffLen N L - 1) + L - N

/-- mode `zero`: pre-pad for odd `p`, symmetric zero padding `p//2`, stride-2 correlation with
the reversed buffer = `Σ_j h[j]·x̃(2k+1−j)` with zero extension. All signal lengths ≥ 1 and filter
lengths ≥ 2. -/
theorem afb1dOne_zero_eq_dwt (h x : List R) (hL : 2 ≤ h.length) (hN : 1 ≤ x.length) :
    afb1dOne .zero h.reverse x = some (Spec.dwt .zero h x) := by
  obtain ⟨hD, hhalf, hsum⟩ := afb_pad_spec x.length h.length hL hN
  have hg : ¬ (h.length < 2 ∨ x.length < 1) := afb_guard hL hN
  simp only [afb1dOne, Spec.dwt, List.length_reverse, if_neg hg]
  refine congrArg some ?_
  apply corr_reverse_ext h _ _ (Spec.ext .zero x) hL hD
  · rw [length_zeroPad_split, hsum]
  · intro i _
    rw [getZ_zeroPad_split, hhalf]
    rfl

/-- shared proof for the index-vector modes: the buffer holds `x[idx(i − (L−2))]` wherever it is read -/
private theorem afb_idx_eq (idx : Int → Int → Int) (h x : List R) (hL : 2 ≤ h.length) (hN : 1 ≤ x.length) :
    corr h.reverse (padIdx idx x (padTotal x.length h.length / 2) ((padTotal x.length h.length + 1) / 2)) 2 1
      = tab (dwtCoeffLen x.length h.length) fun k => sumN h.length fun j =>
          getN h j * getZ x (idx x.length (2*(k:Int) + 1 - j)) := by
  obtain ⟨hD, hhalf, hsum⟩ := afb_pad_spec x.length h.length hL hN
  unfold padTotal
  apply corr_reverse_ext h _ _ (fun i => getZ x (idx x.length i)) hL hD
  · rw [length_padIdx, ← hsum]; omega
  · intro i hi
    rw [length_padIdx] at hi
    rw [getZ_padIdx idx x _ _ i (Int.natCast_nonneg _) (Int.ofNat_lt.mpr hi), hhalf]

theorem afb1dOne_symmetric_eq_dwt (h x : List R) (hL : 2 ≤ h.length) (hN : 1 ≤ x.length) :
    afb1dOne .symmetric h.reverse x = some (Spec.dwt .symmetric h x) := by
  have hg : ¬ (h.length < 2 ∨ x.length < 1) := afb_guard hL hN
  simp only [afb1dOne, Spec.dwt, List.length_reverse, if_neg hg]
  exact congrArg some (afb_idx_eq symIdx h x hL hN)

theorem afb1dOne_periodic_eq_dwt (h x : List R) (hL : 2 ≤ h.length) (hN : 1 ≤ x.length) :
    afb1dOne .periodic h.reverse x = some (Spec.dwt .periodic h x) := by
  have hg : ¬ (h.length < 2 ∨ x.length < 1) := afb_guard hL hN
  simp only [afb1dOne, Spec.dwt, List.length_reverse, if_neg hg]
  exact congrArg some (afb_idx_eq perIdx h x hL hN)

/-- periodization, even `N`: roll by `L/2`, zero-padded stride-2 correlation and ONE wrap-around fold
equal PyWavelets' circular formula when the (even) length is at least the (even) filter length.
The hypothesis `L ≤ N` is needed: below it the code stops agreeing with PyWavelets (known finding
C01-periodization-short; witness below). Odd `N` is the next theorem. -/
theorem afb1dOne_per_eq_dwt_partial (h x : List R) (hLe : h.length % 2 = 0) (hL : 2 ≤ h.length)
    (hNe : x.length % 2 = 0) (hLN : h.length ≤ x.length) :
    afb1dOne .periodization h.reverse x = some (Spec.dwt .periodization h x) := by
  have hg : ¬ (h.length < 2 ∨ x.length < 1) := afb_guard hL (Nat.le_trans (Nat.le_of_succ_le hL) hLN)
  have hodd : ¬ (x.length % 2 = 1) := by rw [hNe]; exact Nat.zero_ne_one
  simp only [afb1dOne, Spec.dwt, hodd, if_false, List.length_reverse]
  rw [if_neg hg]
  exact congrArg some (afbPer_even h x hLe hL hNe hLN)

/-- periodization for every length (odd lengths repeat their last sample first), whenever the even-extended
length is at least the (even) filter length: exactly the complement of the known finding. -/
theorem afb1dOne_per_eq_dwt_partial_all (h x : List R) (hLe : h.length % 2 = 0) (hL : 2 ≤ h.length)
    (hN : 1 ≤ x.length) (hLN : h.length ≤ x.length + x.length % 2) :
    afb1dOne .periodization h.reverse x = some (Spec.dwt .periodization h x) := by
  by_cases hpar : x.length % 2 = 0
  · rw [hpar, Nat.add_zero] at hLN
    exact afb1dOne_per_eq_dwt_partial h x hLe hL hpar hLN
  · have hodd : x.length % 2 = 1 := Nat.mod_two_ne_zero.mp hpar
    have hg : ¬ (h.length < 2 ∨ x.length < 1) := afb_guard hL hN
    set x' := x ++ [getN x (x.length - 1)] with hx'
    have hlen' : x'.length = x.length + 1 := by rw [hx', List.length_append, List.length_singleton]
    rw [hodd] at hLN
    have key := afbPer_even h x' hLe hL (by rw [hlen']; omega) (by rw [hlen']; exact hLN)
    simp only [afb1dOne, Spec.dwt, hodd, if_true, List.length_reverse]
    rw [if_neg hg, sliceFrom_last x hN]
    exact congrArg some key

/-- known finding, witnessed on integers: for a length-4 filter on a length-2 signal the code's
single fold differs from PyWavelets' periodization -/
example : afb1dOne .periodization ([1, 2, 3, 4] : List Int).reverse [1, 2]
    ≠ some (Spec.dwt .periodization [1, 2, 3, 4] [1, 2]) := by decide

/-- reflect: torch's single-fold `F.pad(reflect)` index agrees with PyWavelets' periodic whole-sample
reflection on the range it is allowed to address -/
theorem reflIdx_eq_reflIdxP (n i : Int) (hn : 2 ≤ n) (h0 : -n < i) (h1 : i < 2*n - 1) :
    reflIdx n i = reflIdxP n i := by
  unfold reflIdx reflIdxP
  have hn1 : ¬ (n ≤ 1) := by omega
  simp only [hn1, if_false]
  by_cases hneg : i < 0
  · simp only [hneg, if_true]
    have e : i % (2*n - 2) = i + (2*n - 2) := by
      rw [← Int.add_emod_right]; exact Int.emod_eq_of_lt (by omega) (by omega)
    rw [e]; split <;> omega
  · simp only [hneg, if_false]
    by_cases hge : n ≤ i
    · simp only [hge, if_true]
      by_cases hlt : i < 2*n - 2
      · have e : i % (2*n - 2) = i := Int.emod_eq_of_lt (by omega) hlt
        rw [e]; split <;> omega
      · have hi : i = 2*n - 2 := by omega
        have e : i % (2*n - 2) = 0 := by rw [hi]; exact Int.emod_self
        rw [e]; split <;> omega
    · simp only [hge, if_false]
      have e : i % (2*n - 2) = i := Int.emod_eq_of_lt (by omega) (by omega)
      rw [e]; split <;> omega

/-- reflect mode, signal length ≥ 2: whenever `afb1d` returns (the pads are smaller than the signal) it returns PyWavelets'
reflect-mode coefficients; it raises exactly when a pad is not smaller than the signal — "may raise,
never different numbers". -/
theorem afb1dOne_reflect (h x : List R) (hL : 2 ≤ h.length) (hN : 2 ≤ x.length) :
    (padTotal x.length h.length / 2 < x.length ∧ (padTotal x.length h.length + 1) / 2 < x.length →
      afb1dOne .reflect h.reverse x = some (Spec.dwt .reflect h x)) ∧
    (¬ (padTotal x.length h.length / 2 < x.length ∧ (padTotal x.length h.length + 1) / 2 < x.length) →
      afb1dOne .reflect h.reverse x = none) := by
  have hg : ¬ (h.length < 2 ∨ x.length < 1) := afb_guard hL (Nat.le_of_succ_le hN)
  unfold padTotal
  constructor
  · intro hp
    obtain ⟨hD, hhalf, hsum⟩ := afb_pad_spec x.length h.length hL (by omega)
    simp only [afb1dOne, Spec.dwt, List.length_reverse, if_neg hg, if_pos hp]
    refine congrArg some ?_
    apply corr_reverse_ext h _ _ (Spec.ext .reflect x) hL hD
    · rw [length_padIdx, ← hsum]; omega
    · intro i hi
      rw [length_padIdx] at hi
      rw [getZ_padIdx reflIdx x _ _ i (Int.natCast_nonneg _) (Int.ofNat_lt.mpr hi), hhalf,
        reflIdx_eq_reflIdxP x.length _ (by omega) (by omega) (by omega)]
      rfl
  · intro hp
    simp only [afb1dOne, List.length_reverse, if_neg hg, if_neg hp]

/-- a mode in which `afb1d` provably computes the PyWavelets formula for every signal of length ≥ 1 and
every filter of length ≥ 2 -/
def ModeOK (mode : Mode) : Prop :=
  ∀ (h x : List R), 2 ≤ h.length → 1 ≤ x.length → afb1dOne mode h.reverse x = some (Spec.dwt mode h x)

theorem alongO_W_total (mode : Mode) (hm : ModeOK (R := R) mode) (h : List R) (hL : 2 ≤ h.length) (x : Img R)
    (hx : ∀ r ∈ x, 1 ≤ r.length) :
    alongO .W (afb1dOne mode h.reverse) x = some (Spec.rowsMap (Spec.dwt mode h) x) :=
  alongWO_total _ _ x fun r hr => hm h r hL (hx r hr)

theorem alongO_H_total (mode : Mode) (hm : ModeOK (R := R) mode) (h : List R) (hL : 2 ≤ h.length) (x : Img R)
    (hx : 1 ≤ x.length) :
    alongO .H (afb1dOne mode h.reverse) x = some (Spec.colsMap (Spec.dwt mode h) x) :=
  alongHO_total _ _ x fun c hc => hm h c hL (by rw [hc]; exact hx)

/-- One level of the 2-D transform on one channel: `AFB2D.forward` (row pass along W with the row
filters, column pass along H with the column filters, `reshape(N,-1,4,H,W)`) returns PyWavelets'
`dwt2` called with (column wavelet, row wavelet): low = cA and the three stacked bands are
(cH, cV, cD) = (LH, HL, HH), in that order.  Every non-empty image (`1 ≤ H`, every row of length ≥ 1),
every filter length ≥ 2, every mode in which the 1-D refinement holds (zero, symmetric, periodic are proved above). -/
theorem AFB2D_forward_eq_dwt2 (mode : Mode) (hm : ModeOK (R := R) mode) (c0 c1 r0 r1 : List R)
    (hc0 : 2 ≤ c0.length) (hc1 : 2 ≤ c1.length) (hr0 : 2 ≤ r0.length) (hr1 : 2 ≤ r1.length)
    (x : Img R) (hH : 1 ≤ x.length) (hW : ∀ r ∈ x, 1 ≤ r.length) :
    AFB2D_forward mode r0.reverse r1.reverse c0.reverse c1.reverse [x]
      = some ([(Spec.dwt2 mode c0 c1 r0 r1 x).1],
              [[(Spec.dwt2 mode c0 c1 r0 r1 x).2.1, (Spec.dwt2 mode c0 c1 r0 r1 x).2.2.1,
                (Spec.dwt2 mode c0 c1 r0 r1 x).2.2.2]]) := by
  unfold AFB2D_forward
  rw [afb1dT_one, alongO_W_total mode hm r0 hr0 x hW, alongO_W_total mode hm r1 hr1 x hW]
  have hlen : ∀ r : List R, 1 ≤ (Spec.rowsMap (Spec.dwt mode r) x).length := by
    intro r; rw [Spec.rowsMap, List.length_map]; exact hH
  simp only [Option.bind_eq_bind, Option.bind_some]
  rw [afb1dT_two, alongO_H_total mode hm c0 hc0 _ (hlen r0), alongO_H_total mode hm c1 hc1 _ (hlen r0),
    alongO_H_total mode hm c0 hc0 _ (hlen r1), alongO_H_total mode hm c1 hc1 _ (hlen r1)]
  simp only [Option.bind_eq_bind, Option.bind_some, List.length_cons, List.length_nil]
  rfl

theorem modeOK_of (mode : Mode) (hm : mode = .zero ∨ mode = .symmetric ∨ mode = .periodic) : ModeOK (R := R) mode := by
  rcases hm with rfl | rfl | rfl
  · exact afb1dOne_zero_eq_dwt
  · exact afb1dOne_symmetric_eq_dwt
  · exact afb1dOne_periodic_eq_dwt

theorem dwt_length (mode : Mode) (hm : mode = .zero ∨ mode = .symmetric ∨ mode = .periodic) (h x : List R) :
    (Spec.dwt mode h x).length = dwtCoeffLen x.length h.length := by
  rcases hm with rfl | rfl | rfl <;> simp [Spec.dwt]

def NonEmptyImg (x : Img R) : Prop := 1 ≤ x.length ∧ ∀ r ∈ x, 1 ≤ r.length

omit [CommRing R] in
theorem nonEmpty_of_rect (x : Img R) (H W : Nat) (hx : C04.Rect x H W) (hH : 1 ≤ H) (hW : 1 ≤ W) : NonEmptyImg x :=
  ⟨by rw [hx.1]; exact hH, fun r hr => by rw [hx.2 r hr]; exact hW⟩

theorem tr_nonempty (y : Img R) (hy : 1 ≤ y.length) (hw : 1 ≤ y.width) : NonEmptyImg (tr y) :=
  ⟨by rw [tr_length]; exact hw, fun r hr => by rw [tr_row_length y r hr]; exact hy⟩

omit [CommRing R] in
theorem width_of_nonempty (x : Img R) (hx : NonEmptyImg x) : 1 ≤ x.width := by
  obtain ⟨h1, h2⟩ := hx
  unfold Img.width
  cases x with
  | nil => simp at h1
  | cons r rs => simpa using h2 r (by simp)

theorem colsMap_rowsMap_nonempty (f g : List R → List R) (hf : ∀ c : List R, 1 ≤ c.length → 1 ≤ (f c).length)
    (hg : ∀ r : List R, 1 ≤ r.length → 1 ≤ (g r).length) (x : Img R) (hx : NonEmptyImg x) :
    NonEmptyImg (Spec.colsMap f (Spec.rowsMap g x)) := by
  have hmap : ∀ (k : List R → List R), (∀ r : List R, 1 ≤ r.length → 1 ≤ (k r).length) →
      ∀ y : Img R, NonEmptyImg y → NonEmptyImg (y.map k) := by
    intro k hk y hy
    refine ⟨by rw [List.length_map]; exact hy.1, fun r hr => ?_⟩
    obtain ⟨a, ha, rfl⟩ := List.mem_map.mp hr
    exact hk a (hy.2 a ha)
  have htr : ∀ y : Img R, NonEmptyImg y → NonEmptyImg (tr y) :=
    fun y hy => tr_nonempty y hy.1 (width_of_nonempty y hy)
  exact htr _ (hmap f hf _ (htr _ (hmap g hg x hx)))

/-- what lets the level loop continue on the approximation band -/
theorem dwt2_cA_nonempty (mode : Mode)
    (hlen : ∀ h x : List R, (Spec.dwt mode h x).length = dwtCoeffLen x.length h.length)
    (c0 r0 : List R) (hc0 : 2 ≤ c0.length) (hr0 : 2 ≤ r0.length) (x : Img R) (hx : NonEmptyImg x) :
    NonEmptyImg (Spec.colsMap (Spec.dwt mode c0) (Spec.rowsMap (Spec.dwt mode r0) x)) := by
  have hpos : ∀ h r : List R, 2 ≤ h.length → 1 ≤ r.length → 1 ≤ (Spec.dwt mode h r).length := by
    intro h r hh hr
    rw [hlen]; unfold dwtCoeffLen; omega
  exact colsMap_rowsMap_nonempty _ _ (fun c => hpos c0 c hc0) (fun r => hpos r0 r hr0) x hx

/-- the level loop of `DWTForward` on one channel, for an invariant `P J x` ("`x` can go through `J` more levels") under
which one level is `dwt2` and the approximation band keeps the invariant -/
theorem DWTForward_of_levels (mode : Mode) (c0 c1 r0 r1 : List R) (P : Nat → Img R → Prop)
    (hP : ∀ J x, P (J+1) x →
      AFB2D_forward mode r0.reverse r1.reverse c0.reverse c1.reverse [x]
        = some ([(Spec.dwt2 mode c0 c1 r0 r1 x).1],
                [[(Spec.dwt2 mode c0 c1 r0 r1 x).2.1, (Spec.dwt2 mode c0 c1 r0 r1 x).2.2.1,
                  (Spec.dwt2 mode c0 c1 r0 r1 x).2.2.2]]) ∧
      P J (Spec.dwt2 mode c0 c1 r0 r1 x).1)
    (J : Nat) (x : Img R) (hx : P J x) :
    DWTForward mode c0.reverse c1.reverse r0.reverse r1.reverse J [x]
      = some ([(Spec.wavedec2 mode c0 c1 r0 r1 J x).1], (Spec.wavedec2 mode c0 c1 r0 r1 J x).2.map fun d => [d]) := by
  induction J generalizing x with
  | zero => rfl
  | succ J ih =>
    simp only [DWTForward, Spec.wavedec2]
    rw [(hP J x hx).1]
    simp only [Option.bind_eq_bind, Option.bind_some]
    rw [ih _ (hP J x hx).2]
    rfl

/-- the J-level 2-D transform of one channel is PyWavelets' `wavedec2` with (column wavelet, row wavelet),
levels finest first, bands (cH, cV, cD) — for every J, every non-empty image and all filter lengths
≥ 2, in the modes zero / symmetric / periodic. -/
theorem DWTForward_eq_wavedec2 (mode : Mode) (hm : mode = .zero ∨ mode = .symmetric ∨ mode = .periodic)
    (c0 c1 r0 r1 : List R) (hc0 : 2 ≤ c0.length) (hc1 : 2 ≤ c1.length) (hr0 : 2 ≤ r0.length) (hr1 : 2 ≤ r1.length)
    (J : Nat) (x : Img R) (hx : NonEmptyImg x) :
    DWTForwardM mode J [c0, c1, r0, r1] [x]
      = some ([(Spec.wavedec2 mode c0 c1 r0 r1 J x).1], (Spec.wavedec2 mode c0 c1 r0 r1 J x).2.map fun d => [d]) := by
  simp only [DWTForwardM, wave4, Option.bind_eq_bind, Option.bind_some]
  exact DWTForward_of_levels mode c0 c1 r0 r1 (fun _ x => NonEmptyImg x)
    (fun _ x hx => ⟨AFB2D_forward_eq_dwt2 mode (modeOK_of mode hm) c0 c1 r0 r1 hc0 hc1 hr0 hr1 x hx.1 hx.2,
      dwt2_cA_nonempty mode (dwt_length mode hm) c0 r0 hc0 hr0 x hx⟩) J x hx

theorem wavedec_length (mode : Mode) (h0 h1 : List R) (J : Nat) (x : List R) :
    (Spec.wavedec mode h0 h1 J x).2.length = J := by
  induction J generalizing x with
  | zero => rfl
  | succ J ih => simp only [Spec.wavedec, List.length_cons, ih]

theorem AFB1D_forward_of_channels (mode : Mode) (h0 h1 : List R) (xs : List (List R))
    (hx : ∀ x ∈ xs, afb1dOne mode h0.reverse x = some (Spec.dwt mode h0 x) ∧
      afb1dOne mode h1.reverse x = some (Spec.dwt mode h1 x)) :
    AFB1D_forward mode h0.reverse h1.reverse xs
      = some (xs.map (Spec.dwt mode h0), xs.map (Spec.dwt mode h1)) := by
  unfold AFB1D_forward
  have hget : ∀ c < xs.length, ((xs.map fun ch => [ch]) : List (Img R)).getD c default = [xs.getD c []] :=
    fun c hc => getD_map_lt _ xs c hc [] []
  rw [show afb1dT .W mode h0.reverse h1.reverse (xs.map fun ch => [ch]) = _ from
    grouped_pair_total (fun w ch => alongO .W (afb1dOne mode w) ch) h0.reverse h1.reverse (xs.map fun ch => [ch])
    (fun im => [Spec.dwt mode h0 (im.getD 0 [])]) (fun im => [Spec.dwt mode h1 (im.getD 0 [])])
    -- each channel is a one-row image, so the pass along W is `afb1dOne` on that row: `hx` gives both bands
    (by
      intro c hc
      have hc' : c < xs.length := by simpa using hc
      rw [hget c hc']
      obtain ⟨e0, e1⟩ := hx _ (getD_mem xs c [] hc')
      constructor
      · simp only [alongO, alongWO, List.mapM_cons, List.mapM_nil, e0]; rfl
      · simp only [alongO, alongWO, List.mapM_cons, List.mapM_nil, e1]; rfl)]
  simp only [Option.bind_eq_bind, Option.bind_some, List.length_map]
  have hlen : (2 * xs.length) / 2 = xs.length := by omega
  rw [map_tab, length_tab, hlen, map_eq_tab xs (Spec.dwt mode h0) [], map_eq_tab xs (Spec.dwt mode h1) []]
  -- output channel `2c` is the low band, `2c+1` the high band of input channel `c`
  refine congrArg some (Prod.ext (tab_ext rfl fun c hc => ?_) (tab_ext rfl fun c hc => ?_))
  · rw [getD_tab, if_pos (by omega), if_pos (by omega), show 2 * c / 2 = c by omega, hget c hc]
    rfl
  · rw [getD_tab, if_pos (by omega), if_neg (by omega), show (2 * c + 1) / 2 = c by omega, hget c hc]
    rfl

/-- `AFB1D.forward` on ANY number of channels: every channel gets its own `(dwt h0, dwt h1)` -/
theorem AFB1D_forward_multi (mode : Mode) (hm : ModeOK (R := R) mode) (h0 h1 : List R)
    (hL0 : 2 ≤ h0.length) (hL1 : 2 ≤ h1.length) (xs : List (List R)) (hx : ∀ x ∈ xs, 1 ≤ x.length) :
    AFB1D_forward mode h0.reverse h1.reverse xs
      = some (xs.map (Spec.dwt mode h0), xs.map (Spec.dwt mode h1)) :=
  AFB1D_forward_of_channels mode h0 h1 xs fun x hxm => ⟨hm h0 x hL0 (hx x hxm), hm h1 x hL1 (hx x hxm)⟩

/-- the level loop of `DWT1DForward` on any number of channels, for an invariant `P J x` ("`x` can go through `J` more
levels") under which both filters of a level return PyWavelets' bands and the low band keeps the invariant: every channel
of every band is `wavedec` of that channel alone -/
theorem DWT1DForward_of_levels (mode : Mode) (h0 h1 : List R) (P : Nat → List R → Prop)
    (hP : ∀ J x, P (J+1) x → afb1dOne mode h0.reverse x = some (Spec.dwt mode h0 x) ∧
      afb1dOne mode h1.reverse x = some (Spec.dwt mode h1 x) ∧ P J (Spec.dwt mode h0 x))
    (J : Nat) (xs : List (List R)) (hx : ∀ x ∈ xs, P J x) :
    DWT1DForwardM mode J h0 h1 xs
      = some (xs.map (fun x => (Spec.wavedec mode h0 h1 J x).1),
              (List.range J).map fun j => xs.map fun x => (Spec.wavedec mode h0 h1 J x).2.getD j []) := by
  unfold DWT1DForwardM
  induction J generalizing xs with
  | zero => simp [DWT1DForward, Spec.wavedec]
  | succ J ih =>
    simp only [DWT1DForward]
    rw [AFB1D_forward_of_channels mode h0 h1 xs fun x hxm => ⟨(hP J x (hx x hxm)).1, (hP J x (hx x hxm)).2.1⟩]
    simp only [Option.bind_eq_bind, Option.bind_some]
    have hx' : ∀ y ∈ xs.map (Spec.dwt mode h0), P J y := by
      intro y hy
      obtain ⟨a, ha, rfl⟩ := List.mem_map.mp hy
      exact (hP J a (hx a ha)).2.2
    rw [ih _ hx']
    simp only [Option.bind_some, Spec.wavedec, List.map_map, Function.comp_def]
    congr 2
    rw [List.range_succ_eq_map]
    simp only [List.map_cons, List.map_map, Function.comp_def, List.getD_cons_zero, List.getD_cons_succ]

/-- the J-level 1-D transform on ANY number of channels acts channel by channel: every channel of every
band is `wavedec` of that channel alone (C07's per-slice statement for the whole multi-level transform),
for every J, in the modes zero / symmetric / periodic. -/
theorem DWT1DForward_multi (mode : Mode) (hm : mode = .zero ∨ mode = .symmetric ∨ mode = .periodic)
    (h0 h1 : List R) (hL0 : 2 ≤ h0.length) (hL1 : 2 ≤ h1.length) (J : Nat) (xs : List (List R))
    (hx : ∀ x ∈ xs, 1 ≤ x.length) :
    DWT1DForwardM mode J h0 h1 xs
      = some (xs.map (fun x => (Spec.wavedec mode h0 h1 J x).1),
              (List.range J).map fun j => xs.map fun x => (Spec.wavedec mode h0 h1 J x).2.getD j []) := by
  apply DWT1DForward_of_levels mode h0 h1 (fun _ x => 1 ≤ x.length) _ J xs hx
  intro _ x hN
  refine ⟨modeOK_of mode hm h0 x hL0 hN, modeOK_of mode hm h1 x hL1 hN, ?_⟩
  rw [dwt_length mode hm]; unfold dwtCoeffLen; omega

theorem DWT1DForward_one_channel (mode : Mode) (h0 h1 : List R) (J : Nat) (x : List R)
    (h : DWT1DForwardM mode J h0 h1 [x]
      = some ([x].map (fun x => (Spec.wavedec mode h0 h1 J x).1),
              (List.range J).map fun j => [x].map fun x => (Spec.wavedec mode h0 h1 J x).2.getD j [])) :
    DWT1DForwardM mode J h0 h1 [x]
      = some ([(Spec.wavedec mode h0 h1 J x).1], (Spec.wavedec mode h0 h1 J x).2.map fun d => [d]) := by
  rw [h, map_eq_tab (Spec.wavedec mode h0 h1 J x).2 _ [], wavedec_length]
  rfl

/-- the J-level 1-D transform of one channel is PyWavelets' `wavedec` in the library's order
(finest detail first), for every J, every signal length ≥ 1 and every filter length ≥ 2,
in the modes zero / symmetric / periodic: the one-channel case of `DWT1DForward_multi`. -/
theorem DWT1DForward_eq_wavedec (mode : Mode) (hm : mode = .zero ∨ mode = .symmetric ∨ mode = .periodic)
    (h0 h1 : List R) (hL0 : 2 ≤ h0.length) (hL1 : 2 ≤ h1.length) (J : Nat) (x : List R) (hN : 1 ≤ x.length) :
    DWT1DForwardM mode J h0 h1 [x]
      = some ([(Spec.wavedec mode h0 h1 J x).1], (Spec.wavedec mode h0 h1 J x).2.map fun d => [d]) :=
  DWT1DForward_one_channel mode h0 h1 J x
    (DWT1DForward_multi mode hm h0 h1 hL0 hL1 J [x] fun y hy => by rw [List.mem_singleton.mp hy]; exact hN)

/-- the image hypothesis `NonEmptyImg` (unfolded) holds for a 2×3 integer image -/
example : (1 ≤ ([[1,2,3],[4,5,6]] : Img Int).length) ∧ (∀ r ∈ ([[1,2,3],[4,5,6]] : Img Int), 1 ≤ r.length) := by
  decide

end WV.C01
