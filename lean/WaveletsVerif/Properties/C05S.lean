/-
  C05 — two dimensions, mode zero, synthesis side: `SFB2D.backward` is the adjoint of `SFB2D.forward`.

  `SFB2D.forward` synthesises the columns of the two band pairs and then the rows; `SFB2D.backward` runs the analysis bank
  with the SAME synthesis filters along the rows and then along the columns of the cotangent image.  With the
  one-dimensional identity (C05.pair_zero_adjoint) and the lifting lemma of C05D (`pair2_adjoint`) this gives, on one channel,
  for every band size `Kh × Kw` (`Kh, Kw ≥ 1`), all filter lengths `L ≥ 2` that fit (`L ≤ 2K + 1` per axis) and every cotangent
  image of the output size (`SFB2D_zero_adjoint`),
  `⟨SFB2D(ll, lh, hl, hh), dy⟩ = ⟨ll, dll⟩ + ⟨lh, dlh⟩ + ⟨hl, dhl⟩ + ⟨hh, dhh⟩`.
-/
import WaveletsVerif.Properties.C05D
namespace WV.C05S
open Finset WV WV.C04 WV.C06 WV.C05D
variable {R : Type} [CommRing R]

/-- output length of the synthesis of `K` coefficients with a filter of length `L` in the padded modes -/
abbrev Nf (K L : Nat) : Nat := 2 * (K - 1) + L - 2 * (L - 2)

theorem adjS1 (g0 g1 : List R) (hL : 2 ≤ g0.length) (hg : g1.length = g0.length) (K : Nat) (hK : 1 ≤ K) (hfit : g0.length ≤ 2 * K + 1)
    (c a b : List R) (hc : c.length = Nf K g0.length) (ha : a.length = K) (hb : b.length = K) :
    (∑ k ∈ range K, getN (Az g0 c) k * getN a k) + (∑ k ∈ range K, getN (Az g1 c) k * getN b k)
      = ∑ i ∈ range (Nf K g0.length), getN c i * getN (Sz g0 g1 a b) i :=
  C05.pair_zero_adjoint g0 g1 hL hg (Nf K g0.length) K (synthLen_pos K _ hL hK hfit) (bandLen_synthLen K _ hL hK hfit).symm c a b hc ha hb

/-- `SFB1D` in mode zero: its backward pass (the analysis pair with the synthesis filters) and its forward pass -/
theorem pairAdj_zero_synth (g0 g1 : List R) (hL : 2 ≤ g0.length) (hg : g1.length = g0.length) (K : Nat) (hK : 1 ≤ K)
    (hfit : g0.length ≤ 2 * K + 1) : PairAdj (Az g0) (Az g1) (Sz g0 g1) (Nf K g0.length) K where
  len0 := fun c hc => by rw [C05.afbZeroVal_length g0 c hL (hc ▸ synthLen_pos K _ hL hK hfit), hc, bandLen_synthLen K _ hL hK hfit]
  len1 := fun c hc => by rw [C05.afbZeroVal_length g1 c (hg ▸ hL) (hc ▸ synthLen_pos K _ hL hK hfit), hc, hg, bandLen_synthLen K _ hL hK hfit]
  adj := adjS1 g0 g1 hL hg K hK hfit

section adjoint2d
variable (gr0 gr1 gc0 gc1 : List R) (hLr : 2 ≤ gr0.length) (hgr : gr1.length = gr0.length)
    (hLc : 2 ≤ gc0.length) (hgc : gc1.length = gc0.length) (Kh Kw : Nat) (hKh : 1 ≤ Kh) (hKw : 1 ≤ Kw)
    (hfc : gc0.length ≤ 2 * Kh + 1) (hfr : gr0.length ≤ 2 * Kw + 1)

def synth2 (ll lh hl hh : Img R) : Img R :=
  rowzip (Sz gr0 gr1) (Nf Kh gc0.length) (Nf Kw gr0.length)
    (colzip (Sz gc0 gc1) (Nf Kh gc0.length) Kw ll lh) (colzip (Sz gc0 gc1) (Nf Kh gc0.length) Kw hl hh)

include hLr hgr hLc hgc hKh hKw hfc hfr in
theorem SFB2D_forward_val (ll lh hl hh : Img R) (r1 : Rect ll Kh Kw) (r2 : Rect lh Kh Kw) (r3 : Rect hl Kh Kw) (r4 : Rect hh Kh Kw) :
    SFB2D_forward .zero gr0 gr1 gc0 gc1 [ll] [[lh, hl, hh]] = some [synth2 gr0 gr1 gc0 gc1 Kh Kw ll lh hl hh] :=
  SFB2D_forward_one .zero gr0 gr1 gc0 gc1 (Sz gr0 gr1) (Sz gc0 gc1) Kh Kw _ _ (synthVal_zero gc0 gc1 hLc hgc Kh hKh hfc)
    (synthVal_zero gr0 gr1 hLr hgr Kw hKw hfr) ll lh hl hh r1 r2 r3 r4 hKh hKw

theorem SFB2D_backward_eq (m : Mode) (dy : List (Img R)) :
    SFB2D_backward m gr0 gr1 gc0 gc1 dy = AFB2D_forward m gr0 gr1 gc0 gc1 dy := rfl

include hLr hgr hLc hgc hKh hKw hfc hfr in
theorem SFB2D_zero_adjoint_val (ll lh hl hh dy : Img R) (r1 : Rect ll Kh Kw) (r2 : Rect lh Kh Kw) (r3 : Rect hl Kh Kw) (r4 : Rect hh Kh Kw)
    (rdy : Rect dy (Nf Kh gc0.length) (Nf Kw gr0.length)) :
    dot2 (Nf Kh gc0.length) (Nf Kw gr0.length) dy (synth2 gr0 gr1 gc0 gc1 Kh Kw ll lh hl hh)
      = dot2 Kh Kw (alongH (Az gc0) (alongW (Az gr0) dy)) ll + dot2 Kh Kw (alongH (Az gc1) (alongW (Az gr0) dy)) lh
        + dot2 Kh Kw (alongH (Az gc0) (alongW (Az gr1) dy)) hl + dot2 Kh Kw (alongH (Az gc1) (alongW (Az gr1) dy)) hh :=
  (pair2_adjoint (Az gr0) (Az gr1) (Az gc0) (Az gc1) (Sz gr0 gr1) (Sz gc0 gc1) _ _ Kh Kw
    (pairAdj_zero_synth gc0 gc1 hLc hgc Kh hKh hfc) (pairAdj_zero_synth gr0 gr1 hLr hgr Kw hKw hfr) dy ll lh hl hh rdy
    r1 r2 r3 r4 (synthLen_pos Kh _ hLc hKh hfc) hKw).symm

include hLr hgr hLc hgc hKh hKw hfc hfr in
/-- `SFB2D.backward` is the adjoint of `SFB2D.forward` in mode zero, one channel -/
theorem SFB2D_zero_adjoint (ll lh hl hh dy : Img R) (r1 : Rect ll Kh Kw) (r2 : Rect lh Kh Kw) (r3 : Rect hl Kh Kw) (r4 : Rect hh Kh Kw)
    (rdy : Rect dy (Nf Kh gc0.length) (Nf Kw gr0.length)) :
    ∃ y dll dlh dhl dhh, SFB2D_forward .zero gr0 gr1 gc0 gc1 [ll] [[lh, hl, hh]] = some [y] ∧
      SFB2D_backward .zero gr0 gr1 gc0 gc1 [dy] = some ([dll], [[dlh, dhl, dhh]]) ∧
      dot2 (Nf Kh gc0.length) (Nf Kw gr0.length) dy y
        = dot2 Kh Kw dll ll + dot2 Kh Kw dlh lh + dot2 Kh Kw dhl hl + dot2 Kh Kw dhh hh :=
  ⟨_, _, _, _, _, SFB2D_forward_val gr0 gr1 gc0 gc1 hLr hgr hLc hgc Kh Kw hKh hKw hfc hfr ll lh hl hh r1 r2 r3 r4,
    AFB2D_forward_val gr0 gr1 gc0 gc1 hLr hgr hLc hgc dy _ _ rdy (synthLen_pos Kh _ hLc hKh hfc) (synthLen_pos Kw _ hLr hKw hfr),
    SFB2D_zero_adjoint_val gr0 gr1 gc0 gc1 hLr hgr hLc hgc Kh Kw hKh hKw hfc hfr ll lh hl hh dy r1 r2 r3 r4 rdy⟩

end adjoint2d

/-- the size hypotheses of `SFB2D_zero_adjoint` are satisfiable: a 4-tap integer filter meets `2 ≤ L` and `L ≤ 2·Kh + 1` for
`Kh = 2`, and 2 × 3 bands give a cotangent image of the output size `Nf 2 4 × Nf 3 4 = 2 × 4` -/
example : (2 ≤ ([1, 2, 3, 4] : List Int).length) ∧ ([1, 2, 3, 4] : List Int).length ≤ 2 * 2 + 1 ∧ Nf 2 4 = 2 ∧ Nf 3 4 = 4 := by decide

end WV.C05S
