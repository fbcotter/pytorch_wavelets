/-
  C05 — back-propagation through the whole J-level ONE-DIMENSIONAL forward transform `DWT1DForward` is the exact adjoint
  (one channel).

  The module applies `AFB1D` level after level to the running low-pass; autograd therefore runs `AFB1D.backward` from the coarsest
  level to the finest, each time with the saved input length of that level (`DWT1DForwardBackward`: the chain rule over the loop
  of the module with the library's hand-written backward at every level).  The induction over the levels is done once for any
  mode in which one level is adjoint (`loop_adjoint`), and instantiated
    * in mode zero for every signal length `N ≥ 1` and all filter lengths `L ≥ 2` (`DWT1D_zero_adjoint`, from
      `C05.pair_zero_adjoint_crop`),
    * in periodization for every length `N ≥ 1`, odd included, and even `L ≤ N + N % 2` at every level (`DWT1D_per_adjoint`, from
      `C05.pair_per_adjoint`).
  `⟨DWT1DForward x, P⟩ = ⟨x, backward(P)⟩` for every cotangent pyramid `P` of forward shapes.
-/
import WaveletsVerif.Properties.C05D
import WaveletsVerif.Properties.C05P
namespace WV.C05U
open Finset WV WV.C05D WV.C05P
variable {R : Type} [CommRing R]

/-- the chain of `AFB1D.backward` passes: input lengths of the levels finest first, low-pass cotangent, band-pass cotangents -/
def DWT1DForwardBackward (m : Mode) (w0 w1 : List R) : List Nat → List R → List (List R) → Option (List R)
  | [], gl, _ => some gl
  | N :: ns, gl, gh => do
    let g0 ← DWT1DForwardBackward m w0 w1 ns gl gh.tail
    let d ← AFB1D_backward m w0 w1 N [g0] [gh.headD []]
    some (d.getD 0 [])

def dotN (n : Nat) (a b : List R) : R := ∑ k ∈ range n, getN a k * getN b k

theorem dotN_comm (n : Nat) (a b : List R) : dotN n a b = dotN n b a := C05.dot_comm n a b

/-- what the one-filter analysis returns (`[]` where it does not return) -/
def afbV (m : Mode) (w x : List R) : List R := (afb1dOne m w x).getD []

/-- what the synthesis of one channel returns (`[]` where it does not return) -/
def sfbV (m : Mode) (w0 w1 a b : List R) : List R := (sfb1dCh m w0 w1 a b).getD []

theorem AFB1D_forward_one (m : Mode) (w0 w1 x lo hi : List R) (h0 : afb1dOne m w0 x = some lo) (h1 : afb1dOne m w1 x = some hi) :
    AFB1D_forward m w0 w1 [x] = some ([lo], [hi]) := by
  rw [AFB1D_forward_single, h0, h1]
  rfl

/-- `AFB1D.backward` on one channel is the synthesis with the analysis buffers followed by the fold / crop -/
theorem AFB1D_backward_one (m : Mode) (w0 w1 g0 g1 d : List R) (N : Nat) (hd : sfb1dCh m w0 w1 g0 g1 = some d) :
    AFB1D_backward m w0 w1 N [g0] [g1] = some [foldCrop m N d] := by
  unfold AFB1D_backward
  simp only [List.map_cons, List.map_nil]
  rw [sfb1dT_single, sfb1dImg_row, hd]
  rfl

section generic
variable (m : Mode) (w0 w1 : List R) (Lvl : Nat → Prop) (K : Nat → Nat)

/-- one level is adjoint: what the induction needs from a mode -/
def LevelAdj : Prop :=
  ∀ x : List R, Lvl x.length → ∃ lo hi, afb1dOne m w0 x = some lo ∧ afb1dOne m w1 x = some hi ∧ lo.length = K x.length ∧
    hi.length = K x.length ∧ ∀ g0 g1 : List R, g0.length = K x.length → g1.length = K x.length →
      ∃ d, sfb1dCh m w0 w1 g0 g1 = some d ∧ (foldCrop m x.length d).length = x.length ∧
        dotN (K x.length) lo g0 + dotN (K x.length) hi g1 = dotN x.length x (foldCrop m x.length d)

variable {m w0 w1 Lvl K} in
/-- the forward half of `LevelAdj`, the results written as functions of the input -/
theorem LevelAdj.fwd (hA : LevelAdj m w0 w1 Lvl K) {x : List R} {N : Nat} (hx : x.length = N) (hN : Lvl N) :
    afb1dOne m w0 x = some (afbV m w0 x) ∧ afb1dOne m w1 x = some (afbV m w1 x) ∧
      (afbV m w0 x).length = K N ∧ (afbV m w1 x).length = K N := by
  subst hx
  obtain ⟨lo, hi, e0, e1, l0, l1, -⟩ := hA x hN
  unfold afbV
  rw [e0, e1]
  exact ⟨rfl, rfl, l0, l1⟩

variable {m w0 w1 Lvl K} in
/-- the backward half of `LevelAdj`, the results written as functions of the inputs -/
theorem LevelAdj.bwd (hA : LevelAdj m w0 w1 Lvl K) {x g0 g1 : List R} {N : Nat} (hx : x.length = N) (hN : Lvl N)
    (h0 : g0.length = K N) (h1 : g1.length = K N) :
    sfb1dCh m w0 w1 g0 g1 = some (sfbV m w0 w1 g0 g1) ∧ (foldCrop m N (sfbV m w0 w1 g0 g1)).length = N ∧
      dotN (K N) (afbV m w0 x) g0 + dotN (K N) (afbV m w1 x) g1 = dotN N x (foldCrop m N (sfbV m w0 w1 g0 g1)) := by
  subst hx
  obtain ⟨lo, hi, e0, e1, -, -, hadj⟩ := hA x hN
  obtain ⟨d, es, ld, hid⟩ := hadj g0 g1 h0 h1
  unfold afbV sfbV
  rw [e0, e1, es]
  exact ⟨rfl, ld, hid⟩

def shapes : Nat → Nat → List Nat
  | 0, _ => []
  | J+1, N => N :: shapes J (K N)

def LvlsOK : Nat → Nat → Prop
  | 0, _ => True
  | J+1, N => Lvl N ∧ LvlsOK J (K N)

/-- a cotangent pyramid of the shapes a `J`-level transform of a length-`N` signal produces (finest level first) -/
def PyrOK1 : Nat → Nat → List R → List (List R) → Prop
  | 0, N, gl, [] => gl.length = N
  | J+1, N, gl, g1 :: rest => g1.length = K N ∧ PyrOK1 J (K N) gl rest
  | _, _, _, _ => False

/-- inner product of the output pyramid (one channel) with a cotangent pyramid -/
def pdot1 (yl : List R) (yh : List (List (List R))) (gl : List R) (gh : List (List R)) : R :=
  dotN yl.length yl gl + (List.zipWith (fun d g => dotN (d.getD 0 []).length (d.getD 0 []) g) yh gh).sum

/-- the chain rule over the level loop gives the adjoint of the J-level transform whenever one level is adjoint -/
theorem loop_adjoint (hA : LevelAdj m w0 w1 Lvl K) : ∀ (J : Nat) (x gl : List R) (gh : List (List R)),
    LvlsOK Lvl K J x.length → PyrOK1 K J x.length gl gh →
    ∃ yl yh dx, DWT1DForward m w0 w1 J [x] = some ([yl], yh) ∧
      DWT1DForwardBackward m w0 w1 (shapes K J x.length) gl gh = some dx ∧ dx.length = x.length ∧
      pdot1 yl yh gl gh = dotN x.length x dx := by
  intro J
  induction J with
  | zero =>
    intro x gl gh _ hp
    cases gh with
    | cons b rest => exact absurd hp (by simp [PyrOK1])
    | nil => exact ⟨x, [], gl, rfl, rfl, hp, by simp [pdot1]⟩
  | succ J ih =>
    intro x gl gh hok hp
    cases gh with
    | nil => exact absurd hp (by simp [PyrOK1])
    | cons g1 rest =>
      obtain ⟨hg1, hrest⟩ := hp
      obtain ⟨hl, hokr⟩ := hok
      obtain ⟨e0, e1, llo, lhi⟩ := hA.fwd rfl hl
      rw [← llo] at hokr hrest
      obtain ⟨yl, yh, g0, hf, hb, lg0, hd⟩ := ih (afbV m w0 x) gl rest hokr hrest
      obtain ⟨hs, ld, hid⟩ := hA.bwd rfl hl (lg0.trans llo) hg1
      refine ⟨yl, [afbV m w1 x] :: yh, _, ?_, ?_, ld, ?_⟩
      · simp only [DWT1DForward, AFB1D_forward_one m w0 w1 x _ _ e0 e1, Option.bind_eq_bind, Option.bind_some, hf]
      · simp only [shapes, DWT1DForwardBackward, List.tail_cons, List.headD_cons, ← llo, hb, Option.bind_eq_bind, Option.bind_some,
          AFB1D_backward_one m w0 w1 g0 g1 _ x.length hs, List.getD_cons_zero]
      · rw [← hid]
        simp only [pdot1, List.zipWith_cons_cons, List.sum_cons, List.getD_cons_zero] at hd ⊢
        rw [lhi, ← llo, ← hd]
        ring

end generic

theorem levelAdj_zero (w0 w1 : List R) (hL : 2 ≤ w0.length) (hw : w1.length = w0.length) :
    LevelAdj .zero w0 w1 (fun N => 1 ≤ N) (fun N => dwtCoeffLen N w0.length) := by
  intro x hN
  have hL1 : 2 ≤ w1.length := by rw [hw]; exact hL
  have hK := bandLen_pos x.length w0.length hL hN
  have hfit := bandLen_fit x.length w0.length hL hN
  have hout := bandLen_le_synth x.length w0.length hL hN
  refine ⟨_, _, C05.afb1dOne_zero_val w0 x hL hN, C05.afb1dOne_zero_val w1 x hL1 hN,
    C05.afbZeroVal_length w0 x hL hN, by rw [C05.afbZeroVal_length w1 x hL1 hN, hw], ?_⟩
  intro g0 g1 h0' h1'
  have h0 : g0.length = dwtCoeffLen x.length w0.length := h0'
  have h1 : g1.length = dwtCoeffLen x.length w0.length := h1'
  refine ⟨Sz w0 w1 g0 g1, C05.sfb1dCh_zero_val w0 w1 g0 g1 hL hw (by rw [h0]; exact hK) (by rw [h1, h0]) (by rw [h0]; exact hfit), ?_,
    adj1 w0 w1 hL hw x.length hN x g0 g1 rfl h0 h1⟩
  rw [foldCrop_zero _ _ (by rw [Sz_length, h0]; exact hout), List.length_take, Sz_length, h0]
  exact Nat.min_eq_left hout

theorem lvlsOK_zero (L : Nat) (hL : 2 ≤ L) : ∀ (J N : Nat), 1 ≤ N → LvlsOK (fun N => 1 ≤ N) (fun N => dwtCoeffLen N L) J N
  | 0, _, _ => trivial
  | J+1, N, hN => ⟨hN, lvlsOK_zero L hL J _ (bandLen_pos N L hL hN)⟩

/-- back-propagation through the J-level `DWT1DForward` in mode zero is the exact adjoint (one channel): every J, every signal length `N ≥ 1`,
all filter lengths `L ≥ 2`, every cotangent pyramid of forward shapes -/
theorem DWT1D_zero_adjoint (w0 w1 : List R) (hL : 2 ≤ w0.length) (hw : w1.length = w0.length) (J : Nat) (x gl : List R)
    (gh : List (List R)) (hN : 1 ≤ x.length) (hp : PyrOK1 (fun N => dwtCoeffLen N w0.length) J x.length gl gh) :
    ∃ yl yh dx, DWT1DForward .zero w0 w1 J [x] = some ([yl], yh) ∧
      DWT1DForwardBackward .zero w0 w1 (shapes (fun N => dwtCoeffLen N w0.length) J x.length) gl gh = some dx ∧ dx.length = x.length ∧
      pdot1 yl yh gl gh = dotN x.length x dx :=
  loop_adjoint .zero w0 w1 _ _ (levelAdj_zero w0 w1 hL hw) J x gl gh (lvlsOK_zero w0.length hL J _ hN) hp

/-- non-vacuity of hypothesis `hp` of `DWT1D_zero_adjoint`: two levels on a length-5 signal with 4-tap filters: band lengths 4
and 3, low-pass length 3 -/
example : PyrOK1 (fun N => dwtCoeffLen N 4) 2 5 ([1, 2, 3] : List Int) [[1, 2, 3, 4], [5, 6, 7]] := by
  simp [PyrOK1, dwtCoeffLen]

theorem levelAdj_per (h0 h1 : List R) (hL : 2 ≤ h0.length) (hLe : h0.length % 2 = 0) (hh1 : h1.length = h0.length) :
    LevelAdj .periodization h0.reverse h1.reverse (fun N => 1 ≤ N ∧ h0.length ≤ N + N % 2) (fun N => (N + N % 2) / 2) := by
  intro x hx
  obtain ⟨hN, hfit⟩ := hx
  have hK := halfUp_pos x.length hN
  have e2 := two_mul_halfUp_eq x.length
  have hfold := two_mul_halfUp x.length
  refine ⟨_, _, C01.afb1dOne_per_eq_dwt_partial_all h0 x hLe hL hN hfit,
    C01.afb1dOne_per_eq_dwt_partial_all h1 x (by rw [hh1]; exact hLe) (by rw [hh1]; exact hL) hN (by rw [hh1]; exact hfit),
    length_dwt_per h0 x, length_dwt_per h1 x, ?_⟩
  intro g0 g1 l0' l1'
  have l0 : g0.length = (x.length + x.length % 2) / 2 := l0'
  have l1 : g1.length = (x.length + x.length % 2) / 2 := l1'
  refine ⟨_, sfb_per_val h0 h1 hL hh1 _ hK (by rw [e2]; exact hfit) g0 g1 l0 l1, ?_, adjP1 h0 h1 hL hLe hh1 x.length hN hfit x g0 g1 rfl l0 l1⟩
  apply foldCrop_per_length
  rw [length_idwt_per, l0]
  exact hfold

/-- back-propagation through the J-level `DWT1DForward` in periodization mode is the exact adjoint (one channel): every J, every
signal length `N ≥ 1` (odd included), even filter lengths that fit the even-extended signal at every level (`hok`) -/
theorem DWT1D_per_adjoint (h0 h1 : List R) (hL : 2 ≤ h0.length) (hLe : h0.length % 2 = 0) (hh1 : h1.length = h0.length) (J : Nat)
    (x gl : List R) (gh : List (List R))
    (hok : LvlsOK (fun N => 1 ≤ N ∧ h0.length ≤ N + N % 2) (fun N => (N + N % 2) / 2) J x.length)
    (hp : PyrOK1 (fun N => (N + N % 2) / 2) J x.length gl gh) :
    ∃ yl yh dx, DWT1DForward .periodization h0.reverse h1.reverse J [x] = some ([yl], yh) ∧
      DWT1DForwardBackward .periodization h0.reverse h1.reverse (shapes (fun N => (N + N % 2) / 2) J x.length) gl gh = some dx ∧
      dx.length = x.length ∧ pdot1 yl yh gl gh = dotN x.length x dx :=
  loop_adjoint .periodization h0.reverse h1.reverse _ _ (levelAdj_per h0 h1 hL hLe hh1) J x gl gh hok hp

/-- non-vacuity of hypothesis `hok` of `DWT1D_per_adjoint`: two levels on a length-7 signal with 4-tap filters in periodization:
levels of length 7 and 4 -/
example : LvlsOK (fun N => 1 ≤ N ∧ 4 ≤ N + N % 2) (fun N => (N + N % 2) / 2) 2 7 := by
  simp [LvlsOK]

end WV.C05U
