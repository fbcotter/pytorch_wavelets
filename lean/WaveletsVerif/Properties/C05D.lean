/-
  C05 — two dimensions: `AFB2D.backward` is the adjoint of `AFB2D.forward` (mode zero, one channel), on every image of
  size `H, W ≥ 1`, for filter lengths `≥ 2` (`AFB2D_zero_adjoint`).

  One-dimensional adjointness of an analysis pair (`PairAdj`: `⟨A₀c, a⟩ + ⟨A₁c, b⟩ = ⟨c, B(a,b)⟩`) is lifted along the
  columns and along the rows of an image (`pairH`, `pairW`) and composed for the row pass followed by the column pass
  (`pair2_adjoint`), for any two one-dimensional banks; the values of both passes of the model on one channel are given
  for any mode (`AFB2D_forward_one`, `SFB2D_forward_one`).  In mode zero (C05.pair_zero_adjoint_crop) this is matched
  with what the code's backward pass computes — column synthesis of the two band pairs, row synthesis, then ONE crop per
  axis at the very end (`foldCrop2`): cropping rows commutes with the row-wise synthesis (`rowzip_colzip_crop`).
  The steps of the level loops of `DWTForward` / `DWTInverse` that the J-level files use are here as well.
-/
import WaveletsVerif.Properties.C05
import WaveletsVerif.Lemmas.Img
namespace WV.C05D
open Finset WV WV.C04 WV.C06
variable {R : Type} [CommRing R]

theorem getN_col_colzip (F : List R → List R → List R) (n W : Nat) (a b : Img R) (i j : Nat) (hi : i < n) (hj : j < W) :
    getN (col (colzip F n W a b) j) i = getN (F (col a j) (col b j)) i := by
  unfold colzip; rw [col_tab2 _ _ _ j hj, getN_tab, if_pos hi]

theorem getN_row_rowzip (F : List R → List R → List R) (H n : Nat) (a b : Img R) (i j : Nat) (hi : i < H) (hj : j < n) :
    getN ((rowzip F H n a b).getD i []) j = getN (F (a.getD i []) (b.getD i [])) j := by
  unfold rowzip; rw [getD_tab2_row _ _ _ i hi, getN_tab, if_pos hj]

/-- lifting a one-dimensional pair adjointness along the columns -/
theorem pairH (A0 A1 : List R → List R) (B : List R → List R → List R) (H K W : Nat)
    (h1d : ∀ c a b : List R, c.length = H → a.length = K → b.length = K →
      (∑ k ∈ range K, getN (A0 c) k * getN a k) + (∑ k ∈ range K, getN (A1 c) k * getN b k)
        = ∑ i ∈ range H, getN c i * getN (B a b) i)
    (l0 : ∀ c : List R, c.length = H → (A0 c).length = K) (l1 : ∀ c : List R, c.length = H → (A1 c).length = K)
    (x Ga Gb : Img R) (hx : Rect x H W) (ha : Rect Ga K W) (hb : Rect Gb K W) (hH : 1 ≤ H) (hW : 1 ≤ W) :
    dot2 K W (alongH A0 x) Ga + dot2 K W (alongH A1 x) Gb = dot2 H W x (colzip B H W Ga Gb) := by
  rw [dot2_alongH A0 H K W l0 x Ga hx ha hH hW, dot2_alongH A1 H K W l1 x Gb hx hb hH hW,
    dot2_cols H W x _ hx (colzip_rect B H W Ga Gb), ← Finset.sum_add_distrib]
  apply Finset.sum_congr rfl; intro j hj
  have hj' : j < W := mem_range.mp hj
  rw [h1d (col x j) (col Ga j) (col Gb j) (by rw [col_length, hx.1]) (by rw [col_length, ha.1]) (by rw [col_length, hb.1])]
  apply Finset.sum_congr rfl; intro i hi
  rw [getN_col_colzip B H W Ga Gb i j (mem_range.mp hi) hj']

theorem pairW (A0 A1 : List R → List R) (B : List R → List R → List R) (H K W : Nat)
    (h1d : ∀ c a b : List R, c.length = W → a.length = K → b.length = K →
      (∑ k ∈ range K, getN (A0 c) k * getN a k) + (∑ k ∈ range K, getN (A1 c) k * getN b k)
        = ∑ i ∈ range W, getN c i * getN (B a b) i)
    (l0 : ∀ c : List R, c.length = W → (A0 c).length = K) (l1 : ∀ c : List R, c.length = W → (A1 c).length = K)
    (x Ga Gb : Img R) (hx : Rect x H W) (ha : Rect Ga H K) (hb : Rect Gb H K) :
    dot2 H K (alongW A0 x) Ga + dot2 H K (alongW A1 x) Gb = dot2 H W x (rowzip B H W Ga Gb) := by
  rw [dot2_alongW A0 H K x Ga hx.1, dot2_alongW A1 H K x Gb hx.1, dot2_rows, ← Finset.sum_add_distrib]
  apply Finset.sum_congr rfl; intro i hi
  have hi' : i < H := mem_range.mp hi
  rw [h1d (x.getD i []) (Ga.getD i []) (Gb.getD i []) (row_length x H W hx i hi') (row_length Ga H K ha i hi')
      (row_length Gb H K hb i hi')]
  apply Finset.sum_congr rfl; intro j hj
  rw [getN_row_rowzip B H W Ga Gb i j hi' (mem_range.mp hj)]

/-- a two-band analysis `(A0, A1)` from length `N` to length `K` with its joint adjoint `B`:
`⟨A0 c, a⟩ + ⟨A1 c, b⟩ = ⟨c, B a b⟩` -/
structure PairAdj (A0 A1 : List R → List R) (B : List R → List R → List R) (N K : Nat) : Prop where
  len0 : ∀ c : List R, c.length = N → (A0 c).length = K
  len1 : ∀ c : List R, c.length = N → (A1 c).length = K
  adj : ∀ c a b : List R, c.length = N → a.length = K → b.length = K →
    (∑ k ∈ range K, getN (A0 c) k * getN a k) + (∑ k ∈ range K, getN (A1 c) k * getN b k)
      = ∑ i ∈ range N, getN c i * getN (B a b) i

/-- the separable two-dimensional step: a row pass with `(Ar0, Ar1)` followed by a column pass with `(Ac0, Ac1)` has, as its
adjoint, the column synthesis `Bc` of the two band pairs followed by the row synthesis `Br` -/
theorem pair2_adjoint (Ar0 Ar1 Ac0 Ac1 : List R → List R) (Br Bc : List R → List R → List R) (H W Kh Kw : Nat)
    (hc : PairAdj Ac0 Ac1 Bc H Kh) (hr : PairAdj Ar0 Ar1 Br W Kw) (x gll glh ghl ghh : Img R) (hx : Rect x H W)
    (r1 : Rect gll Kh Kw) (r2 : Rect glh Kh Kw) (r3 : Rect ghl Kh Kw) (r4 : Rect ghh Kh Kw) (hH : 1 ≤ H) (hKw : 1 ≤ Kw) :
    dot2 Kh Kw (alongH Ac0 (alongW Ar0 x)) gll + dot2 Kh Kw (alongH Ac1 (alongW Ar0 x)) glh
      + dot2 Kh Kw (alongH Ac0 (alongW Ar1 x)) ghl + dot2 Kh Kw (alongH Ac1 (alongW Ar1 x)) ghh
      = dot2 H W x (rowzip Br H W (colzip Bc H Kw gll glh) (colzip Bc H Kw ghl ghh)) := by
  rw [← pairW Ar0 Ar1 Br H Kw W hr.adj hr.len0 hr.len1 x _ _ hx (colzip_rect _ _ _ _ _) (colzip_rect _ _ _ _ _),
    ← pairH Ac0 Ac1 Bc H Kh Kw hc.adj hc.len0 hc.len1 _ gll glh (alongW_rect_of_length Ar0 x H W Kw hx hr.len0) r1 r2 hH hKw,
    ← pairH Ac0 Ac1 Bc H Kh Kw hc.adj hc.len0 hc.len1 _ ghl ghh (alongW_rect_of_length Ar1 x H W Kw hx hr.len1) r3 r4 hH hKw]
  ring

/-- cropping commutes with the separable synthesis: if `Fc'`, `Fr'` agree with `Fc`, `Fr` on the first `H`, `W` samples (on
inputs of lengths `Kh`, `Kw`), the synthesis with them is the top-left `H × W` block of the synthesis with `Fc`, `Fr` -/
theorem rowzip_colzip_crop (Fc Fc' Fr Fr' : List R → List R → List R) (H W Hf Wf Kh Kw : Nat) (hH : H ≤ Hf) (hW : W ≤ Wf)
    (hc : ∀ a b : List R, a.length = Kh → ∀ i < H, getN (Fc' a b) i = getN (Fc a b) i)
    (hr : ∀ a b : List R, a.length = Kw → ∀ j < W, getN (Fr' a b) j = getN (Fr a b) j)
    (a b a' b' : Img R) (ha : a.length = Kh) (ha' : a'.length = Kh) :
    rowzip Fr' H W (colzip Fc' H Kw a b) (colzip Fc' H Kw a' b')
      = tab2 H W (get2 (rowzip Fr Hf Wf (colzip Fc Hf Kw a b) (colzip Fc Hf Kw a' b'))) := by
  unfold rowzip
  apply tab2_congr; intro i hi j hj
  have hrow : ∀ a b : Img R, a.length = Kh → (colzip Fc' H Kw a b).getD i [] = (colzip Fc Hf Kw a b).getD i [] := by
    intro a b ha
    unfold colzip
    rw [getD_tab2_row _ _ _ i hi, getD_tab2_row _ _ _ i (by omega)]
    exact tab_ext rfl fun j' _ => hc _ _ (by simp [col, ha]) i hi
  rw [get2_tab2 _ _ _ _ _ (by omega) (by omega), hrow a b ha, hrow a' b' ha',
    hr _ _ (row_length _ Hf Kw (colzip_rect _ _ _ _ _) i (by omega)) j hj]

/-- `AFB2D.forward` on one channel, where `afb1d` computes `(Ar0, Ar1)` on rows and `(Ac0, Ac1)` on columns: row pass, then
column pass, bands in the order (ll, lh, hl, hh) -/
theorem AFB2D_forward_one (m : Mode) (wr0 wr1 wc0 wc1 : List R) (Ar0 Ar1 Ac0 Ac1 : List R → List R) (x : Img R) (H W : Nat)
    (hx : Rect x H W)
    (hr : ∀ c : List R, c.length = W → afb1dOne m wr0 c = some (Ar0 c) ∧ afb1dOne m wr1 c = some (Ar1 c))
    (hc : ∀ c : List R, c.length = H → afb1dOne m wc0 c = some (Ac0 c) ∧ afb1dOne m wc1 c = some (Ac1 c)) :
    AFB2D_forward m wr0 wr1 wc0 wc1 [x]
      = some ([alongH Ac0 (alongW Ar0 x)], [[alongH Ac1 (alongW Ar0 x), alongH Ac0 (alongW Ar1 x), alongH Ac1 (alongW Ar1 x)]]) := by
  have hl : ∀ A : List R → List R, (alongW A x).length = H := fun A => by rw [alongW, List.length_map, hx.1]
  unfold AFB2D_forward
  rw [afb1dT_one, alongO_W_val _ Ar0 x H W hx fun c h => (hr c h).1, alongO_W_val _ Ar1 x H W hx fun c h => (hr c h).2]
  simp only [Option.bind_eq_bind, Option.bind_some]
  rw [afb1dT_two, alongO_H_val _ Ac0 _ H (hl Ar0) fun c h => (hc c h).1, alongO_H_val _ Ac1 _ H (hl Ar0) fun c h => (hc c h).2,
    alongO_H_val _ Ac0 _ H (hl Ar1) fun c h => (hc c h).1, alongO_H_val _ Ac1 _ H (hl Ar1) fun c h => (hc c h).2]
  simp only [Option.bind_eq_bind, Option.bind_some, List.length_cons, List.length_nil, Nat.reduceAdd, Nat.reduceDiv, tab_one]
  rfl

/-- `AFB2D.forward` on one channel in a mode whose 1-D bank is the total map `A` on the rows and columns of the image:
rows first, then columns, bands in the order (ll, lh, hl, hh) -/
theorem AFB2D_forward_total (mode : Mode) (A : List R → List R → List R) (wr0 wr1 wc0 wc1 : List R)
    (hwr : wr1.length = wr0.length) (hwc : wc1.length = wc0.length) (x : Img R) (H W : Nat) (hx : Rect x H W)
    (hrow : ∀ (w c : List R), w.length = wr0.length → c.length = W → afb1dOne mode w c = some (A w c))
    (hcol : ∀ (w c : List R), w.length = wc0.length → c.length = H → afb1dOne mode w c = some (A w c)) :
    AFB2D_forward mode wr0 wr1 wc0 wc1 [x]
      = some ([alongH (A wc0) (alongW (A wr0) x)],
              [[alongH (A wc1) (alongW (A wr0) x), alongH (A wc0) (alongW (A wr1) x), alongH (A wc1) (alongW (A wr1) x)]]) :=
  AFB2D_forward_one mode wr0 wr1 wc0 wc1 (A wr0) (A wr1) (A wc0) (A wc1) x H W hx
    (fun c h => ⟨hrow wr0 c rfl h, hrow wr1 c hwr h⟩) (fun c h => ⟨hcol wc0 c rfl h, hcol wc1 c hwc h⟩)

/-- column synthesis of one pair of bands, `sfb1d(…, dim=2)`, where `sfb1d` on one channel computes `S` -/
theorem sfb1dImg_H_colzip (m : Mode) (w0 w1 : List R) (S : List R → List R → List R) (K n : Nat)
    (hS : ∀ a b : List R, a.length = K → b.length = K → sfb1dCh m w0 w1 a b = some (S a b))
    (hSl : ∀ a b : List R, a.length = K → (S a b).length = n)
    (a b : Img R) (W : Nat) (ha : Rect a K W) (hb : Rect b K W) (hK : 1 ≤ K) (hW : 1 ≤ W) :
    sfb1dImg .H m w0 w1 a b = some (colzip S n W a b) := by
  have hwa : Img.width a = W := rect_width _ _ _ ha hK
  have hwb : Img.width b = W := rect_width _ _ _ hb hK
  have hne : ¬ (Img.width a ≠ Img.width b) := by rw [hwa, hwb]; simp
  simp only [sfb1dImg]
  rw [if_neg hne, hwa]
  rw [mapM_total _ (fun j => S (col a j) (col b j))]
  · simp only [Option.map_some]
    congr 1
    have := tr_tab_cols W n hW (fun j => S (col a j) (col b j)) (fun j _ => hSl _ _ (by simp [col, ha.1]))
    unfold colzip
    rw [← this]; rfl
  · intro j hj
    have hj' : j < W := by simpa using hj
    rw [tr_getD a j (by rw [hwa]; exact hj'), tr_getD b j (by rw [hwb]; exact hj')]
    exact hS _ _ (by simp [col, ha.1]) (by simp [col, hb.1])

/-- row synthesis, `sfb1d(…, dim=3)` -/
theorem sfb1dImg_W_rowzip (m : Mode) (w0 w1 : List R) (S : List R → List R → List R) (K n : Nat)
    (hS : ∀ a b : List R, a.length = K → b.length = K → sfb1dCh m w0 w1 a b = some (S a b))
    (hSl : ∀ a b : List R, a.length = K → (S a b).length = n)
    (a b : Img R) (H : Nat) (ha : Rect a H K) (hb : Rect b H K) :
    sfb1dImg .W m w0 w1 a b = some (rowzip S H n a b) := by
  have hne : ¬ (a.length ≠ b.length) := by rw [ha.1, hb.1]; simp
  simp only [sfb1dImg]
  rw [if_neg hne, ha.1]
  rw [mapM_total _ (fun i => S (a.getD i []) (b.getD i []))]
  · congr 1
    unfold rowzip tab2 tab
    apply List.map_congr_left
    intro i hi
    have hi' : i < H := by simpa using hi
    exact (tab_getN _ n (hSl _ _ (row_length a H K ha i hi'))).symm
  · intro i hi
    have hi' : i < H := by simpa using hi
    exact hS _ _ (row_length a H K ha i hi') (row_length b H K hb i hi')

/-- on one channel and `K` coefficients per band, `sfb1d` in mode `m` with the filters `(w0, w1)` computes `S`, of length `n` -/
structure SynthVal (m : Mode) (w0 w1 : List R) (S : List R → List R → List R) (K n : Nat) : Prop where
  val : ∀ a b : List R, a.length = K → b.length = K → sfb1dCh m w0 w1 a b = some (S a b)
  len : ∀ a b : List R, a.length = K → (S a b).length = n

/-- `SFB2D.forward` on one channel: column synthesis of (ll, lh) and of (hl, hh), then row synthesis -/
theorem SFB2D_forward_one (m : Mode) (gr0 gr1 gc0 gc1 : List R) (Sr Sc : List R → List R → List R) (Kh Kw nh nw : Nat)
    (hc : SynthVal m gc0 gc1 Sc Kh nh) (hr : SynthVal m gr0 gr1 Sr Kw nw)
    (ll lh hl hh : Img R) (r1 : Rect ll Kh Kw) (r2 : Rect lh Kh Kw) (r3 : Rect hl Kh Kw) (r4 : Rect hh Kh Kw)
    (hKh : 1 ≤ Kh) (hKw : 1 ≤ Kw) :
    SFB2D_forward m gr0 gr1 gc0 gc1 [ll] [[lh, hl, hh]]
      = some [rowzip Sr nh nw (colzip Sc nh Kw ll lh) (colzip Sc nh Kw hl hh)] := by
  unfold SFB2D_forward
  simp only [List.map_cons, List.map_nil, List.getD_cons_zero, List.getD_cons_succ]
  rw [sfb1dT_single, sfb1dT_single, sfb1dImg_H_colzip m _ _ Sc Kh nh hc.val hc.len ll lh Kw r1 r2 hKh hKw,
    sfb1dImg_H_colzip m _ _ Sc Kh nh hc.val hc.len hl hh Kw r3 r4 hKh hKw]
  simp only [Option.map_some, Option.bind_eq_bind, Option.bind_some]
  rw [sfb1dT_single, sfb1dImg_W_rowzip m _ _ Sr Kw nw hr.val hr.len _ _ nh (colzip_rect _ _ _ _ _) (colzip_rect _ _ _ _ _)]
  rfl

/-- `AFB2D.backward` is `SFB2D.forward` on the same buffers followed by the fold / crop to the saved size -/
theorem AFB2D_backward_eq_SFB2D_forward (m : Mode) (wr0 wr1 wc0 wc1 : List R) (H W : Nat) (low : List (Img R))
    (highs : List (List (Img R))) :
    AFB2D_backward m wr0 wr1 wc0 wc1 H W low highs
      = (SFB2D_forward m wr0 wr1 wc0 wc1 low highs).map (List.map (foldCrop2 m H W)) := by
  unfold AFB2D_backward SFB2D_forward
  simp only [Option.bind_eq_bind]
  cases sfb1dT .H m wc0 wc1 low (highs.map fun b => b.getD 0 []) with
  | none => rfl
  | some lo =>
    simp only [Option.bind_some]
    cases sfb1dT .H m wc0 wc1 (highs.map fun b => b.getD 1 []) (highs.map fun b => b.getD 2 []) with
    | none => rfl
    | some hi =>
      simp only [Option.bind_some]
      cases sfb1dT .W m wr0 wr1 lo hi <;> rfl

theorem foldCrop2_val (m : Mode) (d : Img R) (Hf Wf H W : Nat) (hd : Rect d Hf Wf) (hHf : 1 ≤ Hf) (hWf : 1 ≤ Wf)
    (hlH : ∀ c : List R, c.length = Hf → (foldCrop m H c).length = H)
    (hlW : ∀ c : List R, c.length = Wf → (foldCrop m W c).length = W) :
    foldCrop2 m H W d = tab2 H W fun i j => getN (foldCrop m W (tab Wf fun j' => getN (foldCrop m H (col d j')) i)) j := by
  have e : foldCrop2 m H W d = alongW (foldCrop m W) (alongH (foldCrop m H) d) := rfl
  rw [e, alongH_tab2 (foldCrop m H) d Hf H Wf hd hHf hWf hlH, alongW_tab2 (foldCrop m W) _ H Wf W (tab2_rect H Wf _) hlW]
  apply tab2_congr; intro i hi j hj
  rw [getD_tab2_row H Wf _ i hi]

/-! ### mode zero -/

/-- what `sfb1d` computes in the padded modes: two transposed convolutions cropped by `L−2`, added -/
def Sz (w0 w1 a b : List R) : List R := vadd (convT w0 a (w0.length - 2)) (convT w1 b (w0.length - 2))

theorem Sz_length (w0 w1 a b : List R) : (Sz w0 w1 a b).length = 2 * (a.length - 1) + w0.length - 2 * (w0.length - 2) := by
  simp only [Sz, vadd, length_tab, C05.convT_length]

theorem synthVal_zero (w0 w1 : List R) (hL : 2 ≤ w0.length) (hw : w1.length = w0.length) (K : Nat) (hK : 1 ≤ K)
    (hfit : w0.length ≤ 2 * K + 1) : SynthVal .zero w0 w1 (Sz w0 w1) K (2 * (K - 1) + w0.length - 2 * (w0.length - 2)) where
  val := fun a b ha hb => C05.sfb1dCh_zero_val w0 w1 a b hL hw (by omega) (by omega) (by omega)
  len := fun a b ha => by rw [Sz_length, ha]

/-- `Bz w0 w1 N a b` = what `AFB1D.backward` returns in mode zero on one channel for the cotangents `(a, b)`: `sfb1d` with the
analysis buffers `(w0, w1)`, cropped to the saved input length `N` -/
def Bz (w0 w1 : List R) (N : Nat) (a b : List R) : List R := foldCrop .zero N (Sz w0 w1 a b)

theorem Bz_length (w0 w1 : List R) (hL : 2 ≤ w0.length) (N : Nat) (hN : 1 ≤ N) (a b : List R)
    (ha : a.length = dwtCoeffLen N w0.length) : (Bz w0 w1 N a b).length = N := by
  have hl : N ≤ (Sz w0 w1 a b).length := by rw [Sz_length, ha]; exact bandLen_le_synth N _ hL hN
  rw [Bz, foldCrop_zero N _ hl, List.length_take]; omega

theorem getN_Bz (w0 w1 : List R) (hL : 2 ≤ w0.length) (N : Nat) (hN : 1 ≤ N) (a b : List R)
    (ha : a.length = dwtCoeffLen N w0.length) (i : Nat) (hi : i < N) : getN (Bz w0 w1 N a b) i = getN (Sz w0 w1 a b) i :=
  getN_foldCrop_zero N _ (by rw [Sz_length, ha]; exact bandLen_le_synth N _ hL hN) i hi

/-- `Az w x` = the value `afb1d` computes in mode zero for the one filter `w` (`afb1dOne_zero_pair`) -/
abbrev Az (w : List R) : List R → List R := C05.afbZeroVal w

theorem afb1dOne_zero_pair (w0 w1 : List R) (hL : 2 ≤ w0.length) (hw : w1.length = w0.length) (N : Nat) (hN : 1 ≤ N)
    (c : List R) (hc : c.length = N) : afb1dOne .zero w0 c = some (Az w0 c) ∧ afb1dOne .zero w1 c = some (Az w1 c) :=
  ⟨C05.afb1dOne_zero_val w0 c hL (by omega), C05.afb1dOne_zero_val w1 c (by omega) (by omega)⟩

theorem adj1 (w0 w1 : List R) (hL : 2 ≤ w0.length) (hw : w1.length = w0.length) (N : Nat) (hN : 1 ≤ N)
    (c a b : List R) (hc : c.length = N) (ha : a.length = dwtCoeffLen N w0.length) (hb : b.length = dwtCoeffLen N w0.length) :
    (∑ k ∈ range (dwtCoeffLen N w0.length), getN (C05.afbZeroVal w0 c) k * getN a k)
      + (∑ k ∈ range (dwtCoeffLen N w0.length), getN (C05.afbZeroVal w1 c) k * getN b k)
      = ∑ i ∈ range N, getN c i * getN (Bz w0 w1 N a b) i :=
  C05.pair_zero_adjoint_crop w0 w1 hL hw N _ hN rfl c a b hc ha hb

/-- `AFB1D` in mode zero: the analysis pair and the cropped synthesis with the same buffers -/
theorem pairAdj_zero (w0 w1 : List R) (hL : 2 ≤ w0.length) (hw : w1.length = w0.length) (N : Nat) (hN : 1 ≤ N) :
    PairAdj (Az w0) (Az w1) (Bz w0 w1 N) N (dwtCoeffLen N w0.length) where
  len0 := fun c hc => by rw [C05.afbZeroVal_length w0 c hL (by omega), hc]
  len1 := fun c hc => by rw [C05.afbZeroVal_length w1 c (by omega) (by omega), hc, hw]
  adj := adj1 w0 w1 hL hw N hN

theorem foldCrop2_zero (d : Img R) (Hf Wf H W : Nat) (hd : Rect d Hf Wf) (hH : 1 ≤ H) (hW : 1 ≤ W) (hHf : H ≤ Hf) (hWf : W ≤ Wf) :
    foldCrop2 .zero H W d = tab2 H W (get2 d) := by
  rw [foldCrop2_val .zero d Hf Wf H W hd (by omega) (by omega)
    (fun c hc => by rw [foldCrop_zero H c (by omega), List.length_take]; omega)
    (fun c hc => by rw [foldCrop_zero W c (by omega), List.length_take]; omega)]
  apply tab2_congr; intro i hi j hj
  rw [getN_foldCrop_zero W _ (by simp; omega) j hj, getN_tab, if_pos (by omega),
    getN_foldCrop_zero H _ (by simp [col, hd.1]; omega) i hi, get2_eq_getN_col d Hf Wf hd i j (by omega)]

theorem Az_alongW_rect (w : List R) (hL : 2 ≤ w.length) (x : Img R) (H W : Nat) (hx : Rect x H W) (hW : 1 ≤ W) :
    Rect (alongW (Az w) x) H (dwtCoeffLen W w.length) :=
  alongW_rect_of_length (Az w) x H W _ hx (fun c hc => by rw [C05.afbZeroVal_length w c hL (by omega), hc])

theorem rect_Az_band (wc wr : List R) (hLc : 2 ≤ wc.length) (hLr : 2 ≤ wr.length) (x : Img R) (H W : Nat) (hx : Rect x H W) (hH : 1 ≤ H)
    (hW : 1 ≤ W) : Rect (alongH (Az wc) (alongW (Az wr) x)) (dwtCoeffLen H wc.length) (dwtCoeffLen W wr.length) :=
  alongH_rect_of_length (Az wc) _ H _ _ (Az_alongW_rect wr hLr x H W hx hW) hH (bandLen_pos W _ hLr hW)
    (fun c hc => by rw [C05.afbZeroVal_length wc c hLc (by omega), hc])

theorem AFB2D_forward_val (wr0 wr1 wc0 wc1 : List R) (hLr : 2 ≤ wr0.length) (hwr : wr1.length = wr0.length)
    (hLc : 2 ≤ wc0.length) (hwc : wc1.length = wc0.length) (x : Img R) (H W : Nat) (hx : Rect x H W) (hH : 1 ≤ H) (hW : 1 ≤ W) :
    AFB2D_forward .zero wr0 wr1 wc0 wc1 [x]
      = some ([alongH (Az wc0) (alongW (Az wr0) x)],
              [[alongH (Az wc1) (alongW (Az wr0) x), alongH (Az wc0) (alongW (Az wr1) x), alongH (Az wc1) (alongW (Az wr1) x)]]) :=
  AFB2D_forward_one .zero wr0 wr1 wc0 wc1 _ _ _ _ x H W hx (afb1dOne_zero_pair wr0 wr1 hLr hwr W hW)
    (afb1dOne_zero_pair wc0 wc1 hLc hwc H hH)

section adjoint2d
variable (wr0 wr1 wc0 wc1 : List R) (hLr : 2 ≤ wr0.length) (hwr : wr1.length = wr0.length)
    (hLc : 2 ≤ wc0.length) (hwc : wc1.length = wc0.length) (H W : Nat) (hH : 1 ≤ H) (hW : 1 ≤ W)

/-- the un-cropped synthesis of the four cotangent bands -/
def dxFull (gll glh ghl ghh : Img R) : Img R :=
  let Kh := dwtCoeffLen H wc0.length
  let Kw := dwtCoeffLen W wr0.length
  let Hf := 2 * (Kh - 1) + wc0.length - 2 * (wc0.length - 2)
  let Wf := 2 * (Kw - 1) + wr0.length - 2 * (wr0.length - 2)
  rowzip (Sz wr0 wr1) Hf Wf (colzip (Sz wc0 wc1) Hf Kw gll glh) (colzip (Sz wc0 wc1) Hf Kw ghl ghh)

include hLr hwr hLc hwc hH hW in
/-- the backward pass on one channel: column synthesis of (ll, lh) and of (hl, hh), row synthesis, one crop at the end -/
theorem AFB2D_backward_val (gll glh ghl ghh : Img R)
    (r1 : Rect gll (dwtCoeffLen H wc0.length) (dwtCoeffLen W wr0.length)) (r2 : Rect glh (dwtCoeffLen H wc0.length) (dwtCoeffLen W wr0.length))
    (r3 : Rect ghl (dwtCoeffLen H wc0.length) (dwtCoeffLen W wr0.length)) (r4 : Rect ghh (dwtCoeffLen H wc0.length) (dwtCoeffLen W wr0.length)) :
    AFB2D_backward .zero wr0 wr1 wc0 wc1 H W [gll] [[glh, ghl, ghh]]
      = some [tab2 H W (get2 (dxFull wr0 wr1 wc0 wc1 H W gll glh ghl ghh))] := by
  have hKh := bandLen_pos H _ hLc hH
  have hKw := bandLen_pos W _ hLr hW
  rw [AFB2D_backward_eq_SFB2D_forward, SFB2D_forward_one .zero wr0 wr1 wc0 wc1 (Sz wr0 wr1) (Sz wc0 wc1) _ _ _ _
    (synthVal_zero wc0 wc1 hLc hwc _ hKh (bandLen_fit H _ hLc hH))
    (synthVal_zero wr0 wr1 hLr hwr _ hKw (bandLen_fit W _ hLr hW)) gll glh ghl ghh r1 r2 r3 r4 hKh hKw]
  simp only [Option.map_some, List.map_cons, List.map_nil]
  rw [foldCrop2_zero _ _ _ H W (rowzip_rect _ _ _ _ _) hH hW (bandLen_le_synth H _ hLc hH)
    (bandLen_le_synth W _ hLr hW)]
  rfl

include hLr hwr hLc hwc hH hW in
/-- the adjoint identity between the values of the two passes; one crop per axis at the very end gives the same pixels as
cropping every column and every row -/
theorem AFB2D_zero_adjoint_val (x gll glh ghl ghh : Img R) (hx : Rect x H W)
    (r1 : Rect gll (dwtCoeffLen H wc0.length) (dwtCoeffLen W wr0.length)) (r2 : Rect glh (dwtCoeffLen H wc0.length) (dwtCoeffLen W wr0.length))
    (r3 : Rect ghl (dwtCoeffLen H wc0.length) (dwtCoeffLen W wr0.length)) (r4 : Rect ghh (dwtCoeffLen H wc0.length) (dwtCoeffLen W wr0.length)) :
    dot2 (dwtCoeffLen H wc0.length) (dwtCoeffLen W wr0.length) (alongH (Az wc0) (alongW (Az wr0) x)) gll
        + dot2 (dwtCoeffLen H wc0.length) (dwtCoeffLen W wr0.length) (alongH (Az wc1) (alongW (Az wr0) x)) glh
        + dot2 (dwtCoeffLen H wc0.length) (dwtCoeffLen W wr0.length) (alongH (Az wc0) (alongW (Az wr1) x)) ghl
        + dot2 (dwtCoeffLen H wc0.length) (dwtCoeffLen W wr0.length) (alongH (Az wc1) (alongW (Az wr1) x)) ghh
      = dot2 H W x (tab2 H W (get2 (dxFull wr0 wr1 wc0 wc1 H W gll glh ghl ghh))) := by
  rw [pair2_adjoint (Az wr0) (Az wr1) (Az wc0) (Az wc1) (Bz wr0 wr1 W) (Bz wc0 wc1 H) H W _ _
    (pairAdj_zero wc0 wc1 hLc hwc H hH) (pairAdj_zero wr0 wr1 hLr hwr W hW) x gll glh ghl ghh hx r1 r2 r3 r4 hH
    (bandLen_pos W _ hLr hW)]
  exact congrArg (dot2 H W x) (rowzip_colzip_crop (Sz wc0 wc1) (Bz wc0 wc1 H) (Sz wr0 wr1) (Bz wr0 wr1 W) H W _ _ _ _
    (bandLen_le_synth H _ hLc hH) (bandLen_le_synth W _ hLr hW)
    (fun a b ha i hi => getN_Bz wc0 wc1 hLc H hH a b ha i hi) (fun a b ha j hj => getN_Bz wr0 wr1 hLr W hW a b ha j hj)
    gll glh ghl ghh r1.1 r3.1)

include hLr hwr hLc hwc hH hW in
/-- `AFB2D.backward` is the adjoint of `AFB2D.forward` in mode zero, one channel, every image size `H, W ≥ 1` and filter
lengths `≥ 2` (the two filters of an axis of one length): `⟨ll,gll⟩ + ⟨lh,glh⟩ + ⟨hl,ghl⟩ + ⟨hh,ghh⟩ = ⟨x, backward(gll, glh, ghl, ghh)⟩` -/
theorem AFB2D_zero_adjoint (x gll glh ghl ghh : Img R) (hx : Rect x H W)
    (r1 : Rect gll (dwtCoeffLen H wc0.length) (dwtCoeffLen W wr0.length)) (r2 : Rect glh (dwtCoeffLen H wc0.length) (dwtCoeffLen W wr0.length))
    (r3 : Rect ghl (dwtCoeffLen H wc0.length) (dwtCoeffLen W wr0.length)) (r4 : Rect ghh (dwtCoeffLen H wc0.length) (dwtCoeffLen W wr0.length)) :
    ∃ ll lh hl hh dx, AFB2D_forward .zero wr0 wr1 wc0 wc1 [x] = some ([ll], [[lh, hl, hh]]) ∧
      AFB2D_backward .zero wr0 wr1 wc0 wc1 H W [gll] [[glh, ghl, ghh]] = some [dx] ∧
      dot2 (dwtCoeffLen H wc0.length) (dwtCoeffLen W wr0.length) ll gll + dot2 (dwtCoeffLen H wc0.length) (dwtCoeffLen W wr0.length) lh glh
        + dot2 (dwtCoeffLen H wc0.length) (dwtCoeffLen W wr0.length) hl ghl + dot2 (dwtCoeffLen H wc0.length) (dwtCoeffLen W wr0.length) hh ghh
        = dot2 H W x dx :=
  ⟨_, _, _, _, _, AFB2D_forward_val wr0 wr1 wc0 wc1 hLr hwr hLc hwc x H W hx hH hW,
    AFB2D_backward_val wr0 wr1 wc0 wc1 hLr hwr hLc hwc H W hH hW gll glh ghl ghh r1 r2 r3 r4,
    AFB2D_zero_adjoint_val wr0 wr1 wc0 wc1 hLr hwr hLc hwc H W hH hW x gll glh ghl ghh hx r1 r2 r3 r4⟩

end adjoint2d

end WV.C05D
