/-
  C03 — DTCWT analysis equals the reference dual-tree implementation.

  The two 1-D filters of `dtcwt/lowlevel.py`, on one column, against the formulas of Spec/DtcwtRef.lean.
  Level 1: the code's `colfilter` (index vector from `symm_pad_1d`, correlation with the reversed buffer
  `prep_filt(h)`) is the reference's convolution with `h` on the half-sample symmetric extension `Spec.xt`, for every
  filter length ≥ 1 (odd or even) and every column length ≥ 1.  Levels ≥ 2: `coldfilt` (two trees = stride-2
  correlations of every second extended sample, interleaved by `stack((a, b), dim=-2).view(...)`: the first tree on
  even, the second on odd rows) is the reference's dual-tree decimating filter `Spec.coldfilt`, for every column length
  that is a positive multiple of 4 (two trees of one common filter length ≥ 1); otherwise `coldfilt` raises.
-/
import WaveletsVerif.Lemmas.Basic
import WaveletsVerif.Spec.DtcwtRef
namespace WV.C03
open Finset WV
variable {R : Type} [CommRing R]

/-- `colfilter(X, prep_filt(h))` = reference `colfilter(X, h)`, column-wise -/
theorem colfilter1_eq_ref (h x : List R) (hL : 1 ≤ h.length) (hN : 1 ≤ x.length) :
    colfilter1 true (prepFilt h) x = Spec.colfilter h x := by
  unfold colfilter1 prepFilt Spec.colfilter symmPad corr
  simp only [if_true, List.length_reverse]
  have hlen : corrLen (h.length / 2 + x.length + h.length / 2) h.length 1 1 = x.length + 2 * (h.length / 2) + 1 - h.length := by
    unfold corrLen; split <;> omega
  apply tab_ext
  · simp only [length_padIdx]; exact hlen
  · intro i hi
    simp only [length_padIdx] at hi
    rw [hlen] at hi
    rw [sumN_eq, sumN_eq, ← Finset.sum_range_reflect]
    apply Finset.sum_congr rfl
    intro j hj
    have hj' : j < h.length := by simpa using hj
    rw [getN_eq_getZ (padIdx _ _ _ _), getN_reverse h j hj']
    have hlt : 1 * i + 1 * (h.length - 1 - j) < h.length / 2 + x.length + h.length / 2 := by omega
    rw [getZ_padIdx _ _ _ _ _ (by positivity) (by exact_mod_cast hlt)]
    unfold Spec.xt
    congr 3
    push_cast
    ring

theorem interleave2_get (a b : List R) (t : Nat) (ht : t < a.length) :
    getN (interleave2 a b) (2*t) = getN a t ∧ getN (interleave2 a b) (2*t+1) = getN b t := by
  unfold interleave2
  constructor
  · have h2 : (2*t) % 2 = 0 := by omega
    have h3 : (2*t) / 2 = t := by omega
    rw [getN_tab, if_pos (by omega), if_pos h2, h3]
  · have h2 : ¬ (2*t+1) % 2 = 0 := by omega
    have h3 : (2*t+1) / 2 = t := by omega
    rw [getN_tab, if_pos (by omega), if_neg h2, h3]

theorem slice2From_eq (x : List R) (a : Nat) (h : a ≤ x.length) :
    slice2From x (a : Int) = tab ((x.length - a + 1) / 2) fun i => getN x (a + 2*i) := by
  unfold slice2From slice2
  rw [pyBound_nat _ _ h, pyBound_nat _ _ (le_refl _)]

theorem length_symmPad (x : List R) (m : Nat) : (symmPad x m).length = m + x.length + m := by
  unfold symmPad; exact length_padIdx _ _ _ _

theorem getN_symmPad (x : List R) (m i : Nat) (hi : i < m + x.length + m) :
    getN (symmPad x m) i = Spec.xt x ((i:Int) - m) := by
  unfold symmPad Spec.xt
  rw [getN_eq_getZ, getZ_padIdx _ _ _ _ _ (by positivity) (by exact_mod_cast hi)]

theorem interleave2_ext (a b : List R) (n N : Nat) (F : Nat → R) (hl : a.length = n) (hN : N = 2 * n)
    (h0 : ∀ i, i / 2 < n → i % 2 = 0 → getN a (i/2) = F i) (h1 : ∀ i, i / 2 < n → ¬ i % 2 = 0 → getN b (i/2) = F i) :
    interleave2 a b = tab N F := by
  unfold interleave2
  rw [hl]
  apply tab_ext hN.symm
  intro i hi
  have hv : i / 2 < n := by omega
  by_cases h : i % 2 = 0
  · rw [if_pos h]; exact h0 i hv h
  · rw [if_neg h]; exact h1 i hv h

theorem slice2From_symmPad (x : List R) (m s : Nat) (hs : s = 2 ∨ s = 3) (hr : x.length % 4 = 0) (hr0 : 0 < x.length) :
    slice2From (symmPad x m) (s:Int) = tab (x.length / 2 + m - 1) fun i => getN (symmPad x m) (s + 2*i) := by
  have hlen := length_symmPad x m
  rw [slice2From_eq _ _ (by omega), hlen]
  congr 1
  omega

theorem tree_length (h x : List R) (s : Nat) (hs : s = 2 ∨ s = 3) (hr : x.length % 4 = 0) (hr0 : 0 < x.length)
    (hm : 1 ≤ h.length) :
    (corr h.reverse (slice2From (symmPad x h.length) (s:Int)) 2 1).length = x.length / 4 := by
  rw [slice2From_symmPad x _ s hs hr hr0, corr_length, length_tab, List.length_reverse]
  unfold corrLen
  rw [if_neg (by omega)]
  omega

/-- one tree of `coldfilt`: stride-2 correlation of every second extended sample, starting at `s ∈ {2,3}` -/
theorem tree_get (h x : List R) (s v : Nat) (hs : s = 2 ∨ s = 3) (hr : x.length % 4 = 0) (hr0 : 0 < x.length)
    (hm : 1 ≤ h.length) (hv : v < x.length / 4) :
    getN (corr h.reverse (slice2From (symmPad x h.length) (s:Int)) 2 1) v
      = ∑ j ∈ range h.length, getN h (h.length - 1 - j) * Spec.xt x (4*(v:Int) + 2*(j:Int) + s - h.length) := by
  have hk := tree_length h x s hs hr hr0 hm
  rw [corr_length] at hk
  rw [getN_corr2 _ _ v (by rw [hk]; exact hv), slice2From_symmPad x _ s hs hr hr0, List.length_reverse]
  apply Finset.sum_congr rfl; intro j hj
  have hj' : j < h.length := by simpa using hj
  rw [getN_reverse' h j hj', ← getN_eq_getZ, getN_tab, if_pos (by omega), getN_symmPad _ _ _ (by omega)]
  congr 2
  push_cast; ring

/-- `coldfilt(X, prep_filt(ha), prep_filt(hb), highpass)` is the reference formula: trees
`a v = Σ_j ha[m−1−j]·x̃(4v+2j+2−m)`, `b v = Σ_j hb[m−1−j]·x̃(4v+2j+3−m)`, interleaved (tree b first for the
high-pass), for every column length that is a positive multiple of 4 and every filter length ≥ 1 common to the two
trees (`hb.length = ha.length`). -/
theorem coldfilt1_eq_ref (ha hb x : List R) (hp : Bool) (hr : x.length % 4 = 0) (hr0 : 0 < x.length)
    (hm : 1 ≤ ha.length) (hab : hb.length = ha.length) :
    coldfilt1 (prepFilt ha) (prepFilt hb) hp x = some (Spec.coldfilt ha hb hp x) := by
  have hg : ¬ (x.length % 4 ≠ 0 ∨ x.length = 0) := by omega
  have hN : x.length / 2 = 2 * (x.length / 4) := by omega
  have la := tree_length ha x 2 (Or.inl rfl) hr hr0 hm
  have lb := tree_length hb x 3 (Or.inr rfl) hr hr0 (by omega)
  have ta := fun (i : Nat) (hv : i / 2 < x.length / 4) => tree_get ha x 2 (i/2) (Or.inl rfl) hr hr0 hm hv
  have tb := fun (i : Nat) (hv : i / 2 < x.length / 4) => tree_get hb x 3 (i/2) (Or.inr rfl) hr hr0 (by omega) hv
  rw [hab] at lb tb
  unfold coldfilt1 prepFilt Spec.coldfilt
  rw [if_neg hg]
  simp only [List.length_reverse, sumN_eq]
  cases hp
  · simp only [Bool.false_eq_true, if_false]
    refine congrArg some (interleave2_ext _ _ _ _ _ la hN ?_ ?_)
    · intro i hv h; rw [if_pos h]; exact ta i hv
    · intro i hv h; rw [if_neg h]; exact tb i hv
  · simp only [if_true]
    refine congrArg some (interleave2_ext _ _ _ _ _ lb hN ?_ ?_)
    · intro i hv h; rw [if_pos h]; exact tb i hv
    · intro i hv h; rw [if_neg h]; exact ta i hv

/-- `coldfilt` raises exactly when the column length is not a positive multiple of 4 -/
theorem coldfilt1_raises_iff (ha hb x : List R) (hp : Bool) :
    coldfilt1 ha hb hp x = none ↔ (x.length % 4 ≠ 0 ∨ x.length = 0) := by
  unfold coldfilt1
  split <;> simp_all

example : colfilter1 true (prepFilt [1, 2, 3]) ([4, 5, 6, 7] : List Int) = Spec.colfilter [1, 2, 3] [4, 5, 6, 7] := by
  decide

end WV.C03
