/-
  C05 — back-propagation through the whole J-level 2-D INVERSE transform is the exact adjoint (mode zero, one channel, every J,
  every forward-compatible pyramid `SizesOK`, filter lengths `2 ≤ L ≤ 2K + 1` at every level, the one-sample crops included;
  `DWTInverse_zero_adjoint`): the low-pass AND every band-pass level receive their gradients.

  The module `DWTInverse` applies `SFB2D` from the coarsest level to the finest; before each level it drops the last row / column
  of the running low-pass when it is one sample larger than that level's band-pass images (what a forward transform of an odd
  size leaves behind).  Autograd therefore runs `SFB2D.backward` (the analysis bank with the synthesis filters) from the finest
  level to the coarsest, keeps the three band-pass gradients of each level, and hands on the low-pass gradient — extended by a zero
  row / column where the forward pass cropped (`DWTInverseBackward`: the chain rule over the module's loop with the library's
  hand-written backward at every level).  One level is the adjoint of one level (`C05S.SFB2D_zero_adjoint`), the crop is the adjoint
  of the zero extension (`crop_adjoint`), and by induction over the levels
  `⟨DWTInverse(yl, yh), dy⟩ = ⟨yl, d yl⟩ + Σ_levels (⟨lh, d lh⟩ + ⟨hl, d hl⟩ + ⟨hh, d hh⟩)`.
-/
import WaveletsVerif.Properties.C05S
import WaveletsVerif.Properties.C05J
import Mathlib.Data.List.GetD
namespace WV.C05K
open Finset WV WV.C04 WV.C06 WV.C05D WV.C05S WV.C17T
variable {R : Type} [CommRing R]

/-- the module's crop of the running low-pass to the band-pass size (one row, then one column) -/
def cropTo (z : Img R) (cH cW : Bool) : Img R :=
  let z1 := if cH then z.take (z.length - 1) else z
  if cW then z1.map (fun r => r.take (r.length - 1)) else z1

/-- the backward of that crop: a zero column, then a zero row -/
def padBack (g : Img R) (cH cW : Bool) : Img R :=
  let g1 := if cW then g.map (· ++ [0]) else g
  if cH then g1 ++ [List.replicate (Img.width g1) 0] else g1

/-- autograd's chain rule over the level loop of `DWTInverse`, finest level first; `fl` says where the forward pass cropped -/
def DWTInverseBackward (mode : Mode) (gr0 gr1 gc0 gc1 : List R) : List (Bool × Bool) → Img R → Option (Img R × List (List (Img R)))
  | [], dy => some (dy, [])
  | (cH, cW) :: fl, dy => do
    let r ← SFB2D_backward mode gr0 gr1 gc0 gc1 [dy]
    let (gl, rest) ← DWTInverseBackward mode gr0 gr1 gc0 gc1 fl (padBack (r.1.getD 0 []) cH cW)
    some (gl, (r.2.getD 0 []) :: rest)

/-- one step of the loop on one channel: the crop of the running low-pass to the band-pass size, then the synthesis -/
theorem DWTInverse_step_one (m : Mode) (gc0 gc1 gr0 gr1 : List R) (Z lh hl hh : Img R) :
    DWTInverse_step m gc0 gc1 gr0 gr1 [Z] (some [[lh, hl, hh]])
      = SFB2D_forward m gr0 gr1 gc0 gc1 [cropTo Z (decide (Z.length > lh.length)) (decide (Img.width Z > Img.width lh))] [[lh, hl, hh]] := by
  unfold DWTInverse_step cropTo
  simp only [List.headD_cons, List.map_cons, List.map_nil, decide_eq_true_eq]
  split <;> split <;> rfl

/-- output size of the pyramid: band sizes finest first, then the size of the low-pass -/
def outSize (Lc Lr : Nat) : List (Nat × Nat) → Nat × Nat → Nat × Nat
  | [], A => A
  | (Kh, Kw) :: _, _ => (Nf Kh Lc, Nf Kw Lr)

/-- where the forward pass crops -/
def flags (Lc Lr : Nat) : List (Nat × Nat) → Nat × Nat → List (Bool × Bool)
  | [], _ => []
  | (Kh, Kw) :: ks, A => (decide ((outSize Lc Lr ks A).1 > Kh), decide ((outSize Lc Lr ks A).2 > Kw)) :: flags Lc Lr ks A

/-- a forward-compatible pyramid of band sizes: every level receives a low-pass of its own size or one sample more per axis -/
def SizesOK (Lc Lr : Nat) : List (Nat × Nat) → Nat × Nat → Prop
  | [], A => 1 ≤ A.1 ∧ 1 ≤ A.2
  | (Kh, Kw) :: ks, A => SizesOK Lc Lr ks A ∧ 1 ≤ Kh ∧ 1 ≤ Kw ∧ Lc ≤ 2 * Kh + 1 ∧ Lr ≤ 2 * Kw + 1 ∧
      ((outSize Lc Lr ks A).1 = Kh ∨ (outSize Lc Lr ks A).1 = Kh + 1) ∧ ((outSize Lc Lr ks A).2 = Kw ∨ (outSize Lc Lr ks A).2 = Kw + 1)

/-- the band-pass levels have the listed sizes -/
def BandsRect : List (Nat × Nat) → List (List (Img R)) → Prop
  | [], [] => True
  | (Kh, Kw) :: ks, b :: bs => (∃ lh hl hh, b = [lh, hl, hh] ∧ Rect lh Kh Kw ∧ Rect hl Kh Kw ∧ Rect hh Kh Kw) ∧ BandsRect ks bs
  | _, _ => False

/-- inner product of the band-pass levels with their gradients -/
def bandsDot : List (Nat × Nat) → List (List (Img R)) → List (List (Img R)) → R
  | (Kh, Kw) :: ks, b :: bs, d :: ds =>
    dot2 Kh Kw (d.getD 0 []) (b.getD 0 []) + dot2 Kh Kw (d.getD 1 []) (b.getD 1 []) + dot2 Kh Kw (d.getD 2 []) (b.getD 2 [])
      + bandsDot ks bs ds
  | _, _, _ => 0

theorem get2_mapTake (z : Img R) (n i j : Nat) (hj : j < n) : get2 (z.map fun r => r.take n) i j = get2 z i j := by
  unfold get2
  simp only [List.getD_eq_getElem?_getD, List.getElem?_map]
  cases h : z[i]? with
  | none => simp
  | some r => simp [hj]

omit [CommRing R] in
theorem cropTo_rect (z : Img R) (Kh Kw zh zw : Nat) (hz : Rect z zh zw) (h1 : zh = Kh ∨ zh = Kh + 1)
    (h2 : zw = Kw ∨ zw = Kw + 1) : Rect (cropTo z (decide (zh > Kh)) (decide (zw > Kw))) Kh Kw := by
  have r1 : Rect (if decide (zh > Kh) = true then z.take (z.length - 1) else z) Kh zw := by
    split
    · rename_i h; simp only [decide_eq_true_eq] at h
      exact ⟨by rw [List.length_take, hz.1]; exact crop_min Kh zh h h1, fun r hr => hz.2 r (List.mem_of_mem_take hr)⟩
    · rename_i h; simp only [decide_eq_true_eq] at h
      exact ⟨hz.1.trans (crop_eq Kh zh h h1), hz.2⟩
  unfold cropTo
  simp only
  split
  · rename_i h; simp only [decide_eq_true_eq] at h
    refine ⟨by rw [List.length_map]; exact r1.1, ?_⟩
    intro r hr
    obtain ⟨r0, h0, rfl⟩ := List.mem_map.mp hr
    rw [List.length_take, r1.2 r0 h0]
    exact crop_min Kw zw h h2
  · rename_i h; simp only [decide_eq_true_eq] at h
    exact ⟨r1.1, fun r hr => (r1.2 r hr).trans (crop_eq Kw zw h h2)⟩

theorem padBack_rect (g : Img R) (Kh Kw zh zw : Nat) (hg : Rect g Kh Kw) (hKh : 1 ≤ Kh) (h1 : zh = Kh ∨ zh = Kh + 1)
    (h2 : zw = Kw ∨ zw = Kw + 1) : Rect (padBack g (decide (zh > Kh)) (decide (zw > Kw))) zh zw := by
  have r1 : Rect (if decide (zw > Kw) = true then g.map (· ++ [(0:R)]) else g) Kh zw := by
    split
    · rename_i h; simp only [decide_eq_true_eq] at h
      refine ⟨by rw [List.length_map]; exact hg.1, ?_⟩
      intro r hr
      obtain ⟨r0, h0, rfl⟩ := List.mem_map.mp hr
      rw [List.length_append, hg.2 r0 h0]
      exact (crop_succ Kw zw h h2).symm
    · rename_i h; simp only [decide_eq_true_eq] at h
      exact ⟨hg.1, fun r hr => (hg.2 r hr).trans (crop_eq Kw zw h h2).symm⟩
  unfold padBack
  simp only
  split
  · rename_i h; simp only [decide_eq_true_eq] at h
    refine ⟨by rw [List.length_append, r1.1]; exact (crop_succ Kh zh h h1).symm, ?_⟩
    intro r hr
    rw [List.mem_append] at hr
    rcases hr with hr | hr
    · exact r1.2 r hr
    · simp only [List.mem_singleton] at hr
      rw [hr, List.length_replicate, rect_width _ _ _ r1 hKh]
  · rename_i h; simp only [decide_eq_true_eq] at h
    exact ⟨r1.1.trans (crop_eq Kh zh h h1).symm, r1.2⟩

theorem get2_cropTo (z : Img R) (Kh Kw zh zw : Nat) (hz : Rect z zh zw) (i j : Nat) (hi : i < Kh) (hj : j < Kw) :
    get2 (cropTo z (decide (zh > Kh)) (decide (zw > Kw))) i j = get2 z i j := by
  unfold cropTo
  simp only
  have e1 : get2 (if decide (zh > Kh) = true then z.take (z.length - 1) else z) i j = get2 z i j := by
    split
    · rename_i h; simp only [decide_eq_true_eq] at h
      exact get2_take z _ i j (by rw [hz.1]; exact lt_crop i Kh zh hi h)
    · rfl
  split
  · rename_i h; simp only [decide_eq_true_eq] at h
    -- all rows have length zw: `r.take (r.length - 1)` agrees with `take Kw` entrywise below Kw
    unfold get2
    simp only [List.getD_eq_getElem?_getD, List.getElem?_map]
    unfold get2 at e1
    simp only [List.getD_eq_getElem?_getD] at e1
    rw [← e1]
    cases hr : (if decide (zh > Kh) = true then z.take (z.length - 1) else z)[i]? with
    | none => simp
    | some r =>
      have hmem : r ∈ z := by
        have := List.mem_of_getElem? hr
        split at this
        · exact List.mem_of_mem_take this
        · exact this
      have hl := hz.2 r hmem
      simp [List.getElem?_take, hl]
      rw [if_pos (lt_crop j Kw zw hj h)]
  · exact e1

theorem get2_padBack (g : Img R) (Kh Kw : Nat) (hg : Rect g Kh Kw) (cH cW : Bool) (i j : Nat) :
    get2 (padBack g cH cW) i j = if i < Kh ∧ j < Kw then get2 g i j else 0 := by
  have e1 : ∀ i j, get2 (if cW = true then g.map (· ++ [(0:R)]) else g) i j = if i < Kh ∧ j < Kw then get2 g i j else 0 := by
    intro i j
    split
    · rw [get2_mapSnoc g Kw hg.2]
      by_cases hj : j < Kw
      · by_cases hi : i < Kh
        · simp [hi, hj]
        · simp only [hj, if_true, hi, false_and, if_false]
          exact get2_row_oob g i j (by rw [hg.1]; exact Nat.le_of_not_lt hi)
      · simp [hj]
    · by_cases hi : i < Kh
      · by_cases hj : j < Kw
        · simp [hi, hj]
        · simp only [hi, hj, and_false, if_false]
          have hl : (g.getD i []).length = Kw := row_length g Kh Kw hg i hi
          exact get2_col_oob g i j (by rw [hl]; exact Nat.le_of_not_lt hj)
      · simp only [hi, false_and, if_false]
        exact get2_row_oob g i j (by rw [hg.1]; exact Nat.le_of_not_lt hi)
  unfold padBack
  simp only
  split
  · have hlen : (if cW = true then g.map (· ++ [(0:R)]) else g).length = Kh := by split <;> simp [hg.1]
    by_cases hi : i < Kh
    · rw [get2_append_lt _ _ i j (by rw [hlen]; exact hi)]; exact e1 i j
    · simp only [hi, false_and, if_false]
      by_cases hi2 : i = Kh
      · have := get2_append_zero (if cW = true then g.map (· ++ [(0:R)]) else g)
          (Img.width (if cW = true then g.map (· ++ [(0:R)]) else g)) j
        rw [hlen] at this; rw [hi2]; exact this
      · exact get2_row_oob _ i j (by rw [List.length_append, hlen]; exact Nat.lt_of_le_of_ne (Nat.le_of_not_lt hi) (Ne.symm hi2))
  · exact e1 i j

/-- the crop is the adjoint of the zero extension: the extension vanishes outside the band window, and inside it the crop and the
extension keep the entries -/
theorem crop_adjoint (z g : Img R) (Kh Kw zh zw : Nat) (hz : Rect z zh zw) (hg : Rect g Kh Kw) (hKh : 1 ≤ Kh)
    (h1 : zh = Kh ∨ zh = Kh + 1) (h2 : zw = Kw ∨ zw = Kw + 1) :
    dot2 Kh Kw g (cropTo z (decide (zh > Kh)) (decide (zw > Kw))) = dot2 zh zw (padBack g (decide (zh > Kh)) (decide (zw > Kw))) z := by
  unfold dot2
  rw [← Finset.sum_range_add_sum_Ico _ (crop_le Kh zh h1)]
  have hz0 : ∑ i ∈ Ico Kh zh, ∑ j ∈ range zw, get2 (padBack g (decide (zh > Kh)) (decide (zw > Kw))) i j * get2 z i j = 0 := by
    apply Finset.sum_eq_zero; intro i hi
    apply Finset.sum_eq_zero; intro j _
    simp only [Finset.mem_Ico] at hi
    rw [get2_padBack g Kh Kw hg, if_neg fun h => Nat.not_lt.mpr hi.1 h.1, zero_mul]
  rw [hz0, add_zero]
  apply Finset.sum_congr rfl; intro i hi
  simp only [Finset.mem_range] at hi
  rw [← Finset.sum_range_add_sum_Ico _ (crop_le Kw zw h2)]
  have hz1 : ∑ j ∈ Ico Kw zw, get2 (padBack g (decide (zh > Kh)) (decide (zw > Kw))) i j * get2 z i j = 0 := by
    apply Finset.sum_eq_zero; intro j hj
    simp only [Finset.mem_Ico] at hj
    rw [get2_padBack g Kh Kw hg, if_neg fun h => Nat.not_lt.mpr hj.1 h.2, zero_mul]
  rw [hz1, add_zero]
  apply Finset.sum_congr rfl; intro j hj
  simp only [Finset.mem_range] at hj
  rw [get2_cropTo z Kh Kw zh zw hz i j hi hj, get2_padBack g Kh Kw hg, if_pos ⟨hi, hj⟩]

section
variable (gr0 gr1 gc0 gc1 : List R) (hLr : 2 ≤ gr0.length) (hgr : gr1.length = gr0.length)
    (hLc : 2 ≤ gc0.length) (hgc : gc1.length = gc0.length)

include hLr hgr hLc hgc in
/-- the backward pass of one level depends on the cotangent only -/
theorem level_bwd (Kh Kw : Nat) (hKh : 1 ≤ Kh) (hKw : 1 ≤ Kw) (hfc : gc0.length ≤ 2 * Kh + 1) (hfr : gr0.length ≤ 2 * Kw + 1)
    (dy : Img R) (rdy : Rect dy (Nf Kh gc0.length) (Nf Kw gr0.length)) :
    ∃ dll dlh dhl dhh, SFB2D_backward .zero gr0 gr1 gc0 gc1 [dy] = some ([dll], [[dlh, dhl, dhh]]) ∧ Rect dll Kh Kw := by
  have hH : 1 ≤ Nf Kh gc0.length := synthLen_pos Kh gc0.length hLc hKh hfc
  have hW : 1 ≤ Nf Kw gr0.length := synthLen_pos Kw gr0.length hLr hKw hfr
  have eKh : dwtCoeffLen (Nf Kh gc0.length) gc0.length = Kh := bandLen_synthLen Kh gc0.length hLc hKh hfc
  have eKw : dwtCoeffLen (Nf Kw gr0.length) gr0.length = Kw := bandLen_synthLen Kw gr0.length hLr hKw hfr
  refine ⟨_, _, _, _, AFB2D_forward_val gr0 gr1 gc0 gc1 hLr hgr hLc hgc dy _ _ rdy hH hW, ?_⟩
  have := rect_Az_band gc0 gr0 hLc hLr dy _ _ rdy hH hW
  rw [eKh, eKw] at this
  exact this

include hLr hgr hLc hgc in
/-- the forward pass of one level, the shape of its result, and the adjoint identity against whatever the backward pass returned -/
theorem level_fwd (Kh Kw : Nat) (hKh : 1 ≤ Kh) (hKw : 1 ≤ Kw) (hfc : gc0.length ≤ 2 * Kh + 1) (hfr : gr0.length ≤ 2 * Kw + 1)
    (ll lh hl hh dy : Img R) (r1 : Rect ll Kh Kw) (r2 : Rect lh Kh Kw) (r3 : Rect hl Kh Kw) (r4 : Rect hh Kh Kw)
    (rdy : Rect dy (Nf Kh gc0.length) (Nf Kw gr0.length)) :
    ∃ y, SFB2D_forward .zero gr0 gr1 gc0 gc1 [ll] [[lh, hl, hh]] = some [y] ∧ Rect y (Nf Kh gc0.length) (Nf Kw gr0.length) ∧
      ∀ dll dlh dhl dhh, SFB2D_backward .zero gr0 gr1 gc0 gc1 [dy] = some ([dll], [[dlh, dhl, dhh]]) →
        dot2 (Nf Kh gc0.length) (Nf Kw gr0.length) dy y
          = dot2 Kh Kw dll ll + dot2 Kh Kw dlh lh + dot2 Kh Kw dhl hl + dot2 Kh Kw dhh hh := by
  refine ⟨_, SFB2D_forward_val gr0 gr1 gc0 gc1 hLr hgr hLc hgc Kh Kw hKh hKw hfc hfr ll lh hl hh r1 r2 r3 r4,
    rowzip_rect _ _ _ _ _, ?_⟩
  intro dll dlh dhl dhh hB
  rw [SFB2D_backward_eq, AFB2D_forward_val gr0 gr1 gc0 gc1 hLr hgr hLc hgc dy _ _ rdy (synthLen_pos Kh _ hLc hKh hfc)
    (synthLen_pos Kw _ hLr hKw hfr)] at hB
  simp only [Option.some.injEq, Prod.mk.injEq, List.cons.injEq, and_true] at hB
  obtain ⟨rfl, rfl, rfl, rfl⟩ := hB
  exact SFB2D_zero_adjoint_val gr0 gr1 gc0 gc1 hLr hgr hLc hgc Kh Kw hKh hKw hfc hfr ll lh hl hh dy r1 r2 r3 r4 rdy

include hLr hgr hLc hgc in
theorem level (Kh Kw : Nat) (hKh : 1 ≤ Kh) (hKw : 1 ≤ Kw) (hfc : gc0.length ≤ 2 * Kh + 1) (hfr : gr0.length ≤ 2 * Kw + 1)
    (ll lh hl hh dy : Img R) (r1 : Rect ll Kh Kw) (r2 : Rect lh Kh Kw) (r3 : Rect hl Kh Kw) (r4 : Rect hh Kh Kw)
    (rdy : Rect dy (Nf Kh gc0.length) (Nf Kw gr0.length)) :
    ∃ y dll dlh dhl dhh, SFB2D_forward .zero gr0 gr1 gc0 gc1 [ll] [[lh, hl, hh]] = some [y] ∧
      SFB2D_backward .zero gr0 gr1 gc0 gc1 [dy] = some ([dll], [[dlh, dhl, dhh]]) ∧
      Rect y (Nf Kh gc0.length) (Nf Kw gr0.length) ∧ Rect dll Kh Kw ∧
      dot2 (Nf Kh gc0.length) (Nf Kw gr0.length) dy y
        = dot2 Kh Kw dll ll + dot2 Kh Kw dlh lh + dot2 Kh Kw dhl hl + dot2 Kh Kw dhh hh := by
  obtain ⟨dll, dlh, dhl, dhh, hB, rdll⟩ := level_bwd gr0 gr1 gc0 gc1 hLr hgr hLc hgc Kh Kw hKh hKw hfc hfr dy rdy
  obtain ⟨y, hF, ry, hid⟩ := level_fwd gr0 gr1 gc0 gc1 hLr hgr hLc hgc Kh Kw hKh hKw hfc hfr ll lh hl hh dy r1 r2 r3 r4 rdy
  exact ⟨y, dll, dlh, dhl, dhh, hF, hB, ry, rdll, hid dll dlh dhl dhh hB⟩

omit [CommRing R] in
include hLr hLc in
theorem outSize_pos (ks : List (Nat × Nat)) (A : Nat × Nat) (h : SizesOK gc0.length gr0.length ks A) :
    1 ≤ (outSize gc0.length gr0.length ks A).1 ∧ 1 ≤ (outSize gc0.length gr0.length ks A).2 := by
  cases ks with
  | nil => exact h
  | cons k ks =>
    obtain ⟨Kh, Kw⟩ := k
    obtain ⟨_, h1, h2, h3, h4, _, _⟩ := h
    exact ⟨synthLen_pos Kh gc0.length hLc h1 h3, synthLen_pos Kw gr0.length hLr h2 h4⟩

include hLr hgr hLc hgc in
/-- back-propagation through the whole inverse transform is the adjoint of the transform (mode zero, one channel): for every
pyramid of band sizes `ks` (finest first) that a forward transform can produce, every low-pass and band-pass images of those
sizes and every cotangent `dy` of the output size,
`⟨DWTInverse(yl, yh), dy⟩ = ⟨yl, d yl⟩ + Σ_levels (⟨lh, d lh⟩ + ⟨hl, d hl⟩ + ⟨hh, d hh⟩)` with the gradients the chain of
hand-written backward passes returns -/
theorem DWTInverse_zero_adjoint : ∀ (ks : List (Nat × Nat)) (A : Nat × Nat) (yl : Img R) (bs : List (List (Img R))) (dy : Img R),
    SizesOK gc0.length gr0.length ks A → Rect yl A.1 A.2 → BandsRect ks bs →
    Rect dy (outSize gc0.length gr0.length ks A).1 (outSize gc0.length gr0.length ks A).2 →
    ∃ y gl ds, DWTInverse .zero gc0 gc1 gr0 gr1 [yl] (bs.map fun b => some [b]) = some [y] ∧
      Rect y (outSize gc0.length gr0.length ks A).1 (outSize gc0.length gr0.length ks A).2 ∧
      DWTInverseBackward .zero gr0 gr1 gc0 gc1 (flags gc0.length gr0.length ks A) dy = some (gl, ds) ∧ Rect gl A.1 A.2 ∧
      dot2 (outSize gc0.length gr0.length ks A).1 (outSize gc0.length gr0.length ks A).2 dy y
        = dot2 A.1 A.2 gl yl + bandsDot ks bs ds := by
  intro ks
  induction ks with
  | nil =>
    intro A yl bs dy _ hyl hb hdy
    cases bs with
    | cons b bs => exact absurd hb (by simp [BandsRect])
    | nil => exact ⟨yl, dy, [], rfl, hyl, rfl, hdy, by simp only [outSize, bandsDot, add_zero]⟩
  | cons k ks ih =>
    obtain ⟨Kh, Kw⟩ := k
    intro A yl bs dy hs hyl hb hdy
    cases bs with
    | nil => exact absurd hb (by simp [BandsRect])
    | cons b bs =>
      obtain ⟨⟨lh, hl, hh, rfl, r2, r3, r4⟩, hbr⟩ := hb
      obtain ⟨hsr, hKh, hKw, hfc, hfr, hzh, hzw⟩ := hs
      simp only [outSize] at hdy ⊢
      obtain ⟨hzh1, hzw1⟩ := outSize_pos gr0 gc0 hLr hLc ks A hsr
      obtain ⟨dll, dlh, dhl, dhh, hB, rdll⟩ := level_bwd gr0 gr1 gc0 gc1 hLr hgr hLc hgc Kh Kw hKh hKw hfc hfr dy hdy
      -- the coarser levels: forward from `yl`, backward from the zero-extended low-pass gradient
      obtain ⟨Z, gl, ds, hfold, rZ, hbw, rgl, hid'⟩ := ih A yl bs _ hsr hyl hbr (padBack_rect dll Kh Kw _ _ rdll hKh hzh hzw)
      -- this level applied to the crop of what the coarser levels reconstructed
      obtain ⟨y, hF, ry, hid⟩ := level_fwd gr0 gr1 gc0 gc1 hLr hgr hLc hgc Kh Kw hKh hKw hfc hfr _ lh hl hh dy
        (cropTo_rect Z Kh Kw _ _ rZ hzh hzw) r2 r3 r4 hdy
      refine ⟨y, gl, [dlh, dhl, dhh] :: ds, ?_, ry, ?_, rgl, ?_⟩
      · rw [List.map_cons, DWTInverse_cons, hfold, Option.bind_some, DWTInverse_step_one, rZ.1, rect_width Z _ _ rZ hzh1, r2.1,
          rect_width lh _ _ r2 hKh]
        exact hF
      · simp only [flags, DWTInverseBackward, hB, Option.bind_eq_bind, Option.bind_some, List.getD_cons_zero, hbw]
      · rw [hid dll dlh dhl dhh hB, crop_adjoint Z dll Kh Kw _ _ rZ rdll hKh hzh hzw, hid']
        simp only [bandsDot, List.getD_cons_zero, List.getD_cons_succ]
        ring

end

/-- the size conditions `SizesOK` of `DWTInverse_zero_adjoint` are satisfiable, here with no level cropping: db2 (4 taps), the 2-level pyramid of a 9 × 14 image: bands 6 × 8
and 4 × 5, low-pass 4 × 5; the coarse level reconstructs 6 × 8, the finest 10 × 14 (one row more than the 9 × 14 input) -/
example : SizesOK 4 4 [(6, 8), (4, 5)] (4, 5) ∧ flags 4 4 [(6, 8), (4, 5)] (4, 5) = [(false, false), (false, false)] := by
  simp only [SizesOK, outSize, flags]
  decide

/-- … and a pyramid where both axes crop: 3 levels of db2 on 11 × 11: bands 7, 5, 4; `Nf 4 4 = 6 = 5 + 1`, `Nf 5 4 = 8 = 7 + 1` -/
example : SizesOK 4 4 [(7, 7), (5, 5), (4, 4)] (4, 4) ∧
    flags 4 4 [(7, 7), (5, 5), (4, 4)] (4, 4) = [(true, true), (true, true), (false, false)] := by
  simp only [SizesOK, outSize, flags]
  decide

end WV.C05K
