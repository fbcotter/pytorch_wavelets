/-
  C13 — stationary (undecimated) wavelet transform.

  * `afb1d_atrous` in periodic mode (what `SWTForward` runs after mapping
    'periodization' to 'periodic') equals the PyWavelets `swt` formula — circular
    correlation with the filter dilated by `d` — for every even filter length ≥ 2,
    every dilation `d ≥ 1` and every non-empty signal.
  * the `swt` formula is circular-shift equivariant for every shift (non-empty signal).
  * the module: `SWTForward` (level loop with dilation `2^j`, `(N,C,4,H,W)` packing) on one channel returns the levels
    of `pywt.swt2`, for every `J` and every non-empty image, in the modes 'periodization' / 'periodic', for even filter
    lengths ≥ 2 (`SWTForward_eq_swt2`).
-/
import WaveletsVerif.Properties.C01
namespace WV.C13
open Finset WV
variable {R : Type} [CommRing R]

/-- index arithmetic of the dilated correlation with `2m` taps: tap `j` of output `k` reads the padded buffer at
`k + d(2m−1−j)`, which lies inside it and is position `k + d(m − j)` of the signal -/
private theorem atrous_read (N m d k j : Nat) (hm1 : 1 ≤ m) (hk : k < N) (hj : j < 2 * m) :
    1 * k + d * (2 * m - 1 - j) < d * m - d + N + d * m ∧
    ((1 * k + d * (2 * m - 1 - j) : Nat) : Int) - ((d * m - d : Nat) : Int) = (k:Int) + (d:Int) * ((m:Int) - j) := by
  have hge : d ≤ d * m := Nat.le_mul_of_pos_right d hm1
  have hw : d * (2 * m - 1 - j) + d ≤ 2 * (d * m) := by
    rw [← Nat.mul_succ, ← Nat.mul_assoc, Nat.mul_comm 2 d, Nat.mul_assoc]
    exact Nat.mul_le_mul_left d (by omega)
  have ha : ((2 * m - 1 - j : Nat) : Int) = 2 * (m : Int) - j - 1 := by omega
  refine ⟨by omega, ?_⟩
  push_cast [Nat.cast_sub hge, ha]
  ring

theorem afb1dAtrousOne_periodic_eq_swt (h x : List R) (d : Nat) (hL : 2 ≤ h.length)
    (hLe : h.length % 2 = 0) (hN : 1 ≤ x.length) (hd : 1 ≤ d) :
    afb1dAtrousOne .periodic d h.reverse x = some (Spec.swt h x d) := by
  -- `L = 2m`: the pads are `dm − d` and `dm`, the dilated filter spans `2dm − d + 1` samples
  obtain ⟨m, hm⟩ : ∃ m, h.length = 2 * m := Nat.dvd_of_mod_eq_zero hLe
  clear hLe
  have hm1 : 1 ≤ m := by omega
  have hm2 : h.length / 2 = m := by rw [hm, Nat.mul_div_cancel_left m Nat.two_pos]
  have hL2 : (h.length * d) / 2 = d * m := by
    rw [hm, Nat.mul_assoc, Nat.mul_div_cancel_left _ Nat.two_pos, Nat.mul_comm]
  have hge : d ≤ d * m := Nat.le_mul_of_pos_right d hm1
  have hspan : d * (h.length - 1) + d = 2 * (d * m) := by
    rw [← Nat.mul_succ, Nat.succ_eq_add_one, Nat.sub_add_cancel (Nat.le_of_succ_le hL), hm]; ring
  have hguard : ¬ (h.length < 2 ∨ x.length < 1 ∨ d < 1 ∨ d * m < d) := by omega
  simp only [afb1dAtrousOne, List.length_reverse, hL2, if_neg hguard]
  refine congrArg some ?_
  rw [corr_reverse, length_padIdx]
  unfold Spec.swt
  have hlen : corrLen (d * m - d + x.length + d * m) h.length 1 d = x.length := by
    unfold corrLen
    rw [if_neg (by omega), Nat.div_one]
    omega
  apply tab_ext hlen
  intro k hk
  rw [hlen] at hk
  apply sumN_congr
  intro j hj
  rw [hm2]
  rw [hm] at hj ⊢
  obtain ⟨hin, hidx⟩ := atrous_read x.length m d k j hm1 hk hj
  rw [getZ_padIdx perIdx x _ _ _ (Int.natCast_nonneg _) (Int.ofNat_lt.mpr hin), hidx]
  rfl

/-- `np.roll(x, s)`: circular shift by `s` -/
def rot (s : Int) (x : List R) : List R := tab x.length fun k => getZ x (((k:Int) - s) % (x.length : Int))

/-- shifting the input circularly shifts every `swt` band by the same amount: for all shifts,
filters, dilations and lengths ≥ 1 -/
theorem swt_shift (h x : List R) (d : Nat) (s : Int) (hN : 1 ≤ x.length) :
    Spec.swt h (rot s x) d = rot s (Spec.swt h x d) := by
  unfold Spec.swt rot
  simp only [length_tab]
  have hNpos : (0:Int) < x.length := by omega
  apply tab_ext rfl
  intro k hk
  rw [getZ_tab]
  have e0 := Int.emod_nonneg ((k:Int) - s) (by omega : (x.length:Int) ≠ 0)
  have e1 := Int.emod_lt_of_pos ((k:Int) - s) hNpos
  simp only [e0, e1, and_self, if_true]
  rw [sumN_eq, sumN_eq]
  apply Finset.sum_congr rfl
  intro i _
  congr 1
  rw [getZ_tab]
  have f0 := Int.emod_nonneg ((k:Int) + (d:Int) * (((h.length/2 : Nat):Int) - i)) (by omega : (x.length:Int) ≠ 0)
  have f1 := Int.emod_lt_of_pos ((k:Int) + (d:Int) * (((h.length/2 : Nat):Int) - i)) hNpos
  simp only [f0, f1, and_self, if_true]
  congr 1
  have t1 : ((((k:Int) - s) % (x.length:Int)).toNat : Int) = ((k:Int) - s) % (x.length:Int) := by omega
  have t2 : ((((k:Int) + (d:Int) * (((h.length/2 : Nat):Int) - i)) % (x.length:Int)).toNat : Int)
      = ((k:Int) + (d:Int) * (((h.length/2 : Nat):Int) - i)) % (x.length:Int) := by omega
  rw [t1, t2, Int.emod_add_emod, Int.emod_sub_emod]
  congr 1; ring

theorem swt_length (h x : List R) (d : Nat) : (Spec.swt h x d).length = x.length := by simp [Spec.swt]

/-- `SWTForward` runs 'periodization' as 'periodic' -/
theorem swtMode_periodic {mode : Mode} (hm : mode = .periodization ∨ mode = .periodic) :
    (if mode = Mode.periodization then Mode.periodic else mode) = Mode.periodic := by
  rcases hm with rfl | rfl <;> rfl

theorem atrous_W (h : List R) (hL : 2 ≤ h.length) (hLe : h.length % 2 = 0) (d : Nat) (hd : 1 ≤ d) (x : Img R)
    (hx : ∀ r ∈ x, 1 ≤ r.length) :
    alongO .W (afb1dAtrousOne .periodic d h.reverse) x = some (Spec.rowsMap (fun r => Spec.swt h r d) x) :=
  alongWO_total _ _ x fun r hr => afb1dAtrousOne_periodic_eq_swt h r d hL hLe (hx r hr) hd

theorem atrous_H (h : List R) (hL : 2 ≤ h.length) (hLe : h.length % 2 = 0) (d : Nat) (hd : 1 ≤ d) (x : Img R)
    (hx : 1 ≤ x.length) :
    alongO .H (afb1dAtrousOne .periodic d h.reverse) x = some (Spec.colsMap (fun c => Spec.swt h c d) x) :=
  alongHO_total _ _ x fun c hc => afb1dAtrousOne_periodic_eq_swt h c d hL hLe (by rw [hc]; exact hx) hd

/-- one level of the undecimated filter bank on one channel = the four `swt2` bands (A, H, V, D): periodic mode, even
filter lengths ≥ 2, dilation `d ≥ 1`, non-empty image -/
theorem afb2dAtrous_eq_level (c0 c1 r0 r1 : List R) (hc0 : 2 ≤ c0.length ∧ c0.length % 2 = 0)
    (hc1 : 2 ≤ c1.length ∧ c1.length % 2 = 0) (hr0 : 2 ≤ r0.length ∧ r0.length % 2 = 0)
    (hr1 : 2 ≤ r1.length ∧ r1.length % 2 = 0) (d : Nat) (hd : 1 ≤ d) (x : Img R) (hx : C01.NonEmptyImg x) :
    afb2dAtrous .periodic d c0.reverse c1.reverse r0.reverse r1.reverse [x]
      = some (Spec.swt2Level c0 c1 r0 r1 d x) := by
  unfold afb2dAtrous
  rw [afb1dAtrousT_one, atrous_W r0 hr0.1 hr0.2 d hd x hx.2, atrous_W r1 hr1.1 hr1.2 d hd x hx.2]
  simp only [Option.bind_eq_bind, Option.bind_some]
  have hlo : 1 ≤ (Spec.rowsMap (fun r => Spec.swt r0 r d) x).length := by simp [Spec.rowsMap]; exact hx.1
  have hhi : 1 ≤ (Spec.rowsMap (fun r => Spec.swt r1 r d) x).length := by simp [Spec.rowsMap]; exact hx.1
  rw [afb1dAtrousT_two, atrous_H c0 hc0.1 hc0.2 d hd _ hlo, atrous_H c1 hc1.1 hc1.2 d hd _ hlo,
    atrous_H c0 hc0.1 hc0.2 d hd _ hhi, atrous_H c1 hc1.1 hc1.2 d hd _ hhi]
  simp [Spec.swt2Level]

theorem level_A_nonempty (c0 r0 : List R) (d : Nat) (x : Img R) (hx : C01.NonEmptyImg x) :
    C01.NonEmptyImg (Spec.colsMap (fun c => Spec.swt c0 c d) (Spec.rowsMap (fun r => Spec.swt r0 r d) x)) :=
  C01.colsMap_rowsMap_nonempty _ _ (fun c hc => by rw [swt_length]; exact hc) (fun r hr => by rw [swt_length]; exact hr) x hx

/-- `SWTForward` (default mode 'periodization' or 'periodic') on one channel returns, for every J,
the levels of `pywt.swt2` (finest first), each as the four bands (A, H, V, D) at full resolution, level
`j` using the filters dilated by `2^(j-1)`; even-length filters, every non-empty image. -/
theorem SWTForward_eq_swt2 (mode : Mode) (hm : mode = .periodization ∨ mode = .periodic)
    (c0 c1 r0 r1 : List R) (hc0 : 2 ≤ c0.length ∧ c0.length % 2 = 0) (hc1 : 2 ≤ c1.length ∧ c1.length % 2 = 0)
    (hr0 : 2 ≤ r0.length ∧ r0.length % 2 = 0) (hr1 : 2 ≤ r1.length ∧ r1.length % 2 = 0)
    (J : Nat) (x : Img R) (hx : C01.NonEmptyImg x) :
    SWTForwardM mode J [c0, c1, r0, r1] [x] = some ((Spec.swt2 c0 c1 r0 r1 J 0 x).map fun b => [b]) := by
  simp only [SWTForwardM, wave4, Option.bind_eq_bind, Option.bind_some]
  have hmm := swtMode_periodic hm
  generalize 0 = j
  induction J generalizing x j with
  | zero => simp [SWTForward, Spec.swt2]
  | succ J ih =>
    simp only [SWTForward, Spec.swt2, hmm]
    rw [afb2dAtrous_eq_level c0 c1 r0 r1 hc0 hc1 hr0 hr1 (2^j) (Nat.one_le_two_pow) x hx]
    simp only [Option.bind_eq_bind, Option.bind_some]
    have hA : C01.NonEmptyImg ((Spec.swt2Level c0 c1 r0 r1 (2^j) x).getD 0 []) := by
      simp only [Spec.swt2Level, List.getD_cons_zero]
      exact level_A_nonempty c0 r0 (2^j) x hx
    have e : (tab ((Spec.swt2Level c0 c1 r0 r1 (2^j) x).length / 4) fun c =>
        [(Spec.swt2Level c0 c1 r0 r1 (2^j) x).getD (4*c) [], (Spec.swt2Level c0 c1 r0 r1 (2^j) x).getD (4*c+1) [],
         (Spec.swt2Level c0 c1 r0 r1 (2^j) x).getD (4*c+2) [], (Spec.swt2Level c0 c1 r0 r1 (2^j) x).getD (4*c+3) []])
        = [Spec.swt2Level c0 c1 r0 r1 (2^j) x] := by
      simp only [Spec.swt2Level, List.length_cons, List.length_nil]
      rfl
    rw [e]
    simp only [List.map_cons, List.map_nil]
    rw [ih _ hA (j+1)]
    simp

/-- non-vacuity: a 4-tap integer filter meets the filter hypotheses (`hc0` … `hr1` of `SWTForward_eq_swt2`) -/
example : (2 ≤ ([1,2,3,4] : List Int).length) ∧ ([1,2,3,4] : List Int).length % 2 = 0 := by decide

end WV.C13
