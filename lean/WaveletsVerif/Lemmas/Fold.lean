/-
  A level loop that never fails.  The inverse transforms of the model (`DWT1DInverse`, `DWTInverse`, `DTCWTInverse`) run
  their levels as `List.foldlM` over the reversed list of bands, with a step into `Option`; the specifications run
  `List.foldl` with a total step.  If, on every state that an invariant `P` admits, the module's step returns the
  specification's step (through embeddings `ι` of states and `κ` of inputs) and `P` passes to the rest, the folds agree
  (`foldlM_sim`).  With it: peeling one level off the reversed loop, and admissibility of an appended list of levels.
  No Mathlib.
-/
namespace WV

/-- a loop that runs from the last entry to the first applies the first entry last -/
theorem foldlM_reverse_cons {α β : Type} (f : α → β → Option α) (a : α) (b : β) (bs : List β) :
    (b :: bs).reverse.foldlM f a = (bs.reverse.foldlM f a).bind fun z => f z b := by
  rw [List.reverse_cons, List.foldlM_append]
  cases bs.reverse.foldlM f a with
  | none => rfl
  | some z => simp only [Option.bind_eq_bind, Option.bind_some, List.foldlM_cons, List.foldlM_nil, bind_pure]

theorem foldlM_sim {α β α' β' : Type} (f : α → β → Option α) (g : α' → β' → α') (ι : α' → α) (κ : β' → β)
    (P : α' → List β' → Prop)
    (hstep : ∀ a d rest, P a (d :: rest) → f (ι a) (κ d) = some (ι (g a d)) ∧ P (g a d) rest) :
    ∀ (l : List β') (a : α'), P a l → (l.map κ).foldlM f (ι a) = some (ι (l.foldl g a)) := by
  intro l
  induction l with
  | nil => intro a _; rfl
  | cons d rest ih =>
    intro a h
    obtain ⟨hf, hrest⟩ := hstep a d rest h
    rw [List.map_cons, List.foldlM_cons, hf, List.foldl_cons]
    simp only [Option.bind_eq_bind, Option.bind_some]
    exact ih _ hrest

/-- admissibility of a list of levels (`C a (d :: rest) ↔ OK a d ∧ C (g a d) rest`) over an appended list: first the
front levels, then the back levels on the state the front levels lead to -/
theorem compat_append {α β : Type} (g : α → β → α) (OK : α → β → Prop) (C : α → List β → Prop)
    (hcons : ∀ a d rest, C a (d :: rest) ↔ OK a d ∧ C (g a d) rest) :
    ∀ (l1 l2 : List β) (a : α), C a l1 → C (l1.foldl g a) l2 → C a (l1 ++ l2) := by
  intro l1
  induction l1 with
  | nil => intro l2 a _ h2; exact h2
  | cons d rest ih =>
    intro l2 a h1 h2
    obtain ⟨hok, hrest⟩ := (hcons a d rest).mp h1
    exact (hcons a d (rest ++ l2)).mpr ⟨hok, ih l2 _ hrest h2⟩

theorem map_some_map {α β : Type} (f : α → β) (l : List α) :
    (l.map f).map some = (l.map some).map fun d => d.map f := by
  rw [List.map_map, List.map_map]
  rfl

end WV
