/-
  The periodization branch of `afb1d` (roll, zero-padded stride-2 correlation, one wrap-around fold, crop) equals the
  circular formula `Σ_j h[j]·x[(2k + L/2 − j) mod N]` when the filter length `L` is even and the signal length `N` is
  even and at least `L` (`afbPer_even`, used by C01).
-/
import WaveletsVerif.Lemmas.Corr
namespace WV
open Finset
variable {R : Type} [CommRing R]

theorem getZ_roll (x : List R) (a : Nat) (ha : a ≤ x.length) (i : Int)
    (h0 : 0 ≤ i) (h1 : i < x.length) :
    getZ (x.drop a ++ x.take a) i = getZ x ((i + a) % (x.length : Int)) := by
  have e0 : 0 ≤ (i + a) % (x.length : Int) := Int.emod_nonneg _ (by omega)
  unfold getZ
  rw [if_pos h0, if_pos e0, getD_drop_append_take x a i.toNat 0 ha (by omega)]
  congr 1
  split
  · have : (i + a) % (x.length : Int) = i + a := Int.emod_eq_of_lt (by omega) (by omega)
    omega
  · have : (i + a) % (x.length : Int) = i + a - x.length := by
      rw [← Int.sub_emod_right]; exact Int.emod_eq_of_lt (by omega) (by omega)
    omega

theorem getN_rollPy_neg (z : List R) (a u : Nat) (ha : a ≤ z.length) (hu : u < z.length) :
    getN (rollPy z (-(a:Int))) u = getZ z (((u:Int) + (a:Int)) % (z.length:Int)) := by
  rw [rollPy_neg z a ha, getN_eq_getZ, getZ_roll z a ha u (by omega) (by omega)]

/-- the rolled signal read at `i` and at `i + N` adds up to the periodic extension of `x` -/
theorem getZ_roll_periodic (x : List R) (a : Nat) (ha : a ≤ x.length) (i : Int)
    (h0 : -(x.length : Int) ≤ i) (h1 : i < x.length) :
    getZ (x.drop a ++ x.take a) i + getZ (x.drop a ++ x.take a) (i + x.length)
      = getZ x ((i + a) % (x.length : Int)) := by
  by_cases hpos : 0 ≤ i
  · rw [getZ_roll x a ha i hpos h1, getZ_of_ge _ (i + x.length) (by rw [length_roll x a]; omega), add_zero]
  · rw [getZ_neg _ i (by omega), getZ_roll x a ha _ (by omega) (by omega), zero_add,
      show i + (x.length : Int) + a = i + a + x.length by ring, Int.add_emod_right]

/-- the periodization branch of `afb1d` for even `N ≥ L` (even `L`): circular formula -/
theorem afbPer_even (h x : List R) (hLe : h.length % 2 = 0) (hL : 2 ≤ h.length)
    (hNe : x.length % 2 = 0) (hLN : h.length ≤ x.length) :
    ((foldAdd (corr h.reverse (zeroPad (rollPy x (-((h.length/2 : Nat):Int))) (h.length-1) (h.length-1)) 2 1)
        (h.length/2) (x.length/2)).take (x.length/2))
      = tab (x.length/2) fun k => sumN h.length fun j =>
          getN h j * getZ x ((2*(k:Int) + ((h.length/2 : Nat):Int) - j) % (x.length : Int)) := by
  -- `L = 2m`, `N = 2n`
  obtain ⟨m, hm⟩ : ∃ m, h.length = 2 * m := Nat.dvd_of_mod_eq_zero hLe
  obtain ⟨n, hn⟩ : ∃ n, x.length = 2 * n := Nat.dvd_of_mod_eq_zero hNe
  rw [show h.length / 2 = m by rw [hm, Nat.mul_div_cancel_left m Nat.two_pos],
    show x.length / 2 = n by rw [hn, Nat.mul_div_cancel_left n Nat.two_pos]]
  clear hLe hNe
  have hmx : m ≤ x.length := by omega
  rw [rollPy_neg x m hmx]
  set xr := x.drop m ++ x.take m with hxr
  have hroll : xr.length = x.length := length_roll x m
  -- entry `k` of the correlation is `C k = Σ_j h[j]·xr(2k − j)`, zero outside `xr`: the buffer holds `xr` from position `−(L−1)` on
  have hC : corr h.reverse (zeroPad xr (h.length-1) (h.length-1)) 2 1
      = tab (n + m) fun k => sumN h.length fun j => getN h j * getZ xr (2*(k:Int) + 1 - j - 1) := by
    apply corr_reverse_ext h _ (n + m) (fun i => getZ xr (i - 1)) hL (by omega)
    · rw [length_zeroPad, hroll]; omega
    · intro i _
      rw [getZ_zeroPad]
      congr 1; omega
  rw [hC]
  unfold foldAdd
  rw [length_tab, take_tab _ _ _ (Nat.le_add_right n m)]
  apply tab_ext rfl
  intro k hk
  rw [getN_tab_of_lt _ _ k (Nat.lt_add_right m hk)]
  have hidx : ∀ j : Nat, 2*(k:Int) + 1 - (j:Int) - 1 + (m:Int) = 2*(k:Int) + (m:Int) - j := fun j => by ring
  by_cases hkL : k < m
  · -- the fold adds `C (n + k)`, which reads `xr` one period later
    rw [if_pos hkL, getN_tab_of_lt _ _ (n + k) (Nat.add_lt_add_left hkL n), sumN_eq, sumN_eq, sumN_eq,
      ← Finset.sum_add_distrib]
    apply Finset.sum_congr rfl
    intro j hj
    have hj' : j < h.length := Finset.mem_range.mp hj
    rw [← mul_add, show 2*((n + k : Nat):Int) + 1 - (j:Int) - 1 = 2*(k:Int) + 1 - j - 1 + x.length by omega,
      getZ_roll_periodic x m hmx _ (by omega) (by omega), hidx]
  · -- no fold: every reading `2k − j` is inside `xr`
    rw [if_neg hkL]
    apply sumN_congr
    intro j hj
    rw [getZ_roll x m hmx _ (by omega) (by omega), hidx]

end WV
