/-
  Images (`Img`): rectangular shape, rows and columns, transposition, operators along one axis and binary ones on the
  columns or rows of two images, gathers of rows and columns, sum and zero image, and the inner product `dot2`.
  `Rect` and `col` are defined here in namespace `WV.C04`, `dot2` in `WV.C06`, `colzip` / `rowzip` in `WV.C05D`: they occur
  in the statements of the registered theorems of properties C04, C06 and C05 (`Properties/C04*.lean`, `C06*.lean`,
  `C05*.lean`), which fix their full names.
-/
import WaveletsVerif.Lemmas.Basic

namespace WV.C04
variable {R : Type} [CommRing R]

/-- rectangular `H × W` image -/
def Rect (x : Img R) (H W : Nat) : Prop := x.length = H ∧ ∀ r ∈ x, r.length = W

/-- column `j` of an image -/
def col (x : Img R) (j : Nat) : List R := tab x.length fun i => get2 x i j

end WV.C04

namespace WV.C06
open Finset
variable {R : Type} [CommRing R]

/-- inner product of two images of the same (tabulated) shape -/
def dot2 (H W : Nat) (x y : Img R) : R := ∑ i ∈ range H, ∑ j ∈ range W, get2 x i j * get2 y i j

end WV.C06

namespace WV.C05D
open WV.C04
variable {R : Type} [CommRing R]

/-- column-wise binary operator on two images of `W` columns -/
def colzip (F : List R → List R → List R) (n W : Nat) (a b : Img R) : Img R :=
  tab2 n W fun i j => getN (F (col a j) (col b j)) i

/-- row-wise binary operator -/
def rowzip (F : List R → List R → List R) (H n : Nat) (a b : Img R) : Img R :=
  tab2 H n fun i j => getN (F (a.getD i []) (b.getD i [])) j

end WV.C05D

namespace WV
open Finset WV.C04 WV.C06 WV.C05D
variable {R : Type} [CommRing R]

theorem get2_tab2 (h w : Nat) (f : Nat → Nat → R) (i j : Nat) (hi : i < h) (hj : j < w) :
    get2 (tab2 h w f) i j = f i j := by
  unfold get2 tab2
  rw [getD_tab]; simp only [hi, if_true]
  rw [getD_tab]; simp only [hj, if_true]

theorem get2_tab2_oob (h w : Nat) (f : Nat → Nat → R) (i j : Nat) (hij : ¬ (i < h ∧ j < w)) :
    get2 (tab2 h w f) i j = 0 := by
  unfold get2 tab2
  rw [getD_tab]
  split
  · next hi => rw [getD_tab, if_neg (fun hj => hij ⟨hi, hj⟩)]
  · rfl

theorem width_tab (n : Nat) (F : Nat → List R) (hn : 1 ≤ n) : Img.width (tab n F) = (F 0).length := by
  obtain ⟨k, rfl⟩ : ∃ k, n = k + 1 := ⟨n - 1, by omega⟩
  rw [tab_succ_cons]
  rfl

theorem width_tab2 (h w : Nat) (f : Nat → Nat → R) (hh : 0 < h) : (tab2 h w f).width = w :=
  (width_tab h _ hh).trans (length_tab w _)

omit [CommRing R] in
theorem length_tab2 (H W : Nat) (f : Nat → Nat → R) : (tab2 H W f).length = H := by
  unfold tab2; exact length_tab _ _

theorem outer_length (a b : List R) : (outer a b).length = a.length := length_tab2 _ _ _

theorem outer_width (a b : List R) (ha : 1 ≤ a.length) : (outer a b).width = b.length := width_tab2 _ _ _ ha

theorem tab2_congr (H W : Nat) (f g : Nat → Nat → R) (h : ∀ i < H, ∀ j < W, f i j = g i j) : tab2 H W f = tab2 H W g := by
  unfold tab2
  apply tab_ext rfl; intro i hi
  apply tab_ext rfl; intro j hj
  exact h i hi j hj

theorem getD_tab2_row (H W : Nat) (f : Nat → Nat → R) (i : Nat) (hi : i < H) :
    (tab2 H W f).getD i [] = tab W (f i) := by
  unfold tab2; rw [getD_tab, if_pos hi]

theorem rect_width (x : Img R) (H W : Nat) (hx : Rect x H W) (hH : 1 ≤ H) : x.width = W := by
  obtain ⟨h1, h2⟩ := hx
  unfold Img.width
  cases x with
  | nil => simp at h1; omega
  | cons r rest => simp; exact h2 r (by simp)

theorem row_length (x : Img R) (H W : Nat) (hx : Rect x H W) (i : Nat) (hi : i < H) : (x.getD i []).length = W :=
  hx.2 _ (getD_mem x i [] (by rw [hx.1]; exact hi))

theorem rect_eq_tab2 (x : Img R) (H W : Nat) (hx : Rect x H W) : x = tab2 H W (get2 x) :=
  (list_eq_tab_getD x H [] hx.1).trans
    (tab_ext rfl fun i hi => list_eq_tab_getD (x.getD i []) W 0 (row_length x H W hx i hi))

theorem tab2_rect (H W : Nat) (f : Nat → Nat → R) : Rect (tab2 H W f) H W := by
  constructor
  · simp [tab2]
  · intro r hr
    simp [tab2, tab] at hr
    obtain ⟨i, _, rfl⟩ := hr
    simp

theorem C05D.colzip_rect (F : List R → List R → List R) (n W : Nat) (a b : Img R) : Rect (colzip F n W a b) n W := tab2_rect _ _ _
theorem C05D.rowzip_rect (F : List R → List R → List R) (H n : Nat) (a b : Img R) : Rect (rowzip F H n a b) H n := tab2_rect _ _ _

theorem get2_row_oob (g : Img R) (i j : Nat) (h : g.length ≤ i) : get2 g i j = 0 := by
  unfold get2
  have : g.getD i [] = [] := by rw [List.getD_eq_getElem?_getD, List.getElem?_eq_none h]; rfl
  rw [this]; rfl

theorem get2_col_oob (g : Img R) (i j : Nat) (h : (g.getD i []).length ≤ j) : get2 g i j = 0 :=
  getN_of_le (g.getD i []) j h

theorem get2_oob (y : Img R) (K Kw : Nat) (hy : Rect y K Kw) (p q : Nat) (h : K ≤ p ∨ Kw ≤ q) : get2 y p q = 0 := by
  by_cases hp : p < K
  · exact get2_col_oob y p q (by rw [row_length y K Kw hy p hp]; omega)
  · exact get2_row_oob y p q (by rw [hy.1]; omega)

theorem get2_take (z : Img R) (n i j : Nat) (hi : i < n) : get2 (z.take n) i j = get2 z i j := by
  unfold get2
  congr 1
  simp only [List.getD_eq_getElem?_getD, List.getElem?_take, hi, if_true]

theorem rect_ext (a b : Img R) (H W : Nat) (ha : Rect a H W) (hb : Rect b H W)
    (h : ∀ i < H, ∀ j < W, get2 a i j = get2 b i j) : a = b := by
  rw [rect_eq_tab2 a H W ha, rect_eq_tab2 b H W hb]
  exact tab2_congr H W _ _ h

omit [CommRing R] in
theorem take_rect (x : Img R) (H W k : Nat) (hx : Rect x H W) (hk : k ≤ H) : Rect (x.take k) k W :=
  ⟨by rw [List.length_take, hx.1]; omega, fun r hr => hx.2 r (List.mem_of_mem_take hr)⟩

omit [CommRing R] in
theorem take_width (a : Img R) (k : Nat) (hk : 1 ≤ k) : Img.width (a.take k : Img R) = a.width := by
  unfold Img.width
  cases a with
  | nil => simp
  | cons r rest =>
    cases k with
    | zero => omega
    | succ j => simp

omit [CommRing R] in
theorem map_take_shape (a : Img R) (ha : 1 ≤ a.length) :
    (a.map fun r => r.take (r.length - 1)).length = a.length ∧ Img.width (a.map (fun r => r.take (r.length - 1)) : Img R) = a.width - 1 := by
  constructor
  · simp
  · unfold Img.width
    cases a with
    | nil => simp at ha
    | cons r rest => simp

theorem get2_append_lt (g : Img R) (e : Img R) (i j : Nat) (hi : i < g.length) : get2 (g ++ e) i j = get2 g i j := by
  unfold get2
  congr 1
  simp only [List.getD_eq_getElem?_getD, List.getElem?_append_left hi]

theorem get2_append_zero (g : Img R) (W j : Nat) : get2 (g ++ [List.replicate W (0:R)]) g.length j = 0 := by
  unfold get2
  simp only [List.getD_eq_getElem?_getD, List.getElem?_append_right (Nat.le_refl _), Nat.sub_self, List.getElem?_cons_zero,
    Option.getD_some, List.getElem?_replicate]
  split <;> simp

theorem get2_mapSnoc (g : Img R) (W : Nat) (hg : ∀ r ∈ g, r.length = W) (i j : Nat) :
    get2 (g.map (· ++ [(0:R)])) i j = if j < W then get2 g i j else 0 := by
  unfold get2
  simp only [List.getD_eq_getElem?_getD, List.getElem?_map]
  cases h : g[i]? with
  | none => simp
  | some r =>
    have hr : r.length = W := hg r (List.mem_of_getElem? h)
    simp only [Option.map_some, Option.getD_some]
    by_cases hj : j < W
    · rw [if_pos hj, List.getElem?_append_left (by rw [hr]; exact hj)]
    · rw [if_neg hj]
      by_cases hj2 : j = W
      · subst hj2; rw [List.getElem?_append_right (le_of_eq hr)]; simp [hr]
      · rw [List.getElem?_eq_none (by rw [List.length_append, hr]; exact Nat.lt_of_le_of_ne (Nat.le_of_not_lt hj) (Ne.symm hj2))]; simp

theorem get2_map_take (a : Img R) (i j : Nat) (hj : ∀ r ∈ a, j + 1 < r.length) :
    get2 (a.map fun r => r.take (r.length - 1)) i j = get2 a i j := by
  by_cases hi : i < a.length
  · have := hj _ (getD_mem a i [] hi)
    show getN ((a.map fun r => r.take (r.length - 1)).getD i []) j = getN (a.getD i []) j
    rw [getD_map_lt _ a i hi [] [], getN_take _ _ j (by omega)]
  · rw [get2_row_oob _ i j (by rw [List.length_map]; omega), get2_row_oob a i j (by omega)]

omit [CommRing R] in
/-- `extendEven`, `extendMult4` and `cropToHighs` act on the list of rows when a test `p` of the height holds and then on every row
when a test `q` of the width holds; with the size known both tests are on `H` and `W`, and the rows are mapped in either case -/
theorem rows_then_cols (p q : Nat → Prop) [DecidablePred p] [DecidablePred q] (fr : Img R → Img R) (fc : List R → List R)
    (x : Img R) (H W : Nat) (hH : x.length = H) (hw : Img.width (if p H then fr x else x) = W) :
    (if q (Img.width (if p x.length then fr x else x)) then (if p x.length then fr x else x).map fc else (if p x.length then fr x else x))
      = (if p H then fr x else x).map fun r => if q W then fc r else r := by
  rw [hH, hw]
  by_cases hq : q W
  · simp only [hq, if_true]
  · simp only [hq, if_false, List.map_id']

/-- two images of the same rectangular shape pass the shape check of the synthesis stages -/
theorem shape_ok (a b : Img R) (H W : Nat) (ha : Rect a H W) (hb : Rect b H W) (hH : 1 ≤ H) :
    ¬ (a.length ≠ b.length ∨ a.width ≠ b.width) := by
  rw [ha.1, hb.1, rect_width _ _ _ ha hH, rect_width _ _ _ hb hH]
  simp

theorem col_length (x : Img R) (j : Nat) : (col x j).length = x.length := length_tab _ _

theorem col_tab2 (H W : Nat) (f : Nat → Nat → R) (j : Nat) (hj : j < W) : col (tab2 H W f) j = tab H fun i => f i j := by
  unfold col
  rw [length_tab2]
  apply tab_ext rfl; intro i hi
  exact get2_tab2 H W f i j hi hj

theorem get2_eq_getN_col (x : Img R) (H W : Nat) (hx : Rect x H W) (i j : Nat) (hi : i < H) :
    get2 x i j = getN (col x j) i := by
  unfold col; rw [getN_tab, hx.1, if_pos hi]

theorem tr_getD (x : Img R) (j : Nat) (hj : j < x.width) : (tr x).getD j [] = col x j := by
  unfold tr tab2
  rw [getD_tab, if_pos hj]
  rfl

theorem tr_length (x : Img R) : (tr x).length = x.width := length_tab2 _ _ _

theorem tr_row_length (x : Img R) : ∀ r ∈ tr x, r.length = x.length := (tab2_rect x.width x.length _).2

theorem getD_tr_length (x : Img R) (j : Nat) (hj : j < x.width) : ((tr x).getD j []).length = x.length :=
  tr_row_length x _ (getD_mem (tr x) j [] (by rw [tr_length]; exact hj))

theorem tr_rect (x : Img R) (H W : Nat) (hx : Rect x H W) (hH : 1 ≤ H) : Rect (tr x) W H := by
  unfold tr
  rw [rect_width x H W hx hH, hx.1]
  exact tab2_rect _ _ _

theorem get2_tr (x : Img R) (H W : Nat) (hx : Rect x H W) (hH : 1 ≤ H) (i j : Nat) : get2 (tr x) j i = get2 x i j := by
  have hw := rect_width x H W hx hH
  unfold tr
  rw [hw, hx.1]
  by_cases h : j < W ∧ i < H
  · rw [get2_tab2 _ _ _ j i h.1 h.2]
  · rw [get2_tab2_oob _ _ _ _ _ h, rect_eq_tab2 x H W hx, get2_tab2_oob _ _ _ _ _ (fun h' => h ⟨h'.2, h'.1⟩)]

theorem tr_tab_cols (n m : Nat) (hn : 1 ≤ n) (F : Nat → List R) (hF : ∀ j < n, (F j).length = m) :
    tr (tab n F) = tab2 m n fun i j => getN (F j) i := by
  unfold tr
  have hl : (tab n F).length = n := by simp
  have hw : Img.width (tab n F) = m := (width_tab n F hn).trans (hF 0 hn)
  rw [hl, hw]
  apply tab2_congr; intro i _ j hj
  unfold get2
  rw [getD_tab, if_pos hj]; rfl

theorem iadd_tab2 (H W : Nat) (f g : Nat → Nat → R) :
    iadd (tab2 H W f) (tab2 H W g) = tab2 H W fun i j => f i j + g i j := by
  unfold iadd
  rw [length_tab2]
  unfold tab2
  apply tab_ext rfl; intro i hi
  rw [getD_tab, getD_tab, if_pos hi, if_pos hi]
  unfold vadd
  rw [length_tab]
  apply tab_ext rfl; intro j hj
  rw [getN_tab, getN_tab, if_pos hj, if_pos hj]

theorem iadd_eq_tab2 (a b : Img R) (H W : Nat) (ha : Rect a H W) (hb : Rect b H W) :
    iadd a b = tab2 H W fun i j => get2 a i j + get2 b i j := by
  rw [rect_eq_tab2 a H W ha, rect_eq_tab2 b H W hb, iadd_tab2]
  apply tab2_congr; intro i hi j hj
  rw [get2_tab2 _ _ _ _ _ hi hj, get2_tab2 _ _ _ _ _ hi hj]

theorem iadd_rect (H W : Nat) (a b : Img R) (ha : Rect a H W) (hb : Rect b H W) : Rect (iadd a b) H W := by
  rw [iadd_eq_tab2 a b H W ha hb]
  exact tab2_rect H W _

theorem iadd_comm (a b : Img R) (H W : Nat) (ha : Rect a H W) (hb : Rect b H W) : iadd a b = iadd b a := by
  rw [iadd_eq_tab2 a b H W ha hb, iadd_eq_tab2 b a H W hb ha]
  apply tab2_congr; intro i _ j _; ring

theorem izero_rect (h w : Nat) : Rect (izero h w : Img R) h w := tab2_rect h w _

theorem get2_izero (h w i j : Nat) : get2 (izero h w : Img R) i j = 0 := by
  unfold izero
  by_cases hij : i < h ∧ j < w
  · exact get2_tab2 _ _ _ i j hij.1 hij.2
  · exact get2_tab2_oob _ _ _ i j hij

theorem izero_iadd (a : Img R) (H W : Nat) (ha : Rect a H W) : iadd (izero H W) a = a := by
  rw [iadd_eq_tab2 (izero H W) a H W (izero_rect H W) ha]
  conv_rhs => rw [rect_eq_tab2 a H W ha]
  apply tab2_congr; intro i _ j _
  rw [get2_izero, zero_add]

theorem iadd_izero (x : Img R) (H W : Nat) (hx : Rect x H W) : iadd x (izero H W) = x := by
  rw [iadd_comm x _ H W hx (izero_rect H W), izero_iadd x H W hx]

theorem alongH_tab2 (f : List R → List R) (x : Img R) (H H' W : Nat) (hx : Rect x H W) (hH : 1 ≤ H) (hW : 1 ≤ W)
    (hf : ∀ c : List R, c.length = H → (f c).length = H') :
    alongH f x = tab2 H' W fun i j => getN (f (col x j)) i := by
  have hY : (tr x).map f = tab W fun j => f (col x j) := by
    unfold tr tab2
    rw [rect_width x H W hx hH]
    unfold tab
    rw [List.map_map]
    apply List.map_congr_left
    intro j _
    simp only [Function.comp]
    rfl
  unfold alongH
  rw [hY]
  exact tr_tab_cols W H' hW _ (fun j _ => hf _ (by rw [col_length, hx.1]))

theorem alongH_rect_of_length (f : List R → List R) (x : Img R) (H H' W : Nat) (hx : Rect x H W) (hH : 1 ≤ H) (hW : 1 ≤ W)
    (hf : ∀ c : List R, c.length = H → (f c).length = H') : Rect (alongH f x) H' W := by
  rw [alongH_tab2 f x H H' W hx hH hW hf]
  exact tab2_rect H' W _

theorem alongW_rect_of_length (f : List R → List R) (x : Img R) (H W W' : Nat) (hx : Rect x H W)
    (hf : ∀ c : List R, c.length = W → (f c).length = W') : Rect (alongW f x) H W' := by
  constructor
  · rw [alongW, List.length_map, hx.1]
  · intro r hr
    obtain ⟨c, hc, rfl⟩ := List.mem_map.mp hr
    exact hf c (hx.2 c hc)

theorem row_alongW (A : List R → List R) (x : Img R) (i : Nat) (hi : i < x.length) :
    (alongW A x).getD i [] = A (x.getD i []) :=
  getD_map_lt A x i hi [] []

theorem get2_alongW (f : List R → List R) (x : Img R) (i j : Nat) (hi : i < x.length) :
    get2 (alongW f x) i j = getN (f (x.getD i [])) j := by
  unfold get2
  rw [row_alongW f x i hi]
  rfl

/-- a gather of the rows followed by the same gather of every row is a two-dimensional gather -/
theorem get2_rows_cols (x y : Img R) (fc : List R → List R) (H W H' W' : Nat) (sr sc : Nat → Nat) (hx : Rect x H W)
    (hy : y.length = H') (hsr : ∀ m < H', sr m < H) (hrow : ∀ m < H', y.getD m [] = x.getD (sr m) [])
    (hcol : ∀ r : List R, r.length = W → ∀ k < W', (fc r).getD k 0 = r.getD (sc k) 0) (m k : Nat) (hm : m < H') (hk : k < W') :
    get2 (y.map fc) m k = get2 x (sr m) (sc k) := by
  have e : get2 (y.map fc) m k = (fc (y.getD m [])).getD k 0 := get2_alongW fc y m k (by rw [hy]; exact hm)
  rw [e, hrow m hm, hcol _ (row_length x H W hx _ (hsr m hm)) k hk]
  rfl

theorem alongW_tab2 (f : List R → List R) (x : Img R) (H W W' : Nat) (hx : Rect x H W)
    (hf : ∀ c : List R, c.length = W → (f c).length = W') :
    alongW f x = tab2 H W' fun i j => getN (f (x.getD i [])) j := by
  refine (rect_eq_tab2 _ H W' (alongW_rect_of_length f x H W W' hx hf)).trans ?_
  apply tab2_congr; intro i hi j _
  exact get2_alongW f x i j (by rw [hx.1]; exact hi)

theorem col_alongH (A : List R → List R) (H W K : Nat) (hA : ∀ c : List R, c.length = H → (A c).length = K)
    (x : Img R) (hx : Rect x H W) (hH : 1 ≤ H) (j : Nat) (hj : j < W) : col (alongH A x) j = A (col x j) := by
  rw [alongH_tab2 A x H K W hx hH (by omega) hA, col_tab2 _ _ _ j hj]
  exact tab_getN _ K (hA _ (by rw [col_length, hx.1]))

theorem get2_alongH (f : List R → List R) (x : Img R) (H H' W : Nat) (hx : Rect x H W) (hH : 1 ≤ H) (hW : 1 ≤ W)
    (hf : ∀ c : List R, c.length = H → (f c).length = H') (i j : Nat) :
    get2 (alongH f x) i j = if j < W then getN (f (col x j)) i else 0 := by
  rw [alongH_tab2 f x H H' W hx hH hW hf]
  by_cases hij : i < H' ∧ j < W
  · rw [get2_tab2 _ _ _ _ _ hij.1 hij.2, if_pos hij.2]
  · rw [get2_tab2_oob _ _ _ _ _ hij]
    split
    · next hj =>
      have hl : (f (col x j)).length = H' := hf _ (by rw [col_length, hx.1])
      rw [getN_eq_getZ, getZ_of_ge _ _ (by rw [hl]; omega)]
    · rfl

theorem alongW_comp (F G : List R → List R) (x : Img R) : alongW F (alongW G x) = alongW (fun c => F (G c)) x := by
  unfold alongW; rw [List.map_map]; rfl

theorem alongH_comp (F G : List R → List R) (x : Img R) (H H1 H2 W : Nat) (hx : Rect x H W) (hH : 1 ≤ H) (hW : 1 ≤ W)
    (hH1 : 1 ≤ H1) (hG : ∀ c : List R, c.length = H → (G c).length = H1) (hF : ∀ c : List R, c.length = H1 → (F c).length = H2) :
    alongH F (alongH G x) = alongH (fun c => F (G c)) x := by
  rw [alongH_tab2 G x H H1 W hx hH hW hG]
  rw [alongH_tab2 F _ H1 H2 W (tab2_rect _ _ _) hH1 hW hF]
  rw [alongH_tab2 (fun c => F (G c)) x H H2 W hx hH hW (fun c hc => hF _ (hG c hc))]
  apply tab2_congr; intro i _ j hj
  rw [col_tab2 H1 W _ j hj, tab_getN _ _ (hG _ (by rw [col_length, hx.1]))]

theorem alongW_congr (F G : List R → List R) (x : Img R) (H W : Nat) (hx : Rect x H W)
    (h : ∀ c : List R, c.length = W → F c = G c) : alongW F x = alongW G x := by
  unfold alongW
  apply List.map_congr_left
  intro c hc
  exact h c (hx.2 c hc)

theorem alongH_congr (f g : List R → List R) (x : Img R) (h : ∀ c, c.length = x.length → f c = g c) :
    alongH f x = alongH g x := by
  unfold alongH
  congr 1
  apply List.map_congr_left
  intro c hc
  exact h c (tr_row_length x c hc)

/-- a two-channel identity on columns of length `H` (analysis `f0, f1` to length `H'`, synthesis `g0, g1` back)
holds on `H × W` images column by column -/
theorem alongH_pr (f0 f1 g0 g1 : List R → List R) (y : Img R) (H H' W : Nat) (hy : Rect y H W) (hH : 1 ≤ H) (hH' : 1 ≤ H')
    (hW : 1 ≤ W) (hf0 : ∀ c : List R, c.length = H → (f0 c).length = H') (hf1 : ∀ c : List R, c.length = H → (f1 c).length = H')
    (hg0 : ∀ c : List R, c.length = H' → (g0 c).length = H) (hg1 : ∀ c : List R, c.length = H' → (g1 c).length = H)
    (hid : ∀ c : List R, c.length = H → ∀ i < H, getN (g0 (f0 c)) i + getN (g1 (f1 c)) i = getN c i) :
    iadd (alongH g1 (alongH f1 y)) (alongH g0 (alongH f0 y)) = y := by
  rw [alongH_comp g1 f1 y H H' H W hy hH hW hH' hf1 hg1, alongH_comp g0 f0 y H H' H W hy hH hW hH' hf0 hg0,
    alongH_tab2 _ y H H W hy hH hW (fun c hc => hg1 _ (hf1 c hc)), alongH_tab2 _ y H H W hy hH hW (fun c hc => hg0 _ (hf0 c hc)),
    iadd_tab2]
  conv_rhs => rw [rect_eq_tab2 y H W hy]
  apply tab2_congr; intro i hi j hj
  rw [add_comm, hid (col y j) (by rw [col_length, hy.1]) i hi, get2_eq_getN_col y H W hy i j hi]

theorem alongW_pr (f0 f1 g0 g1 : List R → List R) (y : Img R) (H W W' : Nat) (hy : Rect y H W)
    (hf0 : ∀ c : List R, c.length = W → (f0 c).length = W') (hf1 : ∀ c : List R, c.length = W → (f1 c).length = W')
    (hg0 : ∀ c : List R, c.length = W' → (g0 c).length = W) (hg1 : ∀ c : List R, c.length = W' → (g1 c).length = W)
    (hid : ∀ c : List R, c.length = W → ∀ j < W, getN (g0 (f0 c)) j + getN (g1 (f1 c)) j = getN c j) :
    iadd (alongW g1 (alongW f1 y)) (alongW g0 (alongW f0 y)) = y := by
  rw [alongW_comp, alongW_comp, alongW_tab2 _ y H W W hy (fun c hc => hg1 _ (hf1 c hc)),
    alongW_tab2 _ y H W W hy (fun c hc => hg0 _ (hf0 c hc)), iadd_tab2]
  conv_rhs => rw [rect_eq_tab2 y H W hy]
  apply tab2_congr; intro i hi j hj
  rw [add_comm, hid (y.getD i []) (row_length y H W hy i hi) j hj]
  rfl

/-! ### partial operators along one axis that are total on the rows or columns at hand -/

theorem alongHO_total (f : List R → Option (List R)) (f' : List R → List R) (x : Img R)
    (h : ∀ c, c.length = x.length → f c = some (f' c)) : alongHO f x = some (alongH f' x) := by
  unfold alongHO alongH
  rw [mapM_total f f' (tr x) (fun c hc => h c (tr_row_length x c hc))]
  rfl

theorem alongWO_total (f : List R → Option (List R)) (f' : List R → List R) (x : Img R)
    (h : ∀ c ∈ x, f c = some (f' c)) : alongWO f x = some (alongW f' x) := by
  unfold alongWO alongW
  exact mapM_total f f' x h

theorem alongO_W_val (f : List R → Option (List R)) (g : List R → List R) (x : Img R) (H W : Nat) (hx : Rect x H W)
    (h : ∀ c : List R, c.length = W → f c = some (g c)) : alongO .W f x = some (alongW g x) :=
  alongWO_total f g x fun c hc => h c (hx.2 c hc)

theorem alongO_H_val (f : List R → Option (List R)) (g : List R → List R) (y : Img R) (H : Nat) (hy : y.length = H)
    (h : ∀ c : List R, c.length = H → f c = some (g c)) : alongO .H f y = some (alongH g y) :=
  alongHO_total f g y fun c hc => h c (hc.trans hy)

theorem dot2_tab2 (H W : Nat) (f g : Nat → Nat → R) :
    dot2 H W (tab2 H W f) (tab2 H W g) = ∑ i ∈ range H, ∑ j ∈ range W, f i j * g i j := by
  unfold dot2
  apply Finset.sum_congr rfl; intro i hi
  apply Finset.sum_congr rfl; intro j hj
  rw [get2_tab2 _ _ _ _ _ (by simpa using hi) (by simpa using hj), get2_tab2 _ _ _ _ _ (by simpa using hi) (by simpa using hj)]

theorem dot2_comm (H W : Nat) (x y : Img R) : dot2 H W x y = dot2 H W y x := by
  unfold dot2
  apply Finset.sum_congr rfl; intro i _
  apply Finset.sum_congr rfl; intro j _
  ring

theorem dot2_iadd (H W : Nat) (x a b : Img R) (ha : Rect a H W) (hb : Rect b H W) :
    dot2 H W x (iadd a b) = dot2 H W x a + dot2 H W x b := by
  rw [iadd_eq_tab2 a b H W ha hb]
  unfold dot2
  rw [← Finset.sum_add_distrib]
  apply Finset.sum_congr rfl; intro i hi
  rw [← Finset.sum_add_distrib]
  apply Finset.sum_congr rfl; intro j hj
  rw [get2_tab2 _ _ _ _ _ (mem_range.mp hi) (mem_range.mp hj)]
  ring

theorem dot2_rows (H W : Nat) (x y : Img R) :
    dot2 H W x y = ∑ i ∈ range H, ∑ j ∈ range W, getN (x.getD i []) j * getN (y.getD i []) j := rfl

theorem dot2_cols (H W : Nat) (x y : Img R) (hx : Rect x H W) (hy : Rect y H W) :
    dot2 H W x y = ∑ j ∈ range W, ∑ i ∈ range H, getN (col x j) i * getN (col y j) i := by
  unfold dot2
  rw [Finset.sum_comm]
  apply Finset.sum_congr rfl; intro j _
  apply Finset.sum_congr rfl; intro i hi
  rw [get2_eq_getN_col x H W hx i j (mem_range.mp hi), get2_eq_getN_col y H W hy i j (mem_range.mp hi)]

theorem dot2_alongH (F : List R → List R) (H K W : Nat) (hF : ∀ c : List R, c.length = H → (F c).length = K)
    (x y : Img R) (hx : Rect x H W) (hy : Rect y K W) (hH : 1 ≤ H) (hW : 1 ≤ W) :
    dot2 K W (alongH F x) y = ∑ j ∈ range W, ∑ i ∈ range K, getN (F (col x j)) i * getN (col y j) i := by
  rw [dot2_cols K W _ y (alongH_rect_of_length F x H K W hx hH hW hF) hy]
  apply Finset.sum_congr rfl; intro j hj
  rw [col_alongH F H W K hF x hx hH j (mem_range.mp hj)]

theorem dot2_alongW (F : List R → List R) (H K : Nat) (x y : Img R) (hx : x.length = H) :
    dot2 H K (alongW F x) y = ∑ i ∈ range H, ∑ j ∈ range K, getN (F (x.getD i [])) j * getN (y.getD i []) j := by
  rw [dot2_rows]
  apply Finset.sum_congr rfl; intro i hi
  rw [row_alongW F x i (by rw [hx]; exact mem_range.mp hi)]

theorem alongH_adjoint_of (F G : List R → List R) (x y : Img R) (n m W : Nat) (hx : Rect x n W) (hy : Rect y m W)
    (hn : 1 ≤ n) (hm : 1 ≤ m) (hW : 1 ≤ W)
    (hF : ∀ c : List R, c.length = n → (F c).length = m) (hG : ∀ c : List R, c.length = m → (G c).length = n)
    (hadj : ∀ j < W, ∑ i ∈ range m, getN (F (col x j)) i * getN (col y j) i
      = ∑ k ∈ range n, getN (col x j) k * getN (G (col y j)) k) :
    dot2 m W (alongH F x) y = dot2 n W x (alongH G y) := by
  rw [dot2_alongH F n m W hF x y hx hy hn hW, dot2_comm n W x, dot2_alongH G m n W hG y x hy hx hm hW]
  apply Finset.sum_congr rfl; intro j hj
  rw [hadj j (mem_range.mp hj)]
  apply Finset.sum_congr rfl; intro k _
  ring

theorem alongW_adjoint_of (F G : List R → List R) (x y : Img R) (H n m : Nat) (hx : Rect x H n) (hy : Rect y H m)
    (hadj : ∀ i < H, ∑ j ∈ range m, getN (F (x.getD i [])) j * getN (y.getD i []) j
      = ∑ k ∈ range n, getN (x.getD i []) k * getN (G (y.getD i [])) k) :
    dot2 H m (alongW F x) y = dot2 H n x (alongW G y) := by
  rw [dot2_alongW F H m x y hx.1, dot2_comm H n x, dot2_alongW G H n y x hy.1]
  apply Finset.sum_congr rfl; intro i hi
  rw [hadj i (mem_range.mp hi)]
  apply Finset.sum_congr rfl; intro k _
  ring

theorem gather_adjoint (n M : Nat) (src : Nat → Nat) (hs : ∀ m < M, src m < n) (x g : Nat → R) :
    ∑ m ∈ range M, x (src m) * g m = ∑ i ∈ range n, x i * ∑ m ∈ range M, if src m = i then g m else 0 := by
  have : ∀ i ∈ range n, x i * ∑ m ∈ range M, (if src m = i then g m else 0) = ∑ m ∈ range M, if src m = i then x i * g m else 0 := by
    intro i _
    rw [Finset.mul_sum]
    apply Finset.sum_congr rfl
    intro m _
    split <;> simp
  rw [Finset.sum_congr rfl this, Finset.sum_comm]
  apply Finset.sum_congr rfl
  intro m hm
  have hsm := hs m (Finset.mem_range.mp hm)
  rw [Finset.sum_eq_single (src m)]
  · simp
  · intro i _ hne
    rw [if_neg (fun h => hne h.symm)]
  · intro h; exact absurd (Finset.mem_range.mpr hsm) h

end WV
