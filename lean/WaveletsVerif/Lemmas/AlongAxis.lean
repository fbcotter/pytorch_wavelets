/-
  Applying a 1-D operation along one axis of an image (`alongH` along the columns, `alongW` along the rows): the output
  shape and the additivity of a gather-linear operator; rows of zeros above and below an image, and other re-indexings of
  the list of rows (`roll`, odd-length extension, `take`), as 1-D operators along the columns; the stride-2 correlation
  with a rank-one kernel `a ⊗ b`, which on an image prepared axis by axis is the separable analysis.
  Builds on `Properties/C03P.lean` (`GL.length`; `alongH_alongW_comm`: a gather-linear operator along the columns commutes
  with one along the rows) and on `Properties/C19.lean` (`C19.corr2_outer_eq`: a pixel of the correlation with `a ⊗ b` as a
  nested pair of 1-D sums).
-/
import WaveletsVerif.Lemmas.GLAlg
import WaveletsVerif.Properties.C03P
import WaveletsVerif.Properties.C19
namespace WV.GLA
open Finset WV WV.C04 WV.C04Q WV.C03P
variable {R : Type} [CommRing R]

theorem GL_alongW_rect {F : List R → List R} {n m : Nat} (hF : GL F n m) (x : Img R) (H : Nat) (hx : Rect x H n) :
    Rect (alongW F x) H m := by
  rw [alongW_tab2 F x H n m hx (fun c hc => GL.length hF c hc)]
  exact tab2_rect _ _ _

theorem GL_alongH_rect {F : List R → List R} {n m : Nat} (hF : GL F n m) (x : Img R) (W : Nat) (hx : Rect x n W)
    (hn : 1 ≤ n) (hW : 1 ≤ W) : Rect (alongH F x) m W := by
  rw [alongH_tab2 F x n m W hx hn hW (fun c hc => GL.length hF c hc)]
  exact tab2_rect _ _ _

/-! ### additivity along one axis -/

theorem alongW_iadd {F : List R → List R} {n m : Nat} (hF : GL F n m) (a b : Img R) (H : Nat) (ha : Rect a H n) (hb : Rect b H n) :
    alongW F (iadd a b) = iadd (alongW F a) (alongW F b) := by
  have rab : Rect (iadd a b) H n := by rw [iadd_eq_tab2 a b H n ha hb]; exact tab2_rect _ _ _
  rw [iadd_eq_tab2 _ _ H m (GL_alongW_rect hF a H ha) (GL_alongW_rect hF b H hb)]
  rw [alongW_tab2 F _ H n m rab (fun c hc => GL.length hF c hc)]
  apply tab2_congr; intro i hi j hj
  have e : (iadd a b).getD i [] = vadd (a.getD i []) (b.getD i []) := by
    unfold iadd; rw [getD_tab, ha.1, if_pos hi]
  rw [e, GL.map_vadd hF _ _ (row_length a H n ha i hi) (row_length b H n hb i hi)]
  rw [getN_vadd _ _ _ (by rw [GL.length hF _ (row_length a H n ha i hi)]; exact hj)]
  rw [alongW_tab2 F a H n m ha (fun c hc => GL.length hF c hc), alongW_tab2 F b H n m hb (fun c hc => GL.length hF c hc)]
  rw [get2_tab2 _ _ _ _ _ hi hj, get2_tab2 _ _ _ _ _ hi hj]

theorem alongH_iadd {F : List R → List R} {n m : Nat} (hF : GL F n m) (a b : Img R) (W : Nat) (ha : Rect a n W) (hb : Rect b n W)
    (hn : 1 ≤ n) (hW : 1 ≤ W) :
    alongH F (iadd a b) = iadd (alongH F a) (alongH F b) := by
  have rab : Rect (iadd a b) n W := by rw [iadd_eq_tab2 a b n W ha hb]; exact tab2_rect _ _ _
  rw [iadd_eq_tab2 _ _ m W (GL_alongH_rect hF a W ha hn hW) (GL_alongH_rect hF b W hb hn hW)]
  rw [alongH_tab2 F _ n m W rab hn hW (fun c hc => GL.length hF c hc)]
  apply tab2_congr; intro i hi j hj
  have e : col (iadd a b) j = vadd (col a j) (col b j) := by
    rw [iadd_eq_tab2 a b n W ha hb, col_tab2 _ _ _ j hj]
    unfold vadd
    rw [col_length, ha.1]
    apply tab_ext rfl; intro t ht
    unfold col
    rw [getN_tab, getN_tab, ha.1, hb.1, if_pos ht, if_pos ht]
  have hla : (col a j).length = n := (col_length a j).trans ha.1
  rw [e, GL.map_vadd hF _ _ hla ((col_length b j).trans hb.1)]
  rw [getN_vadd _ _ _ (by rw [GL.length hF _ hla]; exact hi)]
  rw [alongH_tab2 F a n m W ha hn hW (fun c hc => GL.length hF c hc), alongH_tab2 F b n m W hb hn hW (fun c hc => GL.length hF c hc)]
  rw [get2_tab2 _ _ _ _ _ hi hj, get2_tab2 _ _ _ _ _ hi hj]

/-! ### padding -/

theorem zeroPad_zero (c : List R) : zeroPad c 0 0 = c := by
  refine Eq.trans ?_ (tab_getN c c.length rfl)
  unfold zeroPad
  apply tab_ext (by omega); intro i _
  rw [getN_eq_getZ]
  congr 1

theorem izero_zero (w : Nat) : (izero 0 w : Img R) = [] := rfl

theorem get2_vpad (a b Wt : Nat) (B : Img R) (u v : Nat) :
    get2 (izero a Wt ++ B ++ izero b Wt) u v = if a ≤ u then get2 B (u - a) v else 0 := by
  have hl : (izero a Wt : Img R).length = a := by simp [izero, tab2]
  by_cases h1 : u < a
  · rw [if_neg (by omega)]
    unfold get2
    rw [List.append_assoc, List.getD_append _ _ _ _ (by rw [hl]; exact h1)]
    exact get2_izero a Wt u v
  · rw [if_pos (by omega)]
    unfold get2
    rw [List.append_assoc, List.getD_append_right _ _ _ _ (by rw [hl]; omega), hl]
    by_cases h2 : u - a < B.length
    · rw [List.getD_append _ _ _ _ h2]
    · rw [List.getD_append_right _ _ _ _ (by omega)]
      have e1 := get2_izero (R := R) b Wt (u - a - B.length) v
      have e2 := get2_row_oob B (u - a) v (by omega)
      unfold get2 at e1 e2
      rw [e1, e2]

/-- `a` rows of zeros above an image and `b` below are zero padding along the columns -/
theorem vpad_eq (a b : Nat) (B : Img R) (h w : Nat) (hB : Rect B h w) (hh : 1 ≤ h) (hw : 1 ≤ w) :
    izero a w ++ B ++ izero b w = alongH (fun c => zeroPad c a b) B := by
  have rL : Rect (izero a w ++ B ++ izero b w : Img R) (a + h + b) w := by
    constructor
    · rw [List.length_append, List.length_append, hB.1]
      simp [izero, tab2]
    · intro r hr
      rw [List.mem_append, List.mem_append] at hr
      rcases hr with (h1 | h1) | h1
      · exact (tab2_rect _ _ _).2 r h1
      · exact hB.2 r h1
      · exact (tab2_rect _ _ _).2 r h1
  rw [rect_eq_tab2 _ _ _ rL, alongH_tab2 _ B h (a + h + b) w hB hh hw (fun c hc => by rw [length_zeroPad, hc])]
  apply tab2_congr; intro u _ v _
  rw [get2_vpad, getN_eq_getZ, getZ_zeroPad]
  by_cases h1 : a ≤ u
  · rw [if_pos h1]
    have e : ((u:Int) - (a:Int)) = ((u - a : Nat) : Int) := by omega
    rw [e, ← getN_eq_getZ]
    unfold col
    rw [getN_tab, hB.1]
    split
    · rfl
    · exact get2_row_oob B _ _ (by rw [hB.1]; omega)
  · rw [if_neg h1]
    exact (getZ_neg _ _ (by omega)).symm

/-! ### re-indexing the list of rows is the same re-indexing along the columns -/

/-- an operation on the list of rows that only re-indexes it (`ΦI`, row `i` of the result is row `src i`) is the 1-D
operation that re-indexes the same way (`ΦL`), applied along the columns -/
theorem gatherRows_eq (ΦI : Img R → Img R) (ΦL : List R → List R) (n m : Nat) (src : Nat → Nat) (hsrc : ∀ i < m, src i < n)
    (y : Img R) (W : Nat) (hy : Rect y n W) (hn : 1 ≤ n) (hW : 1 ≤ W)
    (hIl : (ΦI y).length = m) (hI : ∀ i < m, (ΦI y).getD i [] = y.getD (src i) [])
    (hLl : ∀ c : List R, c.length = n → (ΦL c).length = m)
    (hL : ∀ c : List R, c.length = n → ∀ i < m, getN (ΦL c) i = getN c (src i)) :
    ΦI y = alongH ΦL y := by
  rw [alongH_tab2 _ y n m W hy hn hW hLl]
  refine (list_eq_tab_getD _ m [] hIl).trans ?_
  unfold tab2
  apply tab_ext rfl; intro i hi
  rw [hI i hi]
  refine (list_eq_tab_getD _ W 0 (row_length y n W hy _ (hsrc i hi))).trans ?_
  apply tab_ext rfl; intro j _
  have hcl : (col y j).length = n := (col_length y j).trans hy.1
  show _ = getN (ΦL (col y j)) i
  rw [hL _ hcl i hi]
  unfold col
  rw [getN_tab, hy.1, if_pos (hsrc i hi)]
  rfl

theorem rollRows_eq (y : Img R) (Mh Mw : Nat) (hy : Rect y Mh Mw) (hMh : 1 ≤ Mh) (hMw : 1 ≤ Mw) (s : Int) :
    rollPy y s = alongH (fun c => rollPy c s) y :=
  gatherRows_eq (fun y => rollPy y s) (fun c => rollPy c s) Mh Mh (rollIdx Mh s) (fun i hi => rollIdx_lt Mh s i hi) y Mw hy hMh hMw
    (by rw [rollPy_length, hy.1]) (fun i hi => by rw [getD_rollPy y s [] i (by rw [hy.1]; exact hi), hy.1])
    (fun c hc => by rw [rollPy_length, hc])
    (fun c hc i hi => by unfold getN; rw [getD_rollPy c s 0 i (by rw [hc]; exact hi), hc])

theorem extRows_eq (y : Img R) (H W : Nat) (hy : Rect y H W) (hH : 1 ≤ H) (hW : 1 ≤ W) : ext1 y = alongH ext1 y :=
  gatherRows_eq ext1 ext1 H (H + H % 2) (fun i => min i (H - 1)) (fun i _ => by omega) y W hy hH hW
    (by rw [ext1_length y (by rw [hy.1]; exact hH), hy.1])
    (fun i hi => by rw [getD_ext1 y [] i (by rw [hy.1]; exact hH) (by rw [hy.1]; exact hi), hy.1])
    (fun c hc => by rw [ext1_length c (by omega), hc])
    (fun c hc i hi => by unfold getN; rw [getD_ext1 c 0 i (by omega) (by rw [hc]; exact hi), hc])

theorem takeRows_eq (y : Img R) (Mh Mw : Nat) (hy : Rect y Mh Mw) (hMh : 1 ≤ Mh) (hMw : 1 ≤ Mw) (n : Nat) (hn : n ≤ Mh) :
    y.take n = alongH (fun c => c.take n) y :=
  gatherRows_eq (fun y => y.take n) (fun c => c.take n) Mh n (fun i => i) (fun i hi => by omega) y Mw hy hMh hMw
    (by rw [List.length_take, hy.1]; omega)
    (fun i hi => by rw [List.getD_eq_getElem?_getD, List.getD_eq_getElem?_getD, List.getElem?_take, if_pos hi])
    (fun c hc => by rw [List.length_take, hc]; omega)
    (fun c _ i hi => getN_take c n i hi)

theorem corr2_outer_sep (a b : List R) (X : Img R) (Hp Wp : Nat) (hX : Rect X Hp Wp) (hHp : 1 ≤ Hp)
    (ha : 1 ≤ a.length) (hMw : 1 ≤ corrLen Wp b.length 2 1) :
    corr2 (outer a b) X 2 2 = alongH (fun c => corr a c 2 1) (alongW (fun c => corr b c 2 1) X) := by
  -- pixel `(p, q)`: `C19.corr2_outer_eq` leaves `Σ_i a_i · (Σ_j b_j · X[2p+i, 2q+j])`; the inner sum is entry `2p+i` of column `q` of the row-filtered image
  have hw : X.width = Wp := rect_width X Hp Wp hX hHp
  have gA := GL_corr2 a Hp
  have gB := GL_corr2 b Wp
  have hY : alongW (fun c => corr b c 2 1) X = tab2 Hp (corrLen Wp b.length 2 1) fun t q => getN (corr b (X.getD t []) 2 1) q :=
    alongW_tab2 _ X Hp Wp _ hX (fun c hc => GL.length gB c hc)
  rw [alongH_tab2 _ _ Hp (corrLen Hp a.length 2 1) _ (GL_alongW_rect gB X Hp hX) hHp hMw (fun c hc => GL.length gA c hc)]
  have hol := outer_length a b
  have how := outer_width a b ha
  have hN : corr2 (outer a b) X 2 2
      = tab2 (corrLen Hp a.length 2 1) (corrLen Wp b.length 2 1) (get2 (corr2 (outer a b) X 2 2)) := by
    conv_lhs => unfold corr2
    rw [hol, how, hX.1, hw]
    apply tab2_congr; intro p hp q hq
    unfold corr2
    rw [hol, how, hX.1, hw, get2_tab2 _ _ _ _ _ hp hq]
  rw [hN]
  apply tab2_congr; intro p hp q hq
  rw [C19.corr2_outer_eq a b X 2 2 p q (by omega) (by rw [hX.1]; exact hp) (by rw [hw]; exact hq)]
  have hcol : col (alongW (fun c => corr b c 2 1) X) q = tab Hp fun t => getN (corr b (X.getD t []) 2 1) q := by
    rw [hY, col_tab2 _ _ _ q hq]
  rw [hcol, getN_corr2 a _ p (by simp; exact hp)]
  apply Finset.sum_congr rfl; intro i hi
  have hi' : i < a.length := by simpa using hi
  congr 1
  rw [← getN_eq_getZ, getN_tab]
  have hin : 2 * p + i < Hp := by
    unfold corrLen at hp; split at hp <;> omega
  rw [if_pos hin]
  have hrow : (X.getD (2 * p + i) []).length = Wp := row_length X Hp Wp hX _ hin
  rw [getN_corr2 b _ q (by rw [hrow]; exact hq)]
  apply Finset.sum_congr rfl; intro j _
  rw [← getN_eq_getZ]; rfl

/-- on an image prepared along its rows by `Px` and along its columns by `Py`, the stride-2 correlation with `a ⊗ b` is the
separable analysis: the rows through `corr b ∘ Px`, then the columns through `corr a ∘ Py` (the column preparation
commutes with the row correlation, both being gather-linear) -/
theorem corr2_outer_prep (a b : List R) (Py Px : List R → List R) (H W Hp Wp : Nat) (gy : GL Py H Hp) (gx : GL Px W Wp)
    (x : Img R) (hx : Rect x H W) (hH : 1 ≤ H) (hHp : 1 ≤ Hp) (hWp : 1 ≤ Wp)
    (ha : 1 ≤ a.length) (hMw : 1 ≤ corrLen Wp b.length 2 1) :
    corr2 (outer a b) (alongH Py (alongW Px x)) 2 2
      = alongH (fun c => corr a (Py c) 2 1) (alongW (fun c => corr b (Px c) 2 1) x) := by
  have gb := GL_corr2 b Wp
  have rP := GL_alongW_rect gx x H hx
  rw [corr2_outer_sep a b _ Hp Wp (GL_alongH_rect gy _ Wp rP hH hWp) hHp ha hMw]
  rw [← alongH_alongW_comm Py (fun c => corr b c 2 1) H Hp Wp _ gy gb _ rP hH hWp hHp hMw, alongW_comp]
  exact alongH_comp _ _ _ H Hp _ _ (GL_alongW_rect (GL.comp gb gx) x H hx) hH hMw hHp (fun c hc => GL.length gy c hc)
    (fun c hc => GL.length (GL_corr2 a Hp) c hc)

end WV.GLA
