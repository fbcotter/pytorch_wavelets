/-
  `foldCrop`, the last step of `AFB1D.backward`: what it does to a gradient that is not longer than the saved length
  (nothing), to one that is longer in mode `zero` (crop), and in periodization (fold the extra sample back, crop).
-/
import WaveletsVerif.Lemmas.Basic

namespace WV
open Finset
variable {R : Type} [CommRing R]

theorem foldCrop_id (m : Mode) (N : Nat) (d : List R) (h : d.length ≤ N) : foldCrop m N d = d := by
  unfold foldCrop
  rw [if_neg (by omega)]

theorem foldCrop_zero (N : Nat) (d : List R) (h : N ≤ d.length) : foldCrop .zero N d = d.take N := by
  by_cases hgt : d.length > N
  · simp only [foldCrop, if_pos hgt, show (Mode.zero = Mode.periodization) = False by simp, if_false]
  · rw [foldCrop_id .zero N d (by omega), List.take_of_length_le (by omega)]

theorem getN_foldCrop_zero (N : Nat) (d : List R) (h : N ≤ d.length) (i : Nat) (hi : i < N) :
    getN (foldCrop .zero N d) i = getN d i := by
  rw [foldCrop_zero N d h, getN_take _ _ _ hi]

theorem foldCrop_per_length (N : Nat) (d : List R) (hd : d.length = N ∨ d.length = N + 1) :
    (foldCrop .periodization N d).length = N := by
  by_cases hgt : d.length > N
  · simp only [foldCrop, if_pos hgt, if_true]
    rw [List.length_take, length_tab]; omega
  · rw [foldCrop_id _ N d (by omega)]; omega

/-- in periodization the sample beyond the saved length is the gradient of the repeated last sample -/
theorem getN_foldCrop_per (N : Nat) (d : List R) (i : Nat) (hi : i < N) :
    getN (foldCrop .periodization N d) i = if N < d.length ∧ i + 1 = N then getN d i + getN d N else getN d i := by
  by_cases hgt : d.length > N
  · simp only [foldCrop, if_pos hgt, if_true]
    rw [getN_take _ _ _ hi, getN_tab, if_pos (by omega)]
    by_cases hlast : i + 1 = N
    · rw [if_pos hlast, if_pos ⟨hgt, hlast⟩]
    · rw [if_neg hlast, if_neg (fun h => hlast h.2)]
  · rw [foldCrop_id _ N d (by omega), if_neg (fun h => hgt h.1)]

end WV
