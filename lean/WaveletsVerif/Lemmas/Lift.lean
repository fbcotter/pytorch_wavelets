/-
  The grouped convolution of `afb1d` on a stack of `C` channels (weight `cat([w0, w1] * C)`, `groups = C`), for any
  one-channel operator `op`: output channel `o` is `op` with filter `o % 2` on input channel `o / 2`, so for `op` into
  `Option` the stack returns the interleaved results `[lo₀, hi₀, lo₁, hi₁, …]` when every channel returns and raises as
  soon as one raises.  Instances: `afb1d` and `afb1d_atrous` on one- and two-channel stacks, `AFB1D.forward` and
  `SFB1D.forward` on a single channel; the regrouping of the `4C` channels of the two passes of the 2-D banks into
  `C` quadruples; one step of the level loops of `DWTForward` and `DWTInverse`.
-/
import WaveletsVerif.Lemmas.Basic
namespace WV
variable {R : Type} [CommRing R]

section grouped
variable {W X Y : Type} [Inhabited W] [Inhabited X]

omit [Inhabited W] in
theorem weights_length (w0 w1 : W) (C : Nat) : ((List.replicate C [w0, w1]).flatten).length = 2 * C := by
  induction C with
  | zero => simp
  | succ C ih => rw [List.replicate_succ, List.flatten_cons, List.length_append, ih]; simp; omega

/-- weight `ws[o]` of `cat([w0, w1] * C)` -/
theorem weights_get (w0 w1 : W) (C o : Nat) (ho : o < 2 * C) :
    ((List.replicate C [w0, w1]).flatten).getD o default = if o % 2 = 0 then w0 else w1 := by
  induction C generalizing o with
  | zero => omega
  | succ C ih =>
    rw [List.replicate_succ, List.flatten_cons]
    match o with
    | 0 => rfl
    | 1 => rfl
    | o + 2 =>
      show (w0 :: w1 :: (List.replicate C [w0, w1]).flatten).getD (o + 2) default = _
      rw [List.getD_cons_succ, List.getD_cons_succ, ih o (by omega), show (o + 2) % 2 = o % 2 by omega]

/-- output channel `o` is `op` with filter `o % 2` on input channel `o / 2` -/
theorem grouped_pair_eq (op : W → X → Y) (w0 w1 : W) (xs : List X) :
    grouped xs.length ((List.replicate xs.length [w0, w1]).flatten) xs op
      = tab (2 * xs.length) fun o => op (if o % 2 = 0 then w0 else w1) (xs.getD (o/2) default) := by
  unfold grouped
  rw [weights_length]
  apply tab_ext rfl
  intro o ho
  have hdiv : 2 * xs.length / xs.length = 2 := Nat.mul_div_cancel _ (by omega)
  rw [weights_get w0 w1 xs.length o ho, hdiv]

/-- if the operator returns on every channel, the stack gets the results interleaved `[lo₀, hi₀, lo₁, hi₁, …]` -/
theorem grouped_pair_total (op : W → X → Option Y) (w0 w1 : W) (xs : List X) (g0 g1 : X → Y)
    (h : ∀ c < xs.length, op w0 (xs.getD c default) = some (g0 (xs.getD c default)) ∧
      op w1 (xs.getD c default) = some (g1 (xs.getD c default))) :
    (grouped xs.length ((List.replicate xs.length [w0, w1]).flatten) xs op).mapM id
      = some (tab (2 * xs.length) fun o => if o % 2 = 0 then g0 (xs.getD (o/2) default) else g1 (xs.getD (o/2) default)) := by
  have e : (tab (2 * xs.length) fun o => op (if o % 2 = 0 then w0 else w1) (xs.getD (o/2) default))
      = (tab (2 * xs.length) fun o => if o % 2 = 0 then g0 (xs.getD (o/2) default) else g1 (xs.getD (o/2) default)).map some := by
    rw [map_tab]
    apply tab_ext rfl
    intro o ho
    split
    · exact (h (o/2) (by omega)).1
    · exact (h (o/2) (by omega)).2
  rw [grouped_pair_eq, e]
  exact mapM_id_map_some _

/-- the grouped convolution raises as soon as the operator raises with one of the two filters on some channel -/
theorem grouped_pair_none (op : W → X → Option Y) (w0 w1 : W) (xs : List X) (c : Nat) (hc : c < xs.length)
    (h : op w0 (xs.getD c default) = none ∨ op w1 (xs.getD c default) = none) :
    (grouped xs.length ((List.replicate xs.length [w0, w1]).flatten) xs op).mapM id = none := by
  obtain ⟨⟨lt0, par0, ch0⟩, ⟨lt1, par1, ch1⟩⟩ := interleave_index c xs.length hc
  rw [grouped_pair_eq]
  apply mapM_id_none
  rcases h with h | h
  · refine List.mem_map.mpr ⟨2*c, List.mem_range.mpr lt0, ?_⟩
    show op (if 2 * c % 2 = 0 then w0 else w1) (xs.getD (2 * c / 2) default) = none
    rw [if_pos par0, ch0, h]
  · refine List.mem_map.mpr ⟨2*c+1, List.mem_range.mpr lt1, ?_⟩
    show op (if (2 * c + 1) % 2 = 0 then w0 else w1) (xs.getD ((2 * c + 1) / 2) default) = none
    rw [par1, if_neg Nat.one_ne_zero, ch1, h]

/-- on a stack on which each of the two filters either returns on every channel or raises on every channel, the grouped
convolution returns the interleaved results if both return, and raises otherwise -/
theorem grouped_pair_guard (op : W → X → Option Y) (w0 w1 : W) (xs : List X) (hC : 1 ≤ xs.length)
    (g0 g1 : Bool) (K0 K1 : X → Y)
    (h0 : ∀ c < xs.length, op w0 (xs.getD c default) = if g0 then some (K0 (xs.getD c default)) else none)
    (h1 : ∀ c < xs.length, op w1 (xs.getD c default) = if g1 then some (K1 (xs.getD c default)) else none) :
    (grouped xs.length ((List.replicate xs.length [w0, w1]).flatten) xs op).mapM id
      = if g0 && g1 then some (tab (2 * xs.length) fun o =>
          if o % 2 = 0 then K0 (xs.getD (o/2) default) else K1 (xs.getD (o/2) default))
        else none := by
  cases g0 with
  | false => exact grouped_pair_none op w0 w1 xs 0 hC (Or.inl (h0 0 hC))
  | true =>
    cases g1 with
    | false => exact grouped_pair_none op w0 w1 xs 0 hC (Or.inr (h1 0 hC))
    | true => exact grouped_pair_total op w0 w1 xs K0 K1 fun c hc => ⟨h0 c hc, h1 c hc⟩

/-- a grouped convolution with the weight pair `[w0, w1]` per channel, on a stack of one channel: `[lo, hi]` -/
theorem grouped_one (w0 w1 : W) (x : X) (op : W → X → Option Y) :
    (grouped 1 (List.replicate 1 [w0, w1]).flatten [x] op).mapM id = (do
      let a ← op w0 x
      let b ← op w1 x
      some [a, b]) := by
  have e : grouped 1 (List.replicate 1 [w0, w1]).flatten [x] op = [op w0 x, op w1 x] := by
    simp [grouped, tab, List.range, List.range.loop]
  rw [e]
  simp only [mapM_id_cons, List.mapM_nil, Option.bind_eq_bind, Option.bind_assoc, Option.bind_some, pure]

/-- and on a stack of two channels: `[lo₀, hi₀, lo₁, hi₁]` -/
theorem grouped_two (w0 w1 : W) (x y : X) (op : W → X → Option Y) :
    (grouped 2 (List.replicate 2 [w0, w1]).flatten [x, y] op).mapM id = (do
      let a ← op w0 x
      let b ← op w1 x
      let c ← op w0 y
      let d ← op w1 y
      some [a, b, c, d]) := by
  have e : grouped 2 (List.replicate 2 [w0, w1]).flatten [x, y] op = [op w0 x, op w1 x, op w0 y, op w1 y] := by
    simp [grouped, tab, List.range, List.range.loop]
  rw [e]
  simp only [mapM_id_cons, List.mapM_nil, Option.bind_eq_bind, Option.bind_assoc, Option.bind_some, pure]

end grouped

/-! ### two pair interleavings make quadruples -/

/-- entry `4c + k` of a table of `4C` entries indexed by `(o % 4, o / 4)` -/
theorem getD_tab_band {β : Type} (C : Nat) (g : Nat → Nat → β) (e : β) (c k : Nat) (hc : c < C) (hk : k < 4) :
    (tab (2 * (2 * C)) fun o => g (o % 4) (o / 4)).getD (4 * c + k) e = g k c := by
  rw [getD_tab, if_pos (by omega), show (4 * c + k) % 4 = k by omega, show (4 * c + k) / 4 = c by omega]

/-- the `4C` channels of a stack whose channel `o` is band `o % 4` of input channel `o / 4`, regrouped into `C` quadruples of bands -/
theorem tab_quads {α β : Type} (C : Nat) (f : Nat → α → β) (xs : List α) (d : α) (e : β) :
    (tab (2 * (2 * C) / 4) fun c =>
      [(tab (2 * (2 * C)) fun o => f (o % 4) (xs.getD (o / 4) d)).getD (4*c) e,
       (tab (2 * (2 * C)) fun o => f (o % 4) (xs.getD (o / 4) d)).getD (4*c+1) e,
       (tab (2 * (2 * C)) fun o => f (o % 4) (xs.getD (o / 4) d)).getD (4*c+2) e,
       (tab (2 * (2 * C)) fun o => f (o % 4) (xs.getD (o / 4) d)).getD (4*c+3) e])
      = tab C fun c => [f 0 (xs.getD c d), f 1 (xs.getD c d), f 2 (xs.getD c d), f 3 (xs.getD c d)] := by
  apply tab_ext (two_two_div_four C)
  intro c hc
  rw [two_two_div_four] at hc
  have q := fun k hk => getD_tab_band C (fun k c => f k (xs.getD c d)) e c k hc hk
  rw [q 1 (by decide), q 2 (by decide), q 3 (by decide)]
  exact congrArg (· :: _) (q 0 (by decide))

/-- channel `o` of a pair interleaving of a pair interleaving: the outer choice is `o % 4 % 2`, the inner one `o % 4 / 2`,
the source `o / 4` -/
theorem ite_pair_pair {α β γ φ ψ : Type} (F : φ → β → γ) (G : ψ → α → β) (c0 c1 : φ) (r0 r1 : ψ) (a : Nat → α) (o : Nat) :
    (if o % 2 = 0 then F c0 (if o / 2 % 2 = 0 then G r0 (a (o / 2 / 2)) else G r1 (a (o / 2 / 2)))
      else F c1 (if o / 2 % 2 = 0 then G r0 (a (o / 2 / 2)) else G r1 (a (o / 2 / 2))))
      = F (if o % 4 % 2 = 0 then c0 else c1) (G (if o % 4 / 2 = 0 then r0 else r1) (a (o / 4))) := by
  rw [Nat.mod_mod_of_dvd o (by decide : 2 ∣ 4), Nat.div_div_eq_div_mul, show o % 4 / 2 = o / 2 % 2 from Nat.mod_mul_right_div_self o 2 2]
  split <;> split <;> rfl

/-- interleaving pairs twice is interleaving quadruples -/
theorem ite_ite_eq_getD {Z : Type} (a b c d z : Z) (o : Nat) :
    (if o % 2 = 0 then (if o / 2 % 2 = 0 then a else c) else (if o / 2 % 2 = 0 then b else d))
      = [a, b, c, d].getD (o % 4) z := by
  rw [show o % 4 = o % 2 + 2 * (o / 2 % 2) from Nat.mod_mul (a := 2) (b := 2)]
  rcases Nat.mod_two_eq_zero_or_one o with h | h <;> rcases Nat.mod_two_eq_zero_or_one (o / 2) with h' | h' <;>
    rw [h, h'] <;> rfl

theorem afb1dT_one (ax : Axis) (mode : Mode) (w0 w1 : List R) (x : Img R) :
    afb1dT ax mode w0 w1 [x] = (do
      let lo ← alongO ax (afb1dOne mode w0) x
      let hi ← alongO ax (afb1dOne mode w1) x
      some [lo, hi]) :=
  grouped_one w0 w1 x fun w ch => alongO ax (afb1dOne mode w) ch

theorem afb1dT_two (ax : Axis) (mode : Mode) (w0 w1 : List R) (x y : Img R) :
    afb1dT ax mode w0 w1 [x, y] = (do
      let a ← alongO ax (afb1dOne mode w0) x
      let b ← alongO ax (afb1dOne mode w1) x
      let c ← alongO ax (afb1dOne mode w0) y
      let d ← alongO ax (afb1dOne mode w1) y
      some [a, b, c, d]) :=
  grouped_two w0 w1 x y fun w ch => alongO ax (afb1dOne mode w) ch

theorem afb1dAtrousT_one (ax : Axis) (mode : Mode) (d : Nat) (w0 w1 : List R) (x : Img R) :
    afb1dAtrousT ax mode d w0 w1 [x] = (do
      let lo ← alongO ax (afb1dAtrousOne mode d w0) x
      let hi ← alongO ax (afb1dAtrousOne mode d w1) x
      some [lo, hi]) :=
  grouped_one w0 w1 x fun w ch => alongO ax (afb1dAtrousOne mode d w) ch

theorem afb1dAtrousT_two (ax : Axis) (mode : Mode) (d : Nat) (w0 w1 : List R) (x y : Img R) :
    afb1dAtrousT ax mode d w0 w1 [x, y] = (do
      let a ← alongO ax (afb1dAtrousOne mode d w0) x
      let b ← alongO ax (afb1dAtrousOne mode d w1) x
      let c ← alongO ax (afb1dAtrousOne mode d w0) y
      let e ← alongO ax (afb1dAtrousOne mode d w1) y
      some [a, b, c, e]) :=
  grouped_two w0 w1 x y fun w ch => alongO ax (afb1dAtrousOne mode d w) ch

/-! ### the one-dimensional Functions on a single channel, raising cases included -/

theorem AFB1D_forward_single (m : Mode) (w0 w1 x : List R) :
    AFB1D_forward m w0 w1 [x] = (afb1dOne m w0 x).bind fun lo => (afb1dOne m w1 x).bind fun hi => some ([lo], [hi]) := by
  have e : ∀ w : List R, alongO .W (afb1dOne m w) [x] = (afb1dOne m w x).map fun y => [y] := fun w => by
    simp only [alongO, alongWO, List.mapM_cons, List.mapM_nil]
    cases afb1dOne m w x <;> rfl
  unfold AFB1D_forward
  simp only [List.map_cons, List.map_nil]
  rw [afb1dT_one, e w0, e w1]
  cases afb1dOne m w0 x with
  | none => rfl
  | some lo =>
    cases afb1dOne m w1 x with
    | none => rfl
    | some hi =>
      simp only [Option.map_some, Option.bind_eq_bind, Option.bind_some, List.map_cons, List.map_nil, List.getD_cons_zero,
        List.length_cons, List.length_nil, Nat.reduceAdd, Nat.reduceDiv]
      rfl

theorem sfb1dT_single (ax : Axis) (m : Mode) (g0 g1 : List R) (a b : Img R) :
    sfb1dT ax m g0 g1 [a] [b] = (sfb1dImg ax m g0 g1 a b).map fun y => [y] := by
  simp [sfb1dT, List.range, List.range.loop]
  cases sfb1dImg ax m g0 g1 a b <;> simp

theorem sfb1dImg_row (m : Mode) (g0 g1 a b : List R) :
    sfb1dImg .W m g0 g1 [a] [b] = (sfb1dCh m g0 g1 a b).map fun y => [y] := by
  simp only [sfb1dImg, List.length_cons, List.length_nil, ne_eq, not_true_eq_false, if_false, List.range, List.range.loop,
    List.mapM_cons, List.mapM_nil, List.getD_cons_zero]
  cases sfb1dCh m g0 g1 a b <;> rfl

theorem SFB1D_forward_single (m : Mode) (g0 g1 lo hi : List R) :
    SFB1D_forward m g0 g1 [lo] [hi] = (sfb1dCh m g0 g1 lo hi).map fun y => [y] := by
  unfold SFB1D_forward
  simp only [List.map_cons, List.map_nil]
  rw [sfb1dT_single, sfb1dImg_row]
  cases sfb1dCh m g0 g1 lo hi <;> rfl

/-! ### the level loops of the modules -/

/-- the loop of `DWTForward`: one level on `x`, then the remaining levels on its low-pass -/
theorem DWTForward_succ (m : Mode) (wc0 wc1 wr0 wr1 : List R) (J : Nat) (x ll yl : List (Img R)) (high : List (List (Img R)))
    (yh : List (List (List (Img R)))) (h1 : AFB2D_forward m wr0 wr1 wc0 wc1 x = some (ll, high))
    (h2 : DWTForward m wc0 wc1 wr0 wr1 J ll = some (yl, yh)) :
    DWTForward m wc0 wc1 wr0 wr1 (J + 1) x = some (yl, high :: yh) := by
  simp only [DWTForward, h1, Option.bind_eq_bind, Option.bind_some, h2]

/-- the loop of `DWTInverse` runs from the coarsest level: the finest level is applied last -/
theorem DWTInverse_cons (m : Mode) (gc0 gc1 gr0 gr1 : List R) (yl : List (Img R)) (b : Option (List (List (Img R))))
    (bs : List (Option (List (List (Img R))))) :
    DWTInverse m gc0 gc1 gr0 gr1 yl (b :: bs)
      = (DWTInverse m gc0 gc1 gr0 gr1 yl bs).bind fun Z => DWTInverse_step m gc0 gc1 gr0 gr1 Z b :=
  foldlM_reverse_cons _ yl b bs

end WV
