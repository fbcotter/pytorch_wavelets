/-
  Perfect reconstruction of a two-band filter bank on the integer line (any extension of the signal), from the
  polyphase biorthogonality conditions `PRBank` (independent of the signal length, decidable for a given bank): `pr_line`,
  on which the reconstruction property C02 rests (the padding modes of the DWT are extensions of the signal).
-/
import WaveletsVerif.Lemmas.Adjoint
import Mathlib.Order.Interval.Finset.Defs
import Mathlib.Data.Int.Interval
namespace WV
open Finset
variable {R : Type} [CommRing R]

/-- the biorthogonality (polyphase perfect-reconstruction) conditions of an analysis pair `(h0, h1)` and a
synthesis pair `(g0, g1)`, all of length `L`: for each tap parity `p` and each lag `d`,
`Σ_{a ≡ p (2)} h0[a]·g0[d+L−1−a] + h1[a]·g1[d+L−1−a] = δ_d`.  Finite and decidable for a concrete bank
(`|d| < L` suffices, see `prbank_all_lags`).  The bound variable is the natural number `dd = d + (L−1)`, `0 ≤ dd < 2L−1`:
the lag `d = dd − (L−1)` shifted by `L−1`, so that `d = 0` is `dd = L−1`. -/
def PRBank (h0 h1 g0 g1 : List R) : Prop :=
  ∀ p < 2, ∀ dd < 2 * h0.length - 1,
    (∑ a ∈ range h0.length, if a % 2 = p then
        getN h0 a * getZ g0 (((dd:Int) - (h0.length - 1)) + h0.length - 1 - a)
        + getN h1 a * getZ g1 (((dd:Int) - (h0.length - 1)) + h0.length - 1 - a) else 0)
      = if dd = h0.length - 1 then 1 else 0

/-- for every integer lag the condition holds (outside `|d| < L` both sides vanish) -/
theorem prbank_all_lags (h0 h1 g0 g1 : List R) (hL : 1 ≤ h0.length) (hg0 : g0.length = h0.length)
    (hg1 : g1.length = h0.length) (hpr : PRBank h0 h1 g0 g1) (p : Nat) (hp : p < 2) (d : Int) :
    (∑ a ∈ range h0.length, if a % 2 = p then
        getN h0 a * getZ g0 (d + h0.length - 1 - a) + getN h1 a * getZ g1 (d + h0.length - 1 - a) else 0)
      = if d = 0 then 1 else 0 := by
  by_cases hin : -(h0.length:Int) < d ∧ d < h0.length
  · obtain ⟨dd, rfl⟩ : ∃ dd : Nat, d = (dd:Int) - ((h0.length:Int) - 1) := ⟨(d + (h0.length - 1)).toNat, by omega⟩
    rw [hpr p hp dd (by omega)]
    have : (dd = h0.length - 1) ↔ ((dd:Int) - ((h0.length:Int) - 1) = 0) := by omega
    simp only [this]
  · have hd0 : ¬ d = 0 := by omega
    rw [if_neg hd0]
    apply Finset.sum_eq_zero
    intro a ha
    have ha' : a < h0.length := by simpa using ha
    rw [getZ_outside g0 _ (by rw [hg0]; omega), getZ_outside g1 _ (by rw [hg1]; omega)]
    split <;> simp

/-- `Σ_j h_j·e(c−j) = Σ_{u∈W} e(u)·h̃(c−u)` for any window `W` containing all the indices read -/
theorem sum_taps_window (h : List R) (e : Int → R) (c : Int) (W : Finset Int)
    (hW : ∀ j < h.length, c - (j:Int) ∈ W) :
    ∑ j ∈ range h.length, getN h j * e (c - (j:Int)) = ∑ u ∈ W, e u * getZ h (c - u) := by
  rw [sum_mul_getZ h W e (fun u => c - u)]
  apply Finset.sum_congr rfl; intro j hj
  congr 1
  rw [Finset.sum_congr rfl fun u _ => if_congr (show c - u = (j:Int) ↔ u = c - (j:Int) by omega) rfl rfl,
    Finset.sum_ite_eq' W (c - (j:Int)) e, if_pos (hW j (mem_range.mp hj))]

/-- the kernel identity over an arbitrary finite set `S ⊆ ℤ` of level indices containing the support of
the synthesis tap; `p` is the parity of `u + 1`, the parity of the taps that meet `u` -/
theorem kernel_reindex_set (h g : List R) (S : Finset Int) (u T : Int) (p : Nat) (hp : (p:Int) = (u + 1) % 2)
    (hg : g.length = h.length)
    (hS : ∀ k : Int, 0 ≤ T + h.length - 2 - 2*k → T + h.length - 2 - 2*k < h.length → k ∈ S) :
    ∑ k ∈ S, getZ h (2*k + 1 - u) * getZ g (T + h.length - 2 - 2*k)
      = ∑ a ∈ range h.length, if a % 2 = p then getN h a * getZ g ((T - u) + h.length - 1 - a) else 0 := by
  have h1 : ∀ k ∈ S, getZ h (2*k + 1 - u) * getZ g (T + h.length - 2 - 2*k)
      = ∑ a ∈ range h.length, if (a:Int) = 2*k + 1 - u then getN h a * getZ g ((T - u) + h.length - 1 - a) else 0 := by
    intro k _
    rw [getZ_eq_sum, Finset.sum_mul]
    apply Finset.sum_congr rfl; intro a _
    by_cases hc : (a:Int) = 2*k + 1 - u
    · rw [if_pos hc, if_pos hc]
      congr 2; omega
    · rw [if_neg hc, if_neg hc]; simp
  rw [Finset.sum_congr rfl h1, Finset.sum_comm]
  apply Finset.sum_congr rfl; intro a ha
  have ha' : a < h.length := by simpa using ha
  by_cases hpar : a % 2 = p
  · -- tap `a` pairs with exactly one level index `k0`
    rw [if_pos hpar]
    obtain ⟨k0, hk0⟩ : ∃ k0 : Int, (a:Int) = 2*k0 + 1 - u := ⟨((a:Int) + u - 1) / 2, by omega⟩
    clear hpar hp
    have hiff : ∀ k : Int, ((a:Int) = 2*k + 1 - u) = (k0 = k) := fun k =>
      propext ⟨fun hc => by omega, fun hc => by omega⟩
    simp only [hiff, Finset.sum_ite_eq]
    by_cases hk : k0 ∈ S
    · rw [if_pos hk]
    · -- `k0` is outside `S`, so the synthesis tap is outside its support
      rw [if_neg hk, getZ_outside g _ (fun hin => hk (hS k0 (by omega) (by omega))), mul_zero]
  · rw [if_neg hpar]
    apply Finset.sum_eq_zero
    intro k _
    have : ¬ ((a:Int) = 2*k + 1 - u) := by omega
    rw [if_neg this]

/-- Perfect reconstruction on the integer line: for any `e : ℤ → R`, any output position `T ∈ ℤ` and
any finite set `S` of level indices containing the support of the synthesis taps at `T`. -/
theorem pr_line (h0 h1 g0 g1 : List R) (e : Int → R) (S : Finset Int) (T : Int) (hL : 2 ≤ h0.length)
    (hh1 : h1.length = h0.length) (hg0 : g0.length = h0.length) (hg1 : g1.length = h0.length)
    (hpr : PRBank h0 h1 g0 g1)
    (hS : ∀ k : Int, 0 ≤ T + h0.length - 2 - 2*k → T + h0.length - 2 - 2*k < h0.length → k ∈ S) :
    ∑ k ∈ S,
      ((∑ j ∈ range h0.length, getN h0 j * e (2*k + 1 - (j:Int))) * getZ g0 (T + h0.length - 2 - 2*k)
       + (∑ j ∈ range h0.length, getN h1 j * e (2*k + 1 - (j:Int))) * getZ g1 (T + h0.length - 2 - 2*k))
      = e T := by
  classical
  set S' := S.filter (fun k => 0 ≤ T + h0.length - 2 - 2*k ∧ T + h0.length - 2 - 2*k < h0.length) with hS'
  have hsub : ∑ k ∈ S,
      ((∑ j ∈ range h0.length, getN h0 j * e (2*k + 1 - (j:Int))) * getZ g0 (T + h0.length - 2 - 2*k)
       + (∑ j ∈ range h0.length, getN h1 j * e (2*k + 1 - (j:Int))) * getZ g1 (T + h0.length - 2 - 2*k))
      = ∑ k ∈ S',
      ((∑ j ∈ range h0.length, getN h0 j * e (2*k + 1 - (j:Int))) * getZ g0 (T + h0.length - 2 - 2*k)
       + (∑ j ∈ range h0.length, getN h1 j * e (2*k + 1 - (j:Int))) * getZ g1 (T + h0.length - 2 - 2*k)) := by
    symm
    apply Finset.sum_subset (Finset.filter_subset _ _)
    intro k hk hnk
    have hout : ¬ (0 ≤ T + h0.length - 2 - 2*k ∧ T + h0.length - 2 - 2*k < h0.length) := by
      intro hc; apply hnk; rw [Finset.mem_filter]; exact ⟨hk, hc⟩
    rw [getZ_outside g0 _ (by rw [hg0]; exact hout), getZ_outside g1 _ (by rw [hg1]; exact hout)]
    ring
  rw [hsub]
  have hS2 : ∀ k : Int, 0 ≤ T + h0.length - 2 - 2*k → T + h0.length - 2 - 2*k < h0.length → k ∈ S' := by
    intro k a b; rw [Finset.mem_filter]; exact ⟨hS k a b, a, b⟩
  set W : Finset Int := Finset.Ico (T - (h0.length:Int)) (T + h0.length) with hWdef
  have hwin : ∀ (h : List R), h.length = h0.length → ∀ k ∈ S',
      ∑ j ∈ range h0.length, getN h j * e (2*k + 1 - (j:Int))
        = ∑ u ∈ W, e u * getZ h (2*k + 1 - u) := by
    intro h hh k hk
    rw [Finset.mem_filter] at hk
    rw [← hh]
    apply sum_taps_window
    intro j hj
    rw [hWdef, Finset.mem_Ico]; omega
  have step1 : ∀ k ∈ S',
      ((∑ j ∈ range h0.length, getN h0 j * e (2*k + 1 - (j:Int))) * getZ g0 (T + h0.length - 2 - 2*k)
       + (∑ j ∈ range h0.length, getN h1 j * e (2*k + 1 - (j:Int))) * getZ g1 (T + h0.length - 2 - 2*k))
      = ∑ u ∈ W, e u *
          (getZ h0 (2*k + 1 - u) * getZ g0 (T + h0.length - 2 - 2*k)
           + getZ h1 (2*k + 1 - u) * getZ g1 (T + h0.length - 2 - 2*k)) := by
    intro k hk
    rw [hwin h0 rfl k hk, hwin h1 hh1 k hk, Finset.sum_mul, Finset.sum_mul, ← Finset.sum_add_distrib]
    apply Finset.sum_congr rfl; intro u _; ring
  rw [Finset.sum_congr rfl step1, Finset.sum_comm]
  have step2 : ∀ u ∈ W,
      ∑ k ∈ S', e u *
          (getZ h0 (2*k + 1 - u) * getZ g0 (T + h0.length - 2 - 2*k)
           + getZ h1 (2*k + 1 - u) * getZ g1 (T + h0.length - 2 - 2*k))
      = e u * (if (T - u) = 0 then 1 else 0) := by
    intro u _
    rw [← Finset.mul_sum, Finset.sum_add_distrib]
    obtain ⟨p, hp2, hp⟩ : ∃ p : Nat, p < 2 ∧ (p:Int) = (u + 1) % 2 := ⟨((u + 1) % 2).toNat, by omega, by omega⟩
    have k1 := kernel_reindex_set h1 g1 S' u T p hp (by rw [hg1, hh1]) (by rw [hh1]; exact hS2)
    rw [hh1] at k1
    rw [kernel_reindex_set h0 g0 S' u T p hp hg0 hS2, k1, ← Finset.sum_add_distrib,
      ← prbank_all_lags h0 h1 g0 g1 (Nat.le_of_succ_le hL) hg0 hg1 hpr p hp2 (T - u)]
    congr 1
    apply Finset.sum_congr rfl; intro a _
    by_cases hc : a % 2 = p
    · rw [if_pos hc, if_pos hc, if_pos hc]
    · rw [if_neg hc, if_neg hc, if_neg hc, add_zero]
  rw [Finset.sum_congr rfl step2]
  have htW : T ∈ W := by rw [hWdef, Finset.mem_Ico]; omega
  rw [Finset.sum_eq_single_of_mem T htW]
  · simp
  · intro u _ hne
    have : ¬ (T - u = 0) := by omega
    rw [if_neg this]; ring

end WV
