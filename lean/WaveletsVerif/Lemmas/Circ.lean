/-
  Circular (periodization) filter banks, in PyWavelets' formulas `Spec.dwt`, `Spec.idwt`: at an even signal length and an
  even filter length the synthesis with the reversed analysis filters is the transpose of the analysis
  (`per_synthesis_is_transpose`), by re-indexing sums over `ℤ/N`.  Used by C05 (the backward pass in periodization is the
  adjoint) and C17 (orthogonality).
-/
import WaveletsVerif.Lemmas.PR
import WaveletsVerif.Spec.Pywt
import Mathlib.Algebra.BigOperators.Intervals
namespace WV
open Finset
variable {R : Type} [CommRing R]

/-- periodization yields `⌈N/2⌉` coefficients: an odd-length signal is first extended by its last sample -/
theorem length_dwt_per (h x : List R) : (Spec.dwt .periodization h x).length = (x.length + x.length % 2) / 2 := by
  simp only [Spec.dwt, length_tab]
  split
  · rw [List.length_append, List.length_singleton]; omega
  · omega

theorem length_idwt_per (g0 g1 lo hi : List R) : (Spec.idwt .periodization g0 g1 lo hi).length = 2 * lo.length := by
  simp only [Spec.idwt, length_tab]

theorem getN_dwt_per_even (h x : List R) (n : Nat) (hx : x.length = 2 * n) (k : Nat) (hk : k < n) :
    getN (Spec.dwt .periodization h x) k = ∑ j ∈ range h.length,
      getN h j * getZ x ((2*(k:Int) + ((h.length/2 : Nat) : Int) - j) % ((2*n : Nat) : Int)) := by
  have hodd : ¬ (x.length % 2 = 1) := by omega
  simp only [Spec.dwt, hodd, if_false]
  rw [hx, Nat.mul_div_cancel_left n Nat.two_pos, getN_tab, if_pos hk, sumN_eq]

theorem dwt_per_odd (h x : List R) (hodd : x.length % 2 = 1) :
    Spec.dwt .periodization h x = Spec.dwt .periodization h (x ++ [getN x (x.length - 1)]) := by
  have hodd' : ¬ ((x ++ [getN x (x.length - 1)]).length % 2 = 1) := by
    rw [List.length_append, List.length_singleton]; omega
  simp only [Spec.dwt, hodd, hodd', if_true, if_false]

/-- `Σ_{t<M} e(t)·w̃(t−a) = Σ_i w_i·e(a+i)` when every index read lies in `[0, M)` -/
theorem sum_taps_pos (w : List R) (e : Int → R) (a : Int) (M : Nat)
    (hW : ∀ i < w.length, 0 ≤ a + (i:Int) ∧ a + (i:Int) < M) :
    ∑ t ∈ range M, e (t:Int) * getZ w ((t:Int) - a) = ∑ i ∈ range w.length, getN w i * e (a + (i:Int)) := by
  -- `reindex` against the table of `e` on `[0, M)`, which every tap reads inside
  calc ∑ t ∈ range M, e (t:Int) * getZ w ((t:Int) - a)
      = ∑ t ∈ range (tab M fun t => e (t:Int)).length, getN (tab M fun t => e (t:Int)) t * getZ w ((t:Int) - a) := by
        rw [length_tab]
        exact Finset.sum_congr rfl fun t ht => by rw [getN_tab_of_lt _ _ t (mem_range.mp ht)]
    _ = ∑ i ∈ range w.length, getN w i * getZ (tab M fun t => e (t:Int)) ((i:Int) + a) := (reindex w _ a).symm
    _ = ∑ i ∈ range w.length, getN w i * e (a + (i:Int)) := by
        apply Finset.sum_congr rfl; intro i hi
        obtain ⟨h0, h1⟩ := hW i (mem_range.mp hi)
        rw [getZ_tab, if_pos ⟨by omega, by omega⟩, Int.toNat_of_nonneg (by omega), add_comm]

theorem sum_blocks (Rr N : Nat) (G : Nat → R) :
    ∑ r ∈ range Rr, ∑ v ∈ range N, G (v + r * N) = ∑ t ∈ range (Rr * N), G t := by
  induction Rr with
  | zero => simp
  | succ m ih =>
    rw [Finset.sum_range_succ, ih, Nat.succ_mul, Finset.sum_range_add]
    congr 1
    apply Finset.sum_congr rfl; intro v _
    congr 1; ring

theorem sum_rot (N c : Nat) (hN : 0 < N) (H : Nat → R) :
    ∑ u ∈ range N, H ((u + c) % N) = ∑ v ∈ range N, H v := by
  have key : ∀ x : Nat, x + c + (N - c % N) = x + (c / N + 1) * N := by
    intro x
    have hc := Nat.mod_lt c hN
    have h1 := Nat.div_add_mod c N
    have h2 : (c / N + 1) * N = N * (c / N) + N := by ring
    rw [h2]
    generalize N * (c / N) = q at *
    omega
  apply Finset.sum_nbij' (fun u => (u + c) % N) (fun v => (v + (N - c % N)) % N)
  · intro u hu; simp; exact Nat.mod_lt _ hN
  · intro v hv; simp; exact Nat.mod_lt _ hN
  · intro u hu
    rw [Nat.add_mod, Nat.mod_mod, ← Nat.add_mod, key u, Nat.add_mul_mod_self_right, Nat.mod_eq_of_lt (mem_range.mp hu)]
  · intro v hv
    rw [Nat.add_mod, Nat.mod_mod, ← Nat.add_mod, Nat.add_right_comm, key v, Nat.add_mul_mod_self_right,
      Nat.mod_eq_of_lt (mem_range.mp hv)]
  · intro u _; rfl

theorem getZ_emod_of_lt (x : List R) (a : Int) (i : Nat) (hi : i < x.length) (ha : a = i) :
    getZ x (a % (x.length : Int)) = getN x i := by
  rw [ha, Int.emod_eq_of_lt (Int.natCast_nonneg i) (Int.ofNat_lt.mpr hi), ← getN_eq_getZ]

/-- undoing the rotation by `c` in `ℤ/N` -/
theorem rot_sub_emod (u c N : Nat) (hu : u < N) : ((((u + c) % N : Nat) : Int) - (c:Int)) % (N:Int) = (u:Int) := by
  rw [Int.natCast_mod, Int.emod_sub_emod, Nat.cast_add, add_sub_cancel_right]
  exact Int.emod_eq_of_lt (Int.natCast_nonneg u) (Int.ofNat_lt.mpr hu)

/-- the periodization synthesis of PyWavelets, written without its range guard -/
theorem idwt_per_get (g0 g1 lo hi : List R) (n : Nat) (hn : 1 ≤ n) (hlo : lo.length = n)
    (hL : 2 ≤ g0.length) (hg1 : g1.length = g0.length) (u : Nat) (hu : u < 2 * n) :
    getN (Spec.idwt .periodization g0 g1 lo hi) u
      = ∑ r ∈ range ((2*n + g0.length - 2) / (2*n) + 1), ∑ k ∈ range n,
          (getN lo k * getZ g0 ((((u + (g0.length/2 - 1)) % (2*n) : Nat) : Int) + (r:Int) * ((2*n : Nat) : Int) - 2 * (k:Int))
           + getN hi k * getZ g1 ((((u + (g0.length/2 - 1)) % (2*n) : Nat) : Int) + (r:Int) * ((2*n : Nat) : Int) - 2 * (k:Int))) := by
  simp only [Spec.idwt, hlo]
  rw [getN_tab, if_pos hu, sumN_eq]
  have hu' : ((u:Int) + ((g0.length/2 : Nat) : Int) - 1) % ((2*n : Nat) : Int) = (((u + (g0.length/2 - 1)) % (2*n) : Nat) : Int) := by
    have : (u:Int) + ((g0.length/2 : Nat) : Int) - 1 = ((u + (g0.length/2 - 1) : Nat) : Int) := by omega
    rw [this, Int.natCast_mod]
  rw [hu']
  set v : Nat := (u + (g0.length/2 - 1)) % (2*n) with hv
  have hvN : v < 2 * n := Nat.mod_lt _ (Nat.mul_pos Nat.two_pos hn)
  apply Finset.sum_congr rfl; intro r _
  have hrN : (0:Int) ≤ (r:Int) * ((2*n : Nat) : Int) := Int.mul_nonneg (Int.natCast_nonneg r) (Int.natCast_nonneg _)
  by_cases hc : (v:Int) + (r:Int) * ((2*n : Nat) : Int) < 0 ∨ ((2*n + g0.length - 2 : Nat) : Int) ≤ (v:Int) + (r:Int) * ((2*n : Nat) : Int)
  · rw [if_pos hc]
    symm
    apply Finset.sum_eq_zero
    intro k hk
    have hk' : k < n := by simpa using hk
    have hge : (g0.length:Int) ≤ (v:Int) + (r:Int) * ((2*n : Nat) : Int) - 2 * (k:Int) := by
      rcases hc with hc | hc
      · omega
      · omega
    rw [getZ_of_ge g0 _ hge, getZ_of_ge g1 _ (by rw [hg1]; exact hge)]
    ring
  · rw [if_neg hc, sumN_eq]

/-- one band of the circular adjointness: the synthesis with the REVERSED analysis filter is the transpose of the
circular analysis -/
theorem per_band_adjoint (w x lo : List R) (n : Nat) (hn : 1 ≤ n) (hL : 2 ≤ w.length)
    (hLe : w.length % 2 = 0) :
    ∑ u ∈ range (2*n), getN x u * (∑ r ∈ range ((2*n + w.length - 2) / (2*n) + 1), ∑ k ∈ range n,
        getN lo k * getZ w.reverse ((((u + (w.length/2 - 1)) % (2*n) : Nat) : Int) + (r:Int) * ((2*n : Nat) : Int) - 2 * (k:Int)))
      = ∑ k ∈ range n, getN lo k * (∑ j ∈ range w.length,
          getN w j * getZ x ((2*(k:Int) + ((w.length/2 : Nat) : Int) - j) % ((2*n : Nat) : Int))) := by
  -- pull `Σ_k` out; for fixed `k`, `sum_rot` (rotation of `ℤ/N` by `c = L/2 − 1`) and `sum_blocks` (the wraps `r`) merge the sums into
  -- `Σ_{t < Rr·N} x[(t − c) mod N]·w̃rev(t − 2k)`, which `sum_taps_pos` reads as a sum over the taps
  obtain ⟨m, hm⟩ : ∃ m, w.length = 2 * m := Nat.dvd_of_mod_eq_zero hLe
  clear hLe
  rw [show w.length / 2 = m by rw [hm, Nat.mul_div_cancel_left m Nat.two_pos]]
  set N := 2 * n with hN
  set L := w.length with hLdef
  set c := m - 1 with hc
  set Rr := (N + L - 2) / N + 1 with hR
  have hNpos : 0 < N := Nat.mul_pos Nat.two_pos hn
  have lhs : ∑ u ∈ range N, getN x u * (∑ r ∈ range Rr, ∑ k ∈ range n,
        getN lo k * getZ w.reverse ((((u + c) % N : Nat) : Int) + (r:Int) * (N:Int) - 2 * (k:Int)))
      = ∑ k ∈ range n, getN lo k * (∑ u ∈ range N, ∑ r ∈ range Rr,
          getN x u * getZ w.reverse ((((u + c) % N : Nat) : Int) + (r:Int) * (N:Int) - 2 * (k:Int))) := by
    have e1 : ∀ u ∈ range N, getN x u * (∑ r ∈ range Rr, ∑ k ∈ range n,
          getN lo k * getZ w.reverse ((((u + c) % N : Nat) : Int) + (r:Int) * (N:Int) - 2 * (k:Int)))
        = ∑ k ∈ range n, ∑ r ∈ range Rr, getN lo k * (getN x u * getZ w.reverse ((((u + c) % N : Nat) : Int) + (r:Int) * (N:Int) - 2 * (k:Int))) := by
      intro u _
      rw [Finset.sum_comm, Finset.mul_sum]
      apply Finset.sum_congr rfl; intro k _
      rw [Finset.mul_sum]
      apply Finset.sum_congr rfl; intro r _; ring
    rw [Finset.sum_congr rfl e1, Finset.sum_comm]
    apply Finset.sum_congr rfl; intro k _
    rw [Finset.mul_sum]
    apply Finset.sum_congr rfl; intro u _
    rw [Finset.mul_sum]
  rw [lhs]
  apply Finset.sum_congr rfl; intro k hk
  have hk' : k < n := Finset.mem_range.mp hk
  refine congrArg (getN lo k * ·) ?_
  set e : Int → R := fun t => getZ x ((t - (c:Int)) % (N:Int)) with he
  set G : Nat → R := fun t => e (t:Int) * getZ w.reverse ((t:Int) - 2 * (k:Int)) with hG
  have hterm : ∀ u ∈ range N, ∑ r ∈ range Rr, getN x u * getZ w.reverse ((((u + c) % N : Nat) : Int) + (r:Int) * (N:Int) - 2 * (k:Int))
      = ∑ r ∈ range Rr, G ((u + c) % N + r * N) := by
    intro u hu
    have hu' : u < N := by simpa using hu
    apply Finset.sum_congr rfl; intro r _
    simp only [hG, he]
    have h1 : ((((u + c) % N + r * N : Nat) : Int) - (c:Int)) % (N:Int) = (u:Int) := by
      rw [show ((((u + c) % N + r * N : Nat) : Int) - (c:Int)) = ((((u + c) % N : Nat) : Int) - c) + (r:Int) * N by
          push_cast; ring,
        Int.add_mul_emod_self_right, rot_sub_emod u c N hu']
    rw [h1, ← getN_eq_getZ]
    have h3 : (((u + c) % N + r * N : Nat) : Int) = (((u + c) % N : Nat) : Int) + (r:Int) * (N:Int) := by push_cast; ring
    rw [h3]
  rw [Finset.sum_congr rfl hterm]
  rw [sum_rot N c hNpos (fun v => ∑ r ∈ range Rr, G (v + r * N)), Finset.sum_comm, sum_blocks]
  have hwin : ∀ i < w.reverse.length, 0 ≤ 2 * (k:Int) + (i:Int) ∧ 2 * (k:Int) + (i:Int) < ((Rr * N : Nat) : Int) := by
    intro i hi
    rw [List.length_reverse] at hi
    have hRN : N + L - 2 < Rr * N := by
      have := Nat.lt_div_mul_add (a := N + L - 2) hNpos
      rw [hR, Nat.add_mul, Nat.one_mul]; exact this
    constructor
    · omega
    · have : ((Rr * N : Nat) : Int) > ((N + L - 2 : Nat) : Int) := by exact_mod_cast hRN
      omega
  have := sum_taps_pos w.reverse e (2 * (k:Int)) (Rr * N) hwin
  simp only [hG]
  rw [this, List.length_reverse]
  rw [← Finset.sum_range_reflect]
  apply Finset.sum_congr rfl; intro j hj
  have hj' : j < L := by simpa using hj
  rw [getN_reverse w j (by omega)]
  simp only [he]
  rw [show 2 * (k:Int) + ((w.length - 1 - j : Nat) : Int) - (c:Int) = 2 * (k:Int) + (m:Int) - j by omega]

/-- The inverse is the transpose (any even filter length ≥ 2, any even signal length ≥ 2, no condition on the
filter values): PyWavelets' periodization synthesis with the REVERSED analysis filters is the adjoint of the
periodization analysis, `⟨x, S(lo,hi)⟩ = ⟨A₀x, lo⟩ + ⟨A₁x, hi⟩` for all `x, lo, hi`. -/
theorem per_synthesis_is_transpose (h0 h1 x lo hi : List R) (n : Nat) (hn : 1 ≤ n) (hx : x.length = 2 * n)
    (hlo : lo.length = n) (hL : 2 ≤ h0.length) (hLe : h0.length % 2 = 0) (hh1 : h1.length = h0.length) :
    ∑ u ∈ range (2*n), getN x u * getN (Spec.idwt .periodization h0.reverse h1.reverse lo hi) u
      = ∑ k ∈ range n, getN lo k * getN (Spec.dwt .periodization h0 x) k
        + ∑ k ∈ range n, getN hi k * getN (Spec.dwt .periodization h1 x) k := by
  have hdw : ∀ (h : List R), h.length = h0.length → ∀ k < n,
      getN (Spec.dwt .periodization h x) k = ∑ j ∈ range h0.length,
        getN h j * getZ x ((2*(k:Int) + ((h0.length/2 : Nat) : Int) - j) % ((2*n : Nat) : Int)) := by
    intro h hh k hk
    rw [getN_dwt_per_even h x n hx k hk, hh]
  have hsplit : ∀ u ∈ range (2*n), getN x u * getN (Spec.idwt .periodization h0.reverse h1.reverse lo hi) u
      = getN x u * (∑ r ∈ range ((2*n + h0.length - 2) / (2*n) + 1), ∑ k ∈ range n,
          getN lo k * getZ h0.reverse ((((u + (h0.length/2 - 1)) % (2*n) : Nat) : Int) + (r:Int) * ((2*n : Nat) : Int) - 2 * (k:Int)))
        + getN x u * (∑ r ∈ range ((2*n + h0.length - 2) / (2*n) + 1), ∑ k ∈ range n,
          getN hi k * getZ h1.reverse ((((u + (h0.length/2 - 1)) % (2*n) : Nat) : Int) + (r:Int) * ((2*n : Nat) : Int) - 2 * (k:Int))) := by
    intro u hu
    have hu' : u < 2 * n := Finset.mem_range.mp hu
    rw [idwt_per_get h0.reverse h1.reverse lo hi n hn hlo (by rw [List.length_reverse]; exact hL)
      (by rw [List.length_reverse, List.length_reverse]; exact hh1) u hu']
    simp only [List.length_reverse]
    rw [← mul_add]
    refine congrArg (getN x u * ·) ?_
    rw [← Finset.sum_add_distrib]
    apply Finset.sum_congr rfl; intro r _
    rw [← Finset.sum_add_distrib]
  rw [Finset.sum_congr rfl hsplit, Finset.sum_add_distrib]
  have b0 := per_band_adjoint h0 x lo n hn hL hLe
  have b1 := per_band_adjoint h1 x hi n hn (by omega) (by omega)
  rw [hh1] at b1
  rw [b0, b1]
  refine congrArg₂ (· + ·) ?_ ?_
  · apply Finset.sum_congr rfl; intro k hk
    rw [hdw h0 rfl k (Finset.mem_range.mp hk)]
  · apply Finset.sum_congr rfl; intro k hk
    rw [hdw h1 hh1 k (Finset.mem_range.mp hk)]

end WV
