/-
  Shapes of the point-wise operations of the scattering layers (`Model/Scat`): the bias subtraction keeps the shape of its
  argument, the smoothed magnitudes have the shape of the real part of the (first) band.  Helper lemmas only.
-/
import WaveletsVerif.Lemmas.Img
import WaveletsVerif.Model.Scat
namespace WV
open WV.C04
variable {R : Type} [CommRing R]

theorem subBias_rect (m : MagOps R) (x : Img R) (H W : Nat) (hx : Rect x H W) : Rect (subBias m x) H W :=
  alongW_rect_of_length _ x H W W hx fun c hc => by rw [List.length_map, hc]

theorem magR_rect (m : MagOps R) (c : Cplx R) (H W : Nat) (hl : c.1.length = H) (hw : Img.width c.1 = W) :
    Rect (magR m c) H W := by
  unfold magR imap2
  rw [hl, hw]
  exact tab2_rect _ _ _

theorem magR3_rect (m : MagOps R) (c0 c1 c2 : Cplx R) (H W : Nat) (hl : c0.1.length = H) (hw : Img.width c0.1 = W) :
    Rect (magR3 m c0 c1 c2) H W := by
  unfold magR3
  rw [hl, hw]
  exact tab2_rect _ _ _

end WV
