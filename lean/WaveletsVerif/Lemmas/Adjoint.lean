/-
  Inner-product (adjointness) lemmas: zero-extended reads as indicator sums, and the re-indexing `reindex` behind
  "the transpose of a strided correlation is a transposed convolution" (C05, the backward pass of `afb1d` is the adjoint).
-/
import WaveletsVerif.Lemmas.Basic
namespace WV
open Finset
variable {R : Type} [CommRing R]

theorem getZ_eq_sum (x : List R) (t : Int) :
    getZ x t = ∑ i ∈ range x.length, if (i:Int) = t then getN x i else 0 := by
  by_cases h : 0 ≤ t ∧ t < x.length
  · obtain ⟨h0, h1⟩ := h
    have hm : t.toNat ∈ range x.length := by simp; omega
    rw [Finset.sum_eq_single_of_mem t.toNat hm]
    · have : ((t.toNat : Nat) : Int) = t := by omega
      simp [this, getZ, getN, h0]
    · intro b _ hb
      have : ¬ ((b:Int) = t) := by omega
      simp [this]
  · rw [getZ_outside x t h]
    symm
    apply Finset.sum_eq_zero
    intro i hi
    have : i < x.length := by simpa using hi
    have : ¬ ((i:Int) = t) := by omega
    simp [this]

/-- a sum against zero-extended reads of `h`, grouped by the tap read -/
theorem sum_mul_getZ {ι : Type} (h : List R) (S : Finset ι) (e : ι → R) (f : ι → Int) :
    ∑ u ∈ S, e u * getZ h (f u) = ∑ j ∈ range h.length, getN h j * ∑ u ∈ S, if f u = (j:Int) then e u else 0 := by
  have h1 : ∀ u ∈ S, e u * getZ h (f u) = ∑ j ∈ range h.length, if f u = (j:Int) then getN h j * e u else 0 := by
    intro u _
    rw [getZ_eq_sum, Finset.mul_sum]
    apply Finset.sum_congr rfl; intro j _
    by_cases hc : (j:Int) = f u
    · rw [if_pos hc, if_pos hc.symm]; ring
    · rw [if_neg hc, if_neg (fun h' => hc h'.symm), mul_zero]
  rw [Finset.sum_congr rfl h1, Finset.sum_comm]
  apply Finset.sum_congr rfl; intro j _
  rw [Finset.mul_sum]
  apply Finset.sum_congr rfl; intro u _
  rw [mul_ite, mul_zero]

/-- `Σ_j w_j · x̃(j + c) = Σ_i x_i · w̃(i − c)` (both zero-extended) -/
theorem reindex (w x : List R) (c : Int) :
    ∑ j ∈ range w.length, getN w j * getZ x ((j:Int) + c)
      = ∑ i ∈ range x.length, getN x i * getZ w ((i:Int) - c) := by
  rw [sum_mul_getZ w (range x.length) (getN x) (fun i => (i:Int) - c)]
  apply Finset.sum_congr rfl; intro j _
  rw [getZ_eq_sum]
  congr 1
  apply Finset.sum_congr rfl; intro i _
  exact if_congr (by omega) rfl rfl

end WV
