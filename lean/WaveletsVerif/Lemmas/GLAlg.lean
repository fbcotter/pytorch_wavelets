/-
  Algebra of gather-linear column operators (`C03P.GL`): matrix form, composition, and the elementary stages of the
  filter banks (index gathers and zero padding, odd-length extension, Python roll, strided correlation, wrap-around
  fold, crop).
  `GL` is defined here in namespace `WV.C03P`: it occurs in the statements of the registered theorems of property C03
  (`Properties/C03P.lean`), which fix its full name `WV.C03P.GL`.
-/
import Mathlib.Data.List.GetD
import WaveletsVerif.Lemmas.Basic

namespace WV.C03P
open Finset
variable {R : Type} [CommRing R]

/-- a gather-linear operator from length `nin` to length `nout` -/
def GL (F : List R → List R) (nin nout : Nat) : Prop :=
  ∃ (K : Nat) (coef : Nat → Nat → R) (idx : Nat → Nat → Nat), (∀ i < nout, ∀ j < K, idx i j < nin) ∧
    ∀ c : List R, c.length = nin → F c = tab nout fun i => ∑ j ∈ range K, coef i j * getN c (idx i j)

end WV.C03P

namespace WV.GLA
open Finset WV WV.C03P
variable {R : Type} [CommRing R]

/-- matrix form of a gather-linear operator -/
def ML (F : List R → List R) (nin nout : Nat) : Prop :=
  ∃ M : Nat → Nat → R, ∀ c : List R, c.length = nin → F c = tab nout fun i => ∑ j ∈ range nin, M i j * getN c j

theorem GL.toML {F : List R → List R} {nin nout : Nat} (h : GL F nin nout) : ML F nin nout := by
  obtain ⟨K, coef, idx, hidx, hF⟩ := h
  refine ⟨fun i j => ∑ t ∈ range K, if idx i t = j then coef i t else 0, ?_⟩
  intro c hc
  rw [hF c hc]
  apply tab_ext rfl; intro i hi
  have : ∀ j ∈ range nin, (∑ t ∈ range K, if idx i t = j then coef i t else 0) * getN c j
      = ∑ t ∈ range K, if idx i t = j then coef i t * getN c (idx i t) else 0 := by
    intro j _
    rw [Finset.sum_mul]
    apply Finset.sum_congr rfl; intro t _
    split
    · next h => rw [h]
    · rw [zero_mul]
  rw [Finset.sum_congr rfl this, Finset.sum_comm]
  apply Finset.sum_congr rfl; intro t ht
  have ht' : t < K := by simpa using ht
  rw [Finset.sum_ite_eq, if_pos (by simpa using hidx i hi t ht')]

theorem ML.toGL {F : List R → List R} {nin nout : Nat} (h : ML F nin nout) : GL F nin nout := by
  obtain ⟨M, hF⟩ := h
  exact ⟨nin, M, fun _ j => j, fun _ _ j hj => hj, hF⟩

theorem ML.comp {F G : List R → List R} {n m k : Nat} (hF : ML F m k) (hG : ML G n m) :
    ML (fun c => F (G c)) n k := by
  obtain ⟨A, hA⟩ := hF
  obtain ⟨B, hB⟩ := hG
  refine ⟨fun i j => ∑ t ∈ range m, A i t * B t j, ?_⟩
  intro c hc
  have hGl : (G c).length = m := by rw [hB c hc, length_tab]
  show F (G c) = _
  rw [hA (G c) hGl]
  apply tab_ext rfl; intro i _
  have : ∀ t ∈ range m, A i t * getN (G c) t = ∑ j ∈ range n, A i t * B t j * getN c j := by
    intro t ht
    have ht' : t < m := by simpa using ht
    rw [hB c hc, getN_tab, if_pos ht', Finset.mul_sum]
    apply Finset.sum_congr rfl; intro j _; ring
  rw [Finset.sum_congr rfl this, Finset.sum_comm]
  apply Finset.sum_congr rfl; intro j _
  rw [Finset.sum_mul]

theorem GL.comp {F G : List R → List R} {n m k : Nat} (hF : GL F m k) (hG : GL G n m) :
    GL (fun c => F (G c)) n k := (ML.comp (GL.toML hF) (GL.toML hG)).toGL

theorem GL.congr {F F' : List R → List R} {n m : Nat} (hF : GL F n m) (h : ∀ c : List R, c.length = n → F' c = F c) :
    GL F' n m := by
  obtain ⟨K, coef, idx, hidx, hF⟩ := hF
  exact ⟨K, coef, idx, hidx, fun c hc => by rw [h c hc, hF c hc]⟩

/-- a gather-linear operator is additive -/
theorem GL.map_vadd {F : List R → List R} {n m : Nat} (hF : GL F n m) (a b : List R) (ha : a.length = n) (hb : b.length = n) :
    F (vadd a b) = vadd (F a) (F b) := by
  obtain ⟨K, coef, idx, hidx, hFe⟩ := hF
  have la : (F a).length = m := by rw [hFe a ha, length_tab]
  have hab : (vadd a b).length = n := by simp [vadd, ha]
  rw [hFe _ hab]
  unfold vadd
  rw [la]
  apply tab_ext rfl; intro i hi
  rw [hFe a ha, hFe b hb, getN_tab, getN_tab, if_pos hi, if_pos hi, ← Finset.sum_add_distrib]
  apply Finset.sum_congr rfl; intro j hj
  have hj' : j < K := by simpa using hj
  have := hidx i hi j hj'
  show coef i j * getN (vadd a b) (idx i j) = _
  rw [getN_vadd _ _ _ (by omega)]; ring

/-- a pure gather (one source sample per output sample, or none) -/
theorem GL_gather (F : List R → List R) (n m : Nat) (hn : 1 ≤ n) (ok : Nat → Bool) (src : Nat → Nat)
    (hF : ∀ c : List R, c.length = n → F c = tab m fun i => if ok i then getN c (src i) else 0)
    (hsrc : ∀ i < m, ok i = true → src i < n) : GL F n m := by
  refine ⟨1, fun i _ => if ok i then 1 else 0, fun i _ => if ok i then src i else 0, ?_, ?_⟩
  · intro i hi j _
    by_cases h : ok i = true
    · simp only [h, if_true]; exact hsrc i hi h
    · simp only [h]; simp; omega
  · intro c hc
    rw [hF c hc]
    apply tab_ext rfl; intro i _
    rw [Finset.sum_range_one]
    by_cases h : ok i = true
    · simp [h]
    · simp [h]

/-- a gather through any index map (`mypad`) reads one sample, or none where the map leaves the signal -/
theorem GL_padIdx (idx : Int → Int → Int) (l r n : Nat) (hn : 1 ≤ n) :
    GL (fun c : List R => padIdx idx c l r) n (l + n + r) := by
  apply GL_gather _ n _ hn (fun i => decide (0 ≤ idx n ((i:Int) - l) ∧ idx n ((i:Int) - l) < n))
    (fun i => (idx n ((i:Int) - l)).toNat)
  · intro c hc
    show padIdx idx c l r = _
    unfold padIdx
    rw [hc]
    apply tab_ext rfl; intro i _
    rw [getZ_eq_ite, hc]
    simp only [decide_eq_true_eq]
  · intro i _ h
    have := of_decide_eq_true h
    omega

theorem GL_zeroPad (l r n : Nat) (hn : 1 ≤ n) : GL (fun c : List R => zeroPad c l r) n (l + n + r) :=
  GL.congr (GL_padIdx (fun _ z => z) l r n hn) (fun _ _ => rfl)

/-! ### polymorphic list facts: Python roll and the odd-length extension are gathers -/

/-- odd-length extension by repeating the last sample (`torch.cat((x, x[-1:]))`) -/
def ext1 {α : Type} (c : List α) : List α := if c.length % 2 = 1 then c ++ sliceFrom c (-1) else c

/-- the split point of `roll(x, n)` on a sequence of length `N` -/
def rollD (N : Nat) (n : Int) : Nat := pyBound N (-(if n < 0 then (N : Int) + n else n))

theorem rollD_le (N : Nat) (n : Int) : rollD N n ≤ N := pyBound_le _ _

theorem rollPy_eq {α : Type} (x : List α) (n : Int) :
    rollPy x n = x.drop (rollD x.length n) ++ x.take (rollD x.length n) := by
  unfold rollPy sliceFrom sliceTo rollD
  rfl

/-- source index of sample `m` of `roll(x, n)` -/
def rollIdx (N : Nat) (n : Int) (m : Nat) : Nat :=
  if m < N - rollD N n then m + rollD N n else m - (N - rollD N n)

theorem rollIdx_lt (N : Nat) (n : Int) (m : Nat) (hm : m < N) : rollIdx N n m < N := by
  have := rollD_le N n
  unfold rollIdx; split <;> omega

theorem getD_rollPy {α : Type} (x : List α) (n : Int) (d : α) (m : Nat) (hm : m < x.length) :
    (rollPy x n).getD m d = x.getD (rollIdx x.length n m) d := by
  rw [rollPy_eq]
  exact getD_drop_append_take x _ m d (rollD_le x.length n) hm

theorem ext1_length {α : Type} (x : List α) (hN : 1 ≤ x.length) : (ext1 x).length = x.length + x.length % 2 := by
  unfold ext1 sliceFrom
  split
  · rw [List.length_append, List.length_drop, pyBound_neg_one _ hN]; omega
  · omega

theorem getD_ext1 {α : Type} (x : List α) (d : α) (m : Nat) (hN : 1 ≤ x.length) (hm : m < x.length + x.length % 2) :
    (ext1 x).getD m d = x.getD (min m (x.length - 1)) d := by
  unfold ext1 sliceFrom
  split
  · by_cases h1 : m < x.length
    · rw [List.getD_append _ _ _ _ h1, Nat.min_eq_left (by omega)]
    · have hm' : m = x.length := by omega
      rw [List.getD_append_right _ _ _ _ (by omega), pyBound_neg_one _ hN, hm', Nat.sub_self, Nat.min_eq_right (by omega)]
      simp [List.getD_eq_getElem?_getD, List.getElem?_drop]
  · rw [Nat.min_eq_left (by omega)]

/-! ### the stages of the periodization banks are gather-linear -/

theorem GL_ext1 (n : Nat) (hn : 1 ≤ n) : GL (ext1 (α := R)) n (n + n % 2) := by
  apply GL_gather _ n _ hn (fun _ => true) (fun i => min i (n - 1))
  · intro c hc
    refine (list_eq_tab_getD _ (n + n % 2) 0 (by rw [ext1_length c (by omega), hc])).trans ?_
    apply tab_ext rfl; intro i hi
    rw [getD_ext1 c 0 i (by omega) (by rw [hc]; exact hi), hc]
    rfl
  · intro i _ _; omega

theorem GL_rollPy (s : Int) (n : Nat) (hn : 1 ≤ n) : GL (fun c : List R => rollPy c s) n n := by
  apply GL_gather _ n n hn (fun _ => true) (fun i => rollIdx n s i)
  · intro c hc
    show rollPy c s = _
    refine (list_eq_tab_getD _ n 0 (by rw [rollPy_length, hc])).trans ?_
    apply tab_ext rfl; intro i hi
    rw [getD_rollPy c s 0 i (by omega), hc]
    rfl
  · intro i hi _; exact rollIdx_lt n s i hi

/-- extension to even length, roll, zero padding: the signal the strided correlation of the periodization bank reads -/
def pre (s : Int) (l r : Nat) (c : List R) : List R := zeroPad (rollPy (ext1 c) s) l r

theorem GL_pre (s : Int) (l r n : Nat) (hn : 1 ≤ n) : GL (pre (R := R) s l r) n (l + (n + n % 2) + r) :=
  GL.congr (GL.comp (GL_zeroPad l r (n + n % 2) (by omega)) (GL.comp (GL_rollPy s (n + n % 2) (by omega)) (GL_ext1 n hn)))
    (fun _ _ => rfl)

theorem pre_length (s : Int) (l r : Nat) (c : List R) (hN : 1 ≤ c.length) :
    (pre s l r c).length = l + (c.length + c.length % 2) + r := by
  unfold pre
  rw [length_zeroPad, rollPy_length, ext1_length c hN]

theorem GL_corr2 (w : List R) (n : Nat) : GL (fun c : List R => corr w c 2 1) n (corrLen n w.length 2 1) := by
  refine ⟨w.length, fun _ j => getN w j, fun k j => 2 * k + j, ?_, ?_⟩
  · intro k hk j hj
    show 2 * k + j < n
    unfold corrLen at hk
    split at hk <;> omega
  · intro c hc
    show corr w c 2 1 = _
    unfold corr
    rw [hc]
    apply tab_ext rfl; intro k _
    rw [sumN_eq]
    apply Finset.sum_congr rfl; intro j _
    simp

theorem GL_convTFull (w : List R) (n : Nat) : GL (fun g : List R => convTFull w g) n (2*(n-1) + w.length) := by
  refine ⟨n, fun i k => getZ w ((i:Int) - 2*k), fun _ k => k, fun _ _ k hk => hk, ?_⟩
  intro g hg
  show convTFull w g = _
  unfold convTFull
  rw [hg]
  apply tab_ext rfl; intro i _
  rw [sumN_eq]
  apply Finset.sum_congr rfl; intro k _
  ring

theorem GL_foldAdd (a b n : Nat) : GL (fun y : List R => foldAdd y a b) n n := by
  refine ⟨2, fun k j => if j = 0 then 1 else (if k < a ∧ b + k < n then 1 else 0),
    fun k j => if j = 0 then k else (if b + k < n then b + k else k), ?_, ?_⟩
  · intro k hk j _
    show (if j = 0 then k else (if b + k < n then b + k else k)) < n
    split_ifs <;> omega
  · intro y hy
    show foldAdd y a b = _
    unfold foldAdd
    rw [hy]
    apply tab_ext rfl; intro k hk
    rw [Finset.sum_range_succ, Finset.sum_range_one]
    simp only [if_true, one_mul, one_ne_zero, if_false]
    by_cases h1 : k < a <;> by_cases h2 : b + k < n
    · simp [h1, h2]
    · simp [h1, h2, getN_of_le y (b + k) (by omega)]
    · simp [h1, h2]
    · simp [h1, h2]

theorem GL_take (m n : Nat) (hm : m ≤ n) (hn : 1 ≤ n) : GL (fun y : List R => y.take m) n m := by
  apply GL_gather _ n m hn (fun _ => true) (fun i => i)
  · intro c hc
    refine (list_eq_tab_getD _ m 0 (by rw [List.length_take, hc]; omega)).trans ?_
    apply tab_ext rfl; intro i hi
    show getN (c.take m) i = if true = true then getN c i else 0
    rw [if_pos rfl, getN_take _ _ _ hi]
  · intro i hi _; omega

end WV.GLA
