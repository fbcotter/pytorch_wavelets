/-
  The stride-2 transposed convolution of an image with a rank-one kernel `a ⊗ b`, pixel by pixel: the kernel read factors
  into the two 1-D reads, so it is the 1-D transposed convolution along the rows and then along the columns; and the sum of
  four of them under gather-linear post-operators per axis, which is the separable synthesis.  Helper lemmas only.
-/
import WaveletsVerif.Lemmas.AlongAxis
namespace WV.GLA
open Finset WV WV.C04 WV.C03P WV.C05D
variable {R : Type} [CommRing R]

theorem getZ_sub_nat (w : List R) (a k : Nat) : getZ w ((a:Int) - 2*k) = if 2*k ≤ a then getN w (a - 2*k) else 0 := by
  by_cases h : 2*k ≤ a
  · rw [if_pos h, getN_eq_getZ]; congr 1; omega
  · rw [if_neg h, getZ_neg]; omega

theorem get2_outer (a b : List R) (u v : Nat) : get2 (outer a b) u v = getN a u * getN b v := by
  unfold outer
  by_cases h : u < a.length ∧ v < b.length
  · exact get2_tab2 _ _ _ u v h.1 h.2
  · rw [get2_tab2_oob _ _ _ u v h]
    by_cases hu : u < a.length
    · rw [getN_of_le b v (by omega), mul_zero]
    · rw [getN_of_le a u (by omega), zero_mul]

theorem kern (gc gr : List R) (a b i j : Nat) :
    (if 2*i ≤ a ∧ 2*j ≤ b then get2 (outer gc gr) (a - 2*i) (b - 2*j) else 0)
      = getZ gc ((a:Int) - 2*i) * getZ gr ((b:Int) - 2*j) := by
  rw [getZ_sub_nat, getZ_sub_nat, get2_outer]
  by_cases h1 : 2*i ≤ a <;> by_cases h2 : 2*j ≤ b <;> simp [h1, h2]

theorem convT2Full_outer_tab (gc gr : List R) (band : Img R) (Kh Kw : Nat) (hb : Rect band Kh Kw) (hKh : 1 ≤ Kh) (hLy : 1 ≤ gc.length)
    (hLx : 1 ≤ gr.length) :
    convT2Full (outer gc gr) band
      = tab2 (2*(Kh-1) + gc.length) (2*(Kw-1) + gr.length) fun a b =>
          ∑ i ∈ range Kh, ∑ j ∈ range Kw, get2 band i j * (getZ gc ((a:Int) - 2*i) * getZ gr ((b:Int) - 2*j)) := by
  unfold convT2Full
  rw [outer_length, outer_width gc gr hLy, hb.1, rect_width band Kh Kw hb hKh]
  apply tab2_congr; intro a _ b _
  rw [sumN_eq]
  apply Finset.sum_congr rfl; intro i _
  rw [sumN_eq]
  apply Finset.sum_congr rfl; intro j _
  rw [kern]

/-! ### one band's 2-D transposed convolution, axis by axis -/

theorem convT2Full_outer_axes (gc gr : List R) (band : Img R) (Kh Kw : Nat) (hb : Rect band Kh Kw) (hKh : 1 ≤ Kh)
    (hLy : 1 ≤ gc.length) (hLx : 1 ≤ gr.length) :
    convT2Full (outer gc gr) band = alongH (fun c => convTFull gc c) (alongW (fun c => convTFull gr c) band) := by
  have gC := GL_convTFull gc Kh
  have gR := GL_convTFull gr Kw
  rw [convT2Full_outer_tab gc gr band Kh Kw hb hKh hLy hLx]
  have rY := GL_alongW_rect gR band Kh hb
  rw [alongH_tab2 _ _ Kh (2*(Kh-1) + gc.length) _ rY hKh (by omega) (fun c hc => GL.length gC c hc)]
  apply tab2_congr; intro a ha b hb'
  have hcol : col (alongW (fun c => convTFull gr c) band) b = tab Kh fun t => getN (convTFull gr (band.getD t [])) b := by
    rw [alongW_tab2 _ band Kh Kw _ hb (fun c hc => GL.length gR c hc), col_tab2 _ _ _ b hb']
  rw [hcol, getN_convTFull _ _ a (by simp; exact ha)]
  simp only [length_tab]
  apply Finset.sum_congr rfl; intro i hi
  have hi' : i < Kh := by simpa using hi
  rw [getN_tab, if_pos hi']
  have hrow : (band.getD i []).length = Kw := row_length band Kh Kw hb i hi'
  rw [getN_convTFull _ _ b (by rw [hrow]; exact hb'), hrow, Finset.sum_mul]
  apply Finset.sum_congr rfl; intro j _
  show get2 band i j * _ = get2 band i j * _ * _
  ring

/-! ### four rank-one transposed convolutions under separable post-operators

`sfb2d_nonsep` sums the transposed convolutions of the four bands with `gc_k ⊗ gr_k` and post-processes the sum: a crop in the
padded modes, fold ∘ crop ∘ roll in periodization.  Whenever the post-processing is a gather-linear operator `Qc` along the
columns followed by one, `Qr`, along the rows, the result is the separable synthesis whose 1-D stage on a pair of bands is
`Q (convT g0 lo) + Q (convT g1 hi)`. -/

/-- one band's share: the post-processed 2-D transposed convolution with `gc ⊗ gr` is the column share `Qc ∘ convT gc`
followed by the row share `Qr ∘ convT gr` -/
theorem share_gen (gc gr : List R) (hLy : 1 ≤ gc.length) (hLx : 1 ≤ gr.length) (Kh Kw Nh : Nat) (hKh : 1 ≤ Kh) (hKw : 1 ≤ Kw)
    (hNh : 1 ≤ Nh) (Qc Qr : List R → List R) (gQc : GL Qc (2*(Kh-1) + gc.length) Nh) (band : Img R) (rb : Rect band Kh Kw) :
    alongW Qr (alongH Qc (convT2Full (outer gc gr) band))
      = alongW (fun c => Qr (convTFull gr c)) (alongH (fun c => Qc (convTFull gc c)) band) := by
  have gTc := GL_convTFull gc Kh
  have gTr := GL_convTFull gr Kw
  rw [convT2Full_outer_axes gc gr band Kh Kw rb hKh hLy hLx,
    alongH_comp _ _ _ _ _ _ _ (GL_alongW_rect gTr band Kh rb) hKh (by omega) (by omega) (fun c hc => GL.length gTc c hc)
      (fun c hc => GL.length gQc c hc),
    alongH_alongW_comm _ _ _ _ _ _ (GL.comp gQc gTc) gTr _ rb hKh hKw hNh (by omega), alongW_comp]

theorem colzip_vadd (S : List R → List R → List R) (A0 A1 : List R → List R) (Kh Nh Kw : Nat) (hKh : 1 ≤ Kh) (hKw : 1 ≤ Kw)
    (g0 : GL A0 Kh Nh) (g1 : GL A1 Kh Nh) (hS : ∀ a b : List R, a.length = Kh → b.length = Kh → S a b = vadd (A0 a) (A1 b))
    (a b : Img R) (ra : Rect a Kh Kw) (rb : Rect b Kh Kw) :
    colzip S Nh Kw a b = iadd (alongH A0 a) (alongH A1 b) := by
  rw [alongH_tab2 _ a Kh Nh Kw ra hKh hKw (fun c hc => GL.length g0 c hc),
    alongH_tab2 _ b Kh Nh Kw rb hKh hKw (fun c hc => GL.length g1 c hc), iadd_tab2]
  unfold colzip
  apply tab2_congr; intro i hi j _
  have hla : (col a j).length = Kh := (col_length a j).trans ra.1
  have hlb : (col b j).length = Kh := (col_length b j).trans rb.1
  rw [hS _ _ hla hlb, getN_vadd _ _ _ (by rw [GL.length g0 _ hla]; exact hi)]

theorem rowzip_vadd (S : List R → List R → List R) (A0 A1 : List R → List R) (H Kw Nw : Nat)
    (g0 : GL A0 Kw Nw) (g1 : GL A1 Kw Nw) (hS : ∀ a b : List R, a.length = Kw → b.length = Kw → S a b = vadd (A0 a) (A1 b))
    (a b : Img R) (ra : Rect a H Kw) (rb : Rect b H Kw) :
    rowzip S H Nw a b = iadd (alongW A0 a) (alongW A1 b) := by
  rw [alongW_tab2 _ a H Kw Nw ra (fun c hc => GL.length g0 c hc),
    alongW_tab2 _ b H Kw Nw rb (fun c hc => GL.length g1 c hc), iadd_tab2]
  unfold rowzip
  apply tab2_congr; intro i hi j hj
  have hla : (a.getD i []).length = Kw := row_length a H Kw ra i hi
  have hlb : (b.getD i []).length = Kw := row_length b H Kw rb i hi
  rw [hS _ _ hla hlb, getN_vadd _ _ _ (by rw [GL.length g0 _ hla]; exact hj)]

theorem iadd_assoc4 (a b c d : Img R) (H W : Nat) (ra : Rect a H W) (rb : Rect b H W) (rc : Rect c H W) (rd : Rect d H W) :
    iadd (iadd (iadd a b) c) d = iadd (iadd a b) (iadd c d) := by
  have rab := iadd_rect H W a b ra rb
  have rcd := iadd_rect H W c d rc rd
  rw [iadd_eq_tab2 _ d H W (iadd_rect H W _ c rab rc) rd, iadd_eq_tab2 _ _ H W rab rcd]
  apply tab2_congr; intro i hi j hj
  rw [iadd_eq_tab2 _ c H W rab rc, iadd_eq_tab2 c d H W rc rd, get2_tab2 _ _ _ _ _ hi hj, get2_tab2 _ _ _ _ _ hi hj]
  ring

section gen
variable (gr0 gr1 gc0 gc1 : List R) (hLr : 1 ≤ gr0.length) (hgr : gr1.length = gr0.length)
    (hLc : 1 ≤ gc0.length) (hgc : gc1.length = gc0.length) (Kh Kw : Nat) (hKh : 1 ≤ Kh)
    (ll lh hl hh : Img R) (r1 : Rect ll Kh Kw) (r2 : Rect lh Kh Kw) (r3 : Rect hl Kh Kw) (r4 : Rect hh Kh Kw)

include hLr hgr hLc hgc hKh r1 r2 r3 r4 in
theorem contrib_rects :
    Rect (convT2Full (outer gc0 gr0) ll) (2*(Kh-1)+gc0.length) (2*(Kw-1)+gr0.length) ∧
    Rect (convT2Full (outer gc1 gr0) lh) (2*(Kh-1)+gc0.length) (2*(Kw-1)+gr0.length) ∧
    Rect (convT2Full (outer gc0 gr1) hl) (2*(Kh-1)+gc0.length) (2*(Kw-1)+gr0.length) ∧
    Rect (convT2Full (outer gc1 gr1) hh) (2*(Kh-1)+gc0.length) (2*(Kw-1)+gr0.length) := by
  have rC : ∀ (gc gr : List R) (band : Img R), gc.length = gc0.length → gr.length = gr0.length → Rect band Kh Kw →
      Rect (convT2Full (outer gc gr) band) (2*(Kh-1)+gc0.length) (2*(Kw-1)+gr0.length) := by
    intro gc gr band h1 h2 rb
    rw [convT2Full_outer_tab gc gr band Kh Kw rb hKh (by omega) (by omega), h1, h2]
    exact tab2_rect _ _ _
  exact ⟨rC gc0 gr0 ll rfl rfl r1, rC gc1 gr0 lh hgc rfl r2, rC gc0 gr1 hl rfl hgr r3, rC gc1 gr1 hh hgc hgr r4⟩

include hLr hgr hLc hgc hKh r1 r2 r3 r4 in
theorem sum4_rect :
    Rect (iadd (iadd (iadd (iadd (izero (2*(Kh-1)+gc0.length) (2*(Kw-1)+gr0.length)) (convT2Full (outer gc0 gr0) ll))
      (convT2Full (outer gc1 gr0) lh)) (convT2Full (outer gc0 gr1) hl)) (convT2Full (outer gc1 gr1) hh))
      (2*(Kh-1)+gc0.length) (2*(Kw-1)+gr0.length) := by
  obtain ⟨c0, c1, c2, c3⟩ := contrib_rects gr0 gr1 gc0 gc1 hLr hgr hLc hgc Kh Kw hKh ll lh hl hh r1 r2 r3 r4
  exact iadd_rect _ _ _ _ (iadd_rect _ _ _ _ (iadd_rect _ _ _ _ (iadd_rect _ _ _ _ (tab2_rect _ _ _) c0) c1) c2) c3

include hLr hgr hLc hgc hKh r1 r2 r3 r4 in
/-- the post-processed sum of the four rank-one transposed convolutions is the separable synthesis, columns of the two
band pairs first and then rows, for any gather-linear post-operators `Qc`, `Qr` and any 1-D pair synthesis `Sc`, `Sr` that is
`Q (convT g0 ·) + Q (convT g1 ·)` on bands of the given length -/
theorem nonsep_synth_gen (hKw : 1 ≤ Kw) (Nh Nw : Nat) (hNh : 1 ≤ Nh) (Qc Qr : List R → List R)
    (gQc : GL Qc (2*(Kh-1)+gc0.length) Nh) (gQr : GL Qr (2*(Kw-1)+gr0.length) Nw) (Sc Sr : List R → List R → List R)
    (hSc : ∀ a b : List R, a.length = Kh → b.length = Kh → Sc a b = vadd (Qc (convTFull gc0 a)) (Qc (convTFull gc1 b)))
    (hSr : ∀ a b : List R, a.length = Kw → b.length = Kw → Sr a b = vadd (Qr (convTFull gr0 a)) (Qr (convTFull gr1 b))) :
    alongW Qr (alongH Qc (iadd (iadd (iadd (iadd (izero (2*(Kh-1)+gc0.length) (2*(Kw-1)+gr0.length)) (convT2Full (outer gc0 gr0) ll))
        (convT2Full (outer gc1 gr0) lh)) (convT2Full (outer gc0 gr1) hl)) (convT2Full (outer gc1 gr1) hh)))
      = rowzip Sr Nh Nw (colzip Sc Nh Kw ll lh) (colzip Sc Nh Kw hl hh) := by
  have hMh : 1 ≤ 2*(Kh-1)+gc0.length := Nat.le_add_left_of_le hLc
  have hMw : 1 ≤ 2*(Kw-1)+gr0.length := Nat.le_add_left_of_le hLr
  have hLc1 : 1 ≤ gc1.length := by rw [hgc]; exact hLc
  have hLr1 : 1 ≤ gr1.length := by rw [hgr]; exact hLr
  -- the 1-D shares `Q ∘ convT g`
  have gT : ∀ (g g0 : List R) (n : Nat), g.length = g0.length → GL (fun c : List R => convTFull g c) n (2*(n-1) + g0.length) := by
    intro g g0 n h; rw [← h]; exact GL_convTFull g n
  have gAc0 := GL.comp gQc (gT gc0 gc0 Kh rfl)
  have gAc1 := GL.comp gQc (gT gc1 gc0 Kh hgc)
  have gAr0 := GL.comp gQr (gT gr0 gr0 Kw rfl)
  have gAr1 := GL.comp gQr (gT gr1 gr0 Kw hgr)
  -- the post-processing is additive on images of the full size
  obtain ⟨c0, c1, c2, c3⟩ := contrib_rects gr0 gr1 gc0 gc1 hLr hgr hLc hgc Kh Kw hKh ll lh hl hh r1 r2 r3 r4
  have rs := fun (a b : Img R) ra rb => iadd_rect (2*(Kh-1)+gc0.length) (2*(Kw-1)+gr0.length) a b ra rb
  have padd : ∀ (a b : Img R), Rect a (2*(Kh-1)+gc0.length) (2*(Kw-1)+gr0.length) → Rect b (2*(Kh-1)+gc0.length) (2*(Kw-1)+gr0.length) →
      alongW Qr (alongH Qc (iadd a b)) = iadd (alongW Qr (alongH Qc a)) (alongW Qr (alongH Qc b)) := by
    intro a b ra rb
    rw [alongH_iadd gQc a b _ ra rb hMh hMw]
    exact alongW_iadd gQr _ _ _ (GL_alongH_rect gQc a _ ra hMh hMw) (GL_alongH_rect gQc b _ rb hMh hMw)
  rw [izero_iadd _ _ _ c0, padd _ _ (rs _ _ (rs _ _ c0 c1) c2) c3, padd _ _ (rs _ _ c0 c1) c2, padd _ _ c0 c1]
  have gQc1 : GL Qc (2*(Kh-1)+gc1.length) Nh := by rw [hgc]; exact gQc
  rw [share_gen gc0 gr0 hLc hLr Kh Kw Nh hKh hKw hNh Qc Qr gQc ll r1,
    share_gen gc1 gr0 hLc1 hLr Kh Kw Nh hKh hKw hNh Qc Qr gQc1 lh r2,
    share_gen gc0 gr1 hLc hLr1 Kh Kw Nh hKh hKw hNh Qc Qr gQc hl r3,
    share_gen gc1 gr1 hLc1 hLr1 Kh Kw Nh hKh hKw hNh Qc Qr gQc1 hh r4]
  rw [rowzip_vadd Sr _ _ Nh Kw Nw gAr0 gAr1 hSr _ _ (colzip_rect _ _ _ _ _) (colzip_rect _ _ _ _ _),
    colzip_vadd Sc _ _ Kh Nh Kw hKh hKw gAc0 gAc1 hSc ll lh r1 r2, colzip_vadd Sc _ _ Kh Nh Kw hKh hKw gAc0 gAc1 hSc hl hh r3 r4]
  have q0 := GL_alongH_rect gAc0 ll Kw r1 hKh hKw
  have q1 := GL_alongH_rect gAc1 lh Kw r2 hKh hKw
  have q2 := GL_alongH_rect gAc0 hl Kw r3 hKh hKw
  have q3 := GL_alongH_rect gAc1 hh Kw r4 hKh hKw
  rw [alongW_iadd gAr0 _ _ _ q0 q1, alongW_iadd gAr1 _ _ _ q2 q3]
  exact iadd_assoc4 _ _ _ _ Nh Nw (GL_alongW_rect gAr0 _ _ q0) (GL_alongW_rect gAr0 _ _ q1)
    (GL_alongW_rect gAr1 _ _ q2) (GL_alongW_rect gAr1 _ _ q3)

end gen

end WV.GLA
