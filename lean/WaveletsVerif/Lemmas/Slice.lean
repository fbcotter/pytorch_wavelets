/-
  Python's slices `x[a:]`, `x[:b]`, `x[a:b]` and `roll` at the bounds the modules use (`0`, `1`, `-1`, `-k`), as `take` and `drop`.
  Core tactics only, so that the files that stay free of Mathlib can use it.
-/
import WaveletsVerif.Model.Dwt
namespace WV
variable {α : Type}

theorem pyBound_le (n : Nat) (a : Int) : pyBound n a ≤ n := by
  unfold pyBound
  simp only
  repeat' split
  all_goals omega

theorem pyBound_nat (n a : Nat) (h : a ≤ n) : pyBound n (a : Int) = a := by
  unfold pyBound
  have h1 : ¬ ((a:Int) < 0) := by omega
  have h2 : ¬ ((n:Int) < (a:Int)) := by omega
  simp [h1, h2]

theorem pyBound_neg (n k : Nat) (hk : k ≤ n) (hk0 : 0 < k) : pyBound n (-(k:Int)) = n - k := by
  unfold pyBound
  have h1 : (-(k:Int)) < 0 := by omega
  simp only [h1, if_true]
  have h2 : ¬ (-(k:Int) + n < 0) := by omega
  have h3 : ¬ ((n:Int) < -(k:Int) + n) := by omega
  simp only [h2, h3, if_false]
  omega

theorem pyBound_zero (n : Nat) : pyBound n 0 = 0 := pyBound_nat n 0 (Nat.zero_le _)

theorem pyBound_one (n : Nat) (h : 1 ≤ n) : pyBound n 1 = 1 := pyBound_nat n 1 h

theorem pyBound_neg_one (n : Nat) (h : 1 ≤ n) : pyBound n (-1) = n - 1 := pyBound_neg n 1 h (by omega)

/-- `x[-1:]`, also on the empty list -/
theorem sliceFrom_neg_one (x : List α) : sliceFrom x (-1) = x.drop (x.length - 1) := by
  unfold sliceFrom
  by_cases h : x.length = 0
  · rw [List.length_eq_zero_iff.mp h]; rfl
  · rw [pyBound_neg_one _ (by omega)]

theorem sliceFrom_neg_one_length (x : List α) (h : 0 < x.length) : (sliceFrom x (-1)).length = 1 := by
  rw [sliceFrom_neg_one, List.length_drop]
  omega

theorem sliceFrom_last [OfNat α 0] (x : List α) (h : 0 < x.length) : sliceFrom x (-1) = [getN x (x.length - 1)] := by
  rw [sliceFrom_neg_one]
  apply List.ext_getElem
  · simp; omega
  · intro i h1 h2
    simp at h1
    have : i = 0 := by omega
    subst this
    simp [getN, List.getD_eq_getElem?_getD, List.getElem?_eq_getElem (by omega : x.length - 1 < x.length)]

theorem sliceFrom_neg_one_mem (x : List α) (r : α) (h : r ∈ sliceFrom x (-1)) : r ∈ x := by
  unfold sliceFrom at h
  exact List.mem_of_mem_drop h

/-- `x[:-1]`, also on the empty list -/
theorem sliceTo_neg_one (x : List α) : sliceTo x (-1) = x.take (x.length - 1) := by
  unfold sliceTo
  by_cases h : x.length = 0
  · rw [List.length_eq_zero_iff.mp h]; rfl
  · rw [pyBound_neg_one _ (by omega)]

theorem slice_zero_one (x : List α) (h : 1 ≤ x.length) : slice x 0 1 = x.take 1 := by
  unfold slice
  rw [pyBound_one _ h, pyBound_zero]
  rfl

theorem slice_one_neg_one (x : List α) (h : 2 ≤ x.length) : slice x 1 (-1) = (x.take (x.length - 1)).drop 1 := by
  unfold slice
  rw [pyBound_one _ (by omega), pyBound_neg_one _ (by omega)]

theorem slice_map {β : Type} (l : List α) (f : α → β) (p q : Int) : slice (l.map f) p q = (slice l p q).map f := by
  unfold slice
  rw [List.length_map, List.map_drop, List.map_take]

theorem rollPy_length (x : List α) (n : Int) : (rollPy x n).length = x.length := by
  have := pyBound_le x.length (-(if n < 0 then (x.length : Int) + n else n))
  unfold rollPy sliceFrom sliceTo
  simp only [List.length_append, List.length_drop, List.length_take]
  omega

/-- the split point of `roll(x, -a)`: `a`, and `0` for the full turn `a = N` -/
theorem rollSplit_neg (N a : Nat) (ha : a ≤ N) :
    pyBound N (-(if -(a:Int) < 0 then (N:Int) + -(a:Int) else -(a:Int))) = if a = N then 0 else a := by
  by_cases h : a = 0 ∨ a = N
  · have e : -(if -(a:Int) < 0 then (N:Int) + -(a:Int) else -(a:Int)) = ((0:Nat):Int) := by split <;> omega
    rw [e, pyBound_nat _ _ (Nat.zero_le _)]
    split <;> omega
  · have e : -(if -(a:Int) < 0 then (N:Int) + -(a:Int) else -(a:Int)) = -((N - a : Nat):Int) := by split <;> omega
    rw [e, pyBound_neg _ _ (by omega) (by omega), if_neg (by omega)]
    omega

/-- `roll(x, -a)` for `0 ≤ a ≤ N` is `x[a:] ++ x[:a]` -/
theorem rollPy_neg (x : List α) (a : Nat) (ha : a ≤ x.length) :
    rollPy x (-(a:Int)) = x.drop a ++ x.take a := by
  unfold rollPy sliceFrom sliceTo
  simp only [rollSplit_neg x.length a ha]
  split
  · next h => rw [h, List.drop_length, List.take_length]; simp
  · rfl

theorem getD_drop_append_take (x : List α) (D m : Nat) (d : α) (hD : D ≤ x.length) (hm : m < x.length) :
    (x.drop D ++ x.take D).getD m d = x.getD (if m < x.length - D then m + D else m - (x.length - D)) d := by
  rw [List.getD_eq_getElem?_getD, List.getD_eq_getElem?_getD]
  split
  · next h => rw [List.getElem?_append_left (by rw [List.length_drop]; exact h), List.getElem?_drop, Nat.add_comm]
  · next h =>
    rw [List.getElem?_append_right (by rw [List.length_drop]; omega), List.length_drop, List.getElem?_take,
      if_pos (by omega)]

theorem length_roll (x : List α) (a : Nat) : (x.drop a ++ x.take a).length = x.length := by
  rw [List.length_append, List.length_drop, List.length_take]
  omega

end WV
