/-
  Correlation with the reversed filter (`prep_filt_afb1d` stores the analysis filters reversed, and `afb1d` correlates
  with them), read as a sum over the un-reversed filter; the negated guard of the model `afb1dOne`, and the buffer of `afb1d`
  in mode `zero`.  Used by C01 (the analysis is PyWavelets' `dwt`) and C05.
-/
import WaveletsVerif.Lemmas.Basic
namespace WV
open Finset
variable {R : Type} [CommRing R]

/-- correlating with the reversed filter reads the window backwards -/
theorem corr_reverse (h y : List R) (s d : Nat) :
    corr h.reverse y s d = tab (corrLen y.length h.length s d) fun k =>
      sumN h.length fun j => getN h j * getZ y ((s*k + d*(h.length - 1 - j) : Nat) : Int) := by
  unfold corr
  rw [List.length_reverse]
  apply tab_ext rfl
  intro k _
  rw [sumN_eq, sumN_eq, ← Finset.sum_range_reflect]
  apply Finset.sum_congr rfl
  intro j hj
  rw [getN_reverse h j (Finset.mem_range.mp hj), getN_eq_getZ y]

/-- stride-2 correlation of the reversed filter with a buffer of `2(D-1)+L` samples that holds an extension `E`
of the signal from position `-(L-2)` on: the `D` coefficients `Σ_j h[j]·E(2k+1−j)` -/
theorem corr_reverse_ext (h y : List R) (D : Nat) (E : Int → R) (hL : 2 ≤ h.length) (hD : 1 ≤ D)
    (hlen : y.length = 2*(D-1) + h.length)
    (hy : ∀ i : Nat, i < y.length → getZ y i = E ((i:Int) - ((h.length - 2 : Nat) : Int))) :
    corr h.reverse y 2 1 = tab D fun k => sumN h.length fun j => getN h j * E (2*(k:Int) + 1 - j) := by
  rw [corr_reverse, hlen]
  apply tab_ext (corrLen_two D h.length hD (by omega))
  intro k hk
  rw [corrLen_two D h.length hD (by omega)] at hk
  apply sumN_congr
  intro j hj
  rw [hy _ (by omega),
    show ((2*k + 1*(h.length - 1 - j) : Nat) : Int) - ((h.length - 2 : Nat) : Int) = 2*(k:Int) + 1 - j by omega]

theorem afb_guard {L N : Nat} (hL : 2 ≤ L) (hN : 1 ≤ N) : ¬ (L < 2 ∨ N < 1) :=
  not_or.mpr ⟨Nat.not_lt.mpr hL, Nat.not_lt.mpr hN⟩

/-! the buffer of `afb1d` in mode `zero` for a pad total `p`: one zero behind the signal when `p` is odd, then `p/2` zeros
on either side -/

theorem length_zeroPad_split (x : List R) (p : Nat) :
    (zeroPad (if p % 2 = 1 then zeroPad x 0 1 else x) (p/2) (p/2)).length = x.length + p := by
  split
  · rw [length_zeroPad, length_zeroPad]; omega
  · rw [length_zeroPad]; omega

theorem getZ_zeroPad_split (x : List R) (p : Nat) (i : Int) :
    getZ (zeroPad (if p % 2 = 1 then zeroPad x 0 1 else x) (p/2) (p/2)) i = getZ x (i - ((p/2 : Nat) : Int)) := by
  rw [getZ_zeroPad]
  split
  · rw [getZ_zeroPad, Nat.cast_zero, sub_zero]
  · rfl

end WV
