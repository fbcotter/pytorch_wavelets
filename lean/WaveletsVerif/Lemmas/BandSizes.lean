/-
  Arithmetic of band lengths: `dwtCoeffLen N L` in the padding modes, the `2K + 2 − L` samples that the synthesis of the
  padding modes (`sfb1d`, transposed convolution cropped by `L − 2` at each end) returns from bands of length `K`,
  `(N + N % 2) / 2` in periodization; the pad total of `afb1d`, output lengths of `corr`, positions in the interleaved
  stack of a grouped convolution, the crop of the running low-pass in the inverse transforms, the sizes after the
  DTCWT's extensions to even / multiples of 4, and the integer casts of the size arithmetic read from the source
  (`nat_half` …).  Stated about variables so
  that `omega` meets the divisions and truncated subtractions once, in a small context.  No Mathlib.
-/
import WaveletsVerif.Model.Dwt
namespace WV

theorem bandLen_pos (N L : Nat) (hL : 2 ≤ L) (hN : 1 ≤ N) : 1 ≤ dwtCoeffLen N L := by
  unfold dwtCoeffLen
  omega

/-- bands of length `dwtCoeffLen N L` admit the filter -/
theorem bandLen_fit (N L : Nat) (hL : 2 ≤ L) (hN : 1 ≤ N) : L ≤ 2 * dwtCoeffLen N L + 1 := by
  unfold dwtCoeffLen
  omega

/-- and the synthesis from them returns at least `N` samples -/
theorem bandLen_le_synth (N L : Nat) (hL : 2 ≤ L) (hN : 1 ≤ N) : N ≤ 2 * (dwtCoeffLen N L - 1) + L - 2 * (L - 2) := by
  unfold dwtCoeffLen
  omega

theorem dwtCoeffLen_fits (N L : Nat) (hL : 2 ≤ L) (hN : 1 ≤ N) : 2 * (L - 2) + 1 ≤ 2 * (dwtCoeffLen N L - 1) + L :=
  Nat.lt_of_sub_pos (Nat.lt_of_lt_of_le hN (bandLen_le_synth N L hL hN))

/-! the synthesis of the padding modes from bands of length `K` returns `2(K−1) + L − 2(L−2) = 2K + 2 − L ≥ 1` samples, whose analysis has
bands of length `K` again -/

theorem synthLen_eq (K L : Nat) (hL : 2 ≤ L) (hK : 1 ≤ K) (hf : L ≤ 2 * K + 1) : 2 * (K - 1) + L - 2 * (L - 2) = 2 * K + 2 - L := by
  omega

theorem synthLen_pos (K L : Nat) (hL : 2 ≤ L) (hK : 1 ≤ K) (hf : L ≤ 2 * K + 1) : 1 ≤ 2 * (K - 1) + L - 2 * (L - 2) := by
  rw [synthLen_eq K L hL hK hf]
  omega

theorem bandLen_synthLen (K L : Nat) (hL : 2 ≤ L) (hK : 1 ≤ K) (hf : L ≤ 2 * K + 1) :
    dwtCoeffLen (2 * (K - 1) + L - 2 * (L - 2)) L = K := by
  rw [synthLen_eq K L hL hK hf]
  unfold dwtCoeffLen
  omega

theorem lt_idwt_length (N L t : Nat) (hL : 2 ≤ L) (ht : t < N) : t < 2 * dwtCoeffLen N L + 2 - L := by
  have hN : 1 ≤ N := Nat.lt_of_le_of_lt (Nat.zero_le t) ht
  rw [← synthLen_eq _ L hL (bandLen_pos N L hL hN) (bandLen_fit N L hL hN)]
  exact Nat.lt_of_lt_of_le ht (bandLen_le_synth N L hL hN)

/-- the pad total `p = 2(D−1) + L − N` of `afb1d`, `D = dwt_coeff_len(N, L)`: `L−2` samples go in front, and exactly `D`
outputs fit the padded length -/
theorem afb_pad_spec (N L : Nat) (hL : 2 ≤ L) (hN : 1 ≤ N) :
    1 ≤ dwtCoeffLen N L ∧ (2 * (dwtCoeffLen N L - 1) + L - N) / 2 = L - 2 ∧
      N + (2 * (dwtCoeffLen N L - 1) + L - N) = 2 * (dwtCoeffLen N L - 1) + L := by
  have hle : N ≤ 2 * (dwtCoeffLen N L - 1) + L := Nat.le_trans (bandLen_le_synth N L hL hN) (Nat.sub_le _ _)
  refine ⟨bandLen_pos N L hL hN, ?_, Nat.add_sub_cancel' hle⟩
  unfold dwtCoeffLen
  omega

theorem corrLen_two (D L : Nat) (hD : 1 ≤ D) (hL : 1 ≤ L) : corrLen (2*(D-1) + L) L 2 1 = D := by
  unfold corrLen
  rw [if_neg (by omega)]
  omega

/-- the padded length `(L·d/2 − d) + n + L·d/2` leaves room for the dilated filter of even length `L` -/
theorem corrLen_atrous_pos (L n d : Nat) (hL : L % 2 = 0) (hn : 1 ≤ n) (hd : d ≤ L * d / 2) :
    1 ≤ corrLen (L * d / 2 - d + n + L * d / 2) L 1 d := by
  obtain ⟨k, rfl⟩ : ∃ k, L = 2 * k := ⟨L / 2, by omega⟩
  have e1 : 2 * k * d = 2 * (k * d) := Nat.mul_assoc 2 k d
  have e2 : d * (2 * k - 1) = 2 * (k * d) - d := by rw [Nat.mul_sub, Nat.mul_one, Nat.mul_comm d (2 * k), e1]
  unfold corrLen
  rw [e2]
  rw [e1] at hd ⊢
  generalize k * d = q at *
  split <;> omega

/-! periodization extends an odd length by one sample: the bands have length `(N + N % 2) / 2`, the synthesis returns twice that -/

theorem halfUp_pos (N : Nat) (h : 1 ≤ N) : 1 ≤ (N + N % 2) / 2 := by omega

theorem two_mul_halfUp (N : Nat) : 2 * ((N + N % 2) / 2) = N ∨ 2 * ((N + N % 2) / 2) = N + 1 := by omega

theorem two_mul_halfUp_eq (N : Nat) : 2 * ((N + N % 2) / 2) = N + N % 2 := by omega

theorem half_even (N : Nat) (h : N % 2 = 0) : (N + N % 2) / 2 = N / 2 := by rw [h, Nat.add_zero]

theorem two_mul_half (N : Nat) (h : N % 2 = 0) : 2 * (N / 2) = N := Nat.mul_div_cancel' (Nat.dvd_of_mod_eq_zero h)

theorem one_le_two_mul {a : Nat} (h : 1 ≤ a) : 1 ≤ 2 * a := by omega

theorem half_up_pos {a : Nat} (h : 1 ≤ a) : 1 ≤ (a + 1) / 2 := by omega

theorem ext2_size (H : Nat) : H + H % 2 = 2 * ((H + 1) / 2) := by omega

theorem ext4_size (a : Nat) : 2 * a + (if (2 * a) % 4 ≠ 0 then 2 else 0) = 4 * ((a + 1) / 2) := by
  split <;> omega

/-- periodization synthesis from bands of length `K` that admit the filter: `2K` samples, whose bands have length `K` again -/
theorem halfUp_double (K L : Nat) (hL : 2 ≤ L) (hf : L ≤ 2 * K) : 1 ≤ K ∧ (2 * K) % 2 = 0 ∧ (2 * K + (2 * K) % 2) / 2 = K := by
  omega

/-- periodization at an even length `N` not shorter than the filter: the bands of length `N / 2` admit the filter -/
theorem halfUp_even (N L : Nat) (hL : 2 ≤ L) (he : N % 2 = 0) (hl : L ≤ N) :
    1 ≤ N / 2 ∧ L ≤ 2 * (N / 2) ∧ 1 ≤ N ∧ L ≤ N + N % 2 := by
  omega

theorem two_two_div_four (n : Nat) : 2 * (2 * n) / 4 = n := by omega

theorem two_mul_of_even {a : Nat} (h : a % 2 = 0) : 2 * a = 4 * (a / 2) := by omega
theorem two_mul_mod_four {a : Nat} (h : a % 2 = 0) : (2 * a) % 4 = 0 := by omega
theorem div_two_pow_succ (a n : Nat) : a / 2 ^ (n + 1) = a / 2 / 2 ^ n := by rw [Nat.pow_succ, Nat.mul_comm, Nat.div_div_eq_div_mul]

theorem two_mul_lt {i n : Nat} (h : i < n) : 2 * i < 2 * n := by omega
theorem two_mul_succ_lt {i n : Nat} (h : i < n) : 2 * i + 1 < 2 * n := by omega
theorem two_mul_succ_half (i : Nat) : (2 * i + 1) / 2 = i := by omega

/-- the low-pass of channel `c` sits at position `2c` of the interleaved stack, its high-pass at `2c + 1` -/
theorem interleave_index (c n : Nat) (hc : c < n) :
    (2 * c < 2 * n ∧ (2 * c) % 2 = 0 ∧ (2 * c) / 2 = c) ∧ (2 * c + 1 < 2 * n ∧ (2 * c + 1) % 2 = 1 ∧ (2 * c + 1) / 2 = c) := by
  omega

/-! a running low-pass of length `Z` meets bands of length `K` with `Z = K` or `Z = K + 1`; it is cropped exactly when `K < Z` -/

theorem crop_succ (K Z : Nat) (h : K < Z) (hZ : Z = K ∨ Z = K + 1) : Z = K + 1 := by omega

theorem crop_eq (K Z : Nat) (h : ¬ K < Z) (hZ : Z = K ∨ Z = K + 1) : Z = K := by omega

theorem crop_le (K Z : Nat) (hZ : Z = K ∨ Z = K + 1) : K ≤ Z := by omega

theorem crop_min (K Z : Nat) (h : K < Z) (hZ : Z = K ∨ Z = K + 1) : min (Z - 1) Z = K := by omega

theorem lt_crop (j K Z : Nat) (hj : j < K) (h : K < Z) : j < Z - 1 := by omega

/-! integer expressions of natural sizes -/

theorem nat_half (n : Nat) : ((n : Int) / 2).toNat = n / 2 := by omega
theorem nat_half_succ (n : Nat) : (((n : Int) + 1) / 2).toNat = (n + 1) / 2 := nat_half (n + 1)
theorem nat_pred (n : Nat) : ((n : Int) - 1).toNat = n - 1 := by omega
theorem nat_pred2 (n : Nat) : ((n : Int) - 2).toNat = n - 2 := by omega
theorem nat_dbl (n : Nat) : ((2 : Int) * (n : Int)).toNat = 2 * n := by omega
theorem neg_half (n : Nat) : (-((n : Int) / 2)) = -(((n / 2 : Nat)) : Int) := by omega
theorem one_sub_half (n : Nat) : ((1 : Int) - (n : Int) / 2) = 1 - (((n / 2 : Nat)) : Int) := by omega
theorem odd_cast (n : Nat) : ((n : Int) % 2 = 1) ↔ n % 2 = 1 := by omega

end WV
